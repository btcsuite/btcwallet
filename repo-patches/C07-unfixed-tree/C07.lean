/-
C07 — authored transactions conserve value and pay at least the requested fee rate; no dust / zero change;
"insufficient funds" only when the offered coins cannot cover outputs + required fee.

VARIANT FOR THE TREE BEFORE fix-C07-F4 / fix-C07-F5 (kept as repo-patches/C07-unfixed-tree/C07.lean).

Layout
  1. translation facts: the arithmetic GENERATED from the current working tree (`SizesGen`, via `Author.genCfg`) equals
     the closed forms of `AuthorSpec`.  A change of a constant or of a formula in size.go / rules.go breaks these.
  2. the property theorems for `Author.newUnsigned` (the model of txauthor.NewUnsignedTransaction over that arithmetic).
-/
import BtcwVerif.Lemmas.Author

namespace C07
open SizesExt Author AuthorSpec
local notation "varint" => wire_VarIntSerializeSize

/-! ## 1. translation facts -/

theorem foldl_sizes (l : List TxOut) : ∀ a : Int,
    List.foldl (fun (acc : Int) (o : TxOut) => acc + TxOut.SerializeSize o) a l = a + sumOutSizes l := by
  induction l with
  | nil => intro a; simp [sumOutSizes]
  | cons x xs ih => intro a; simp only [List.foldl_cons, ih, sumOutSizes]; omega

theorem foldl_vals (l : List TxOut) : ∀ a : Int,
    List.foldl (fun (acc : Int) (o : TxOut) => acc + o.Value) a l = a + sumOuts l := by
  induction l with
  | nil => intro a; simp [sumOuts]
  | cons x xs ih => intro a; simp only [List.foldl_cons, ih, sumOuts]; omega

theorem gen_sumSizes (outs : List TxOut) : SizesGen.SumOutputSerializeSizes outs = sumOutSizes outs := by
  unfold SizesGen.SumOutputSerializeSizes
  simp only [foldl_sizes]; omega

/-- generated `SumOutputValues` = sum of the output values -/
theorem C07_gen_sum : SumOK genCfg := by
  constructor
  intro outs
  simp only [genCfg, SizesGen.SumOutputValues, foldl_vals]; omega

/-- generated `FeeForSerializeSize` = closed form (non-negative arguments) -/
theorem C07_gen_fee : FeeOK genCfg := by
  constructor
  intro rate size hr hs
  have h0 : 0 ≤ rate * size := Int.mul_nonneg hr hs
  simp only [genCfg, SizesGen.FeeForSerializeSize, AuthorSpec.feeFor, maxSatoshi]
  rw [Int.tdiv_eq_ediv_of_nonneg h0]
  rfl

/-- generated `IsDustOutput(·, DefaultRelayFeePerKb)` = closed form, and the relay floor is 1000 -/
theorem C07_gen_dust : DustOK genCfg := by
  constructor
  intro o
  simp only [genCfg, SizesGen.IsDustOutput, SizesGen.DefaultRelayFeePerKb, AuthorSpec.isDust, txscript_GetScriptClass,
    txscript_NullDataTy]
  by_cases h : o.PkScript.isNullData = true <;> simp [h]

/-- generated `EstimateVirtualSize` = closed form with the output-count var-int taken from `len(txOuts)` (PRE-FIX) -/
theorem C07_gen_est_prefix : EstOK genCfg false := by
  constructor
  intro p t w n outs cs hp ht hw hn
  have hv := varint_bounds (w + n + t)
  simp only [genCfg, SizesGen.EstimateVirtualSize, AuthorSpec.est, gen_sumSizes,
    SizesGen.RedeemP2PKHInputSize, SizesGen.RedeemP2WPKHInputSize, SizesGen.RedeemP2TRInputSize,
    SizesGen.RedeemNestedP2WPKHInputSize, SizesGen.RedeemP2WPKHInputWitnessWeight, SizesGen.RedeemP2TRInputWitnessWeight]
  by_cases hc : cs > 0 <;> by_cases hwit : w + n + t > 0 <;> simp [hc, hwit]
  all_goals exact Int.tdiv_eq_ediv_of_nonneg (by omega)

/-- the first estimate of NewUnsignedTransaction assumes one P2WPKH input (PRE-FIX) -/
theorem C07_gen_init_prefix : genCfg.init = (0, 0, 1, 0) := rfl

/-- wallet.makeInputSource still has the source text that `Author.prefixSource` / `Author.fill` were written from -/
theorem C07_makeInputSource_shape : SizesGen.makeInputSource_src =
    "func makeInputSource(eligible []Coin) txauthor.InputSource { currentTotal := btcutil.Amount(0) currentInputs := make([]*wire.TxIn, 0, len(eligible)) currentScripts := make([][]byte, 0, len(eligible)) currentInputValues := make([]btcutil.Amount, 0, len(eligible)) return func(target btcutil.Amount) (btcutil.Amount, []*wire.TxIn, []btcutil.Amount, [][]byte, error) { for currentTotal < target && len(eligible) != 0 { nextCredit := eligible[0] prevOut := nextCredit.TxOut outpoint := nextCredit.OutPoint eligible = eligible[1:] nextInput := wire.NewTxIn(&outpoint, nil, nil) currentTotal += btcutil.Amount(prevOut.Value) currentInputs = append(currentInputs, nextInput) currentScripts = append( currentScripts, prevOut.PkScript, ) currentInputValues = append( currentInputValues, btcutil.Amount(prevOut.Value), ) } return currentTotal, currentInputs, currentInputValues, currentScripts, nil } }" := rfl

/-! ## 2. property theorems -/

section
variable {σ : Type} {src : Source σ} {Inv : σ → Prop} {s0 : σ} {outs : List TxOut} {rate : Int}
  {cs : ChangeSource} {fuel : Nat} {r : Result}

theorem newUnsigned_facts (hsrc : SrcSound src Inv) (h0 : Inv s0) (h : newUnsigned src s0 outs rate cs fuel = .ok r) :
    Facts genCfg outs rate cs r :=
  loop_ok C07_gen_sum hsrc outs rate cs r fuel s0 _ [] h0 h

/-- the requested outputs are kept, in place and unchanged; the only possible addition is one change output at the end -/
theorem C07_outputs_kept (hsrc : SrcSound src Inv) (h0 : Inv s0)
    (h : newUnsigned src s0 outs rate cs fuel = .ok r) :
    r.outs.take outs.length = outs ∧ (r.changeIdx = none → r.outs = outs) ∧
    (∀ i, r.changeIdx = some i → i = outs.length ∧ ∃ c, r.outs = outs ++ [c] ∧ cs.script = some c.PkScript) := by
  obtain ⟨coins, script, hs, _, rfl⟩ := newUnsigned_facts hsrc h0 h
  unfold settle
  split <;> dsimp only
  · exact ⟨by simp, (nomatch ·), fun i hi => ⟨(Option.some.inj hi).symm, _, rfl, hs⟩⟩
  · exact ⟨by simp, fun _ => rfl, fun i hi => nomatch hi⟩

/-- inputs total exactly outputs plus fee; the reported TotalInput is that total; the fee is not negative and is
    exactly the required fee whenever a change output was added -/
theorem C07_conservation (hsrc : SrcSound src Inv) (h0 : Inv s0) (hr : 0 ≤ rate)
    (h : newUnsigned src s0 outs rate cs fuel = .ok r) :
    r.total = sumCoins r.inputs ∧ sumCoins r.inputs = sumOuts r.outs + r.fee ∧ 0 ≤ r.fee ∧
    (r.changeIdx ≠ none → r.fee = maxReq genCfg rate outs cs r.inputs) := by
  have hf := newUnsigned_facts hsrc h0 h
  have h10 := ten_le_est false outs cs.scriptSize (count_nonneg .p2pkh r.inputs) (count_nonneg .p2tr r.inputs)
    (count_nonneg .p2wpkh r.inputs) (count_nonneg .nested r.inputs)
  have hreq : 0 ≤ maxReq genCfg rate outs cs r.inputs :=
    maxReq_eq (cs := cs) C07_gen_est_prefix C07_gen_fee hr r.inputs ▸ feeFor_nonneg hr (by omega)
  have := hf.fee
  refine ⟨hf.total_eq, by simp only [Result.fee]; omega, by omega, this.1⟩

/-- PARTIAL (tree before fix-C07-F4): fee ≥ rate × real signed virtual size for every admissible signature length,
    EXCEPT when a change output is added to exactly 252 (or 65535, …) requested outputs — there the statement is
    false, see `C07_fee_lower_counterexample`. -/
theorem C07_fee_lower_partial (hsrc : SrcSound src Inv) (h0 : Inv s0) (hr : 1000 ≤ rate)
    (hcs0 : 0 < cs.scriptSize) (hcsl : ∀ sc, cs.script = some sc → (sc.len : Int) ≤ cs.scriptSize)
    (h : newUnsigned src s0 outs rate cs fuel = .ok r)
    (hexcl : r.changeIdx = none ∨ varint (outs.length : Int) = varint ((outs.length : Int) + 1))
    (sigs : List Int) (hlen : sigs.length = r.inputs.length) (hadm : Admissible (signedInputs r sigs)) :
    SizesGen.FeeForSerializeSize rate (realVSize (signedInputs r sigs) r.outs) ≤ r.fee :=
  fee_lower_of_cfg C07_gen_est_prefix C07_gen_fee (newUnsigned_facts hsrc h0 h) hr hcs0 hcsl sigs hlen hadm (Or.inr hexcl)

/-- fee ≤ rate applied to the worst-case estimate + one dust threshold of the change script -/
theorem C07_fee_upper (hsrc : SrcSound src Inv) (h0 : Inv s0)
    (hsp : ∀ sc, cs.script = some sc → sc.isNullData = true ∨ sc.isUnspendable = false)
    (h : newUnsigned src s0 outs rate cs fuel = .ok r) :
    ∃ sc, cs.script = some sc ∧
      r.fee ≤ SizesGen.FeeForSerializeSize rate (SizesGen.EstimateVirtualSize (count .p2pkh r.inputs)
        (count .p2tr r.inputs) (count .p2wpkh r.inputs) (count .nested r.inputs) outs cs.scriptSize) + dustThreshold sc ∧
      mempool_GetDustThreshold ⟨0, sc⟩ = dustThreshold sc :=
  let ⟨sc, hs, hle, _⟩ := fee_upper_of_cfg C07_gen_dust (newUnsigned_facts hsrc h0 h) hsp
  ⟨sc, hs, hle, dustThreshold_eq _⟩

/-- a change output is never zero, negative or dust -/
theorem C07_no_dust_change (hsrc : SrcSound src Inv) (h0 : Inv s0)
    (h : newUnsigned src s0 outs rate cs fuel = .ok r) (i : Nat) (hi : r.changeIdx = some i) :
    ∃ c, r.outs[i]? = some c ∧ 0 < c.Value ∧ SizesGen.IsDustOutput c SizesGen.DefaultRelayFeePerKb = false ∧
      (c.PkScript.isNullData = false → c.PkScript.isUnspendable = false → mempool_GetDustThreshold c ≤ c.Value) := by
  obtain ⟨c, hil, ho, _, hpos, hd, hthr⟩ := no_dust_of_cfg C07_gen_dust (newUnsigned_facts hsrc h0 h) i hi
  refine ⟨c, by rw [ho, hil]; simp, hpos, ?_, ?_⟩
  · have := C07_gen_dust.dust_eq c
    simp only [genCfg] at this
    rw [this, hd]
  · intro hn hu
    rw [dustThreshold_eq]
    exact hthr hn hu

end

/-- both wallet input sources report their totals truthfully -/
theorem C07_sources_sound (coins : List Coin) :
    SrcSound prefixSource (PInv coins) ∧ PInv coins (prefixInit coins) ∧ SrcSound constSource (fun _ => True) :=
  ⟨prefixSource_sound coins, pinv_init coins, constSource_sound⟩

/-- with the wallet's source the loop ends within `#coins + 2` iterations (the model's fuel is never exhausted) -/
theorem C07_terminates (coins : List Coin) (outs : List TxOut) (rate : Int) (cs : ChangeSource) :
    authorPrefix coins outs rate cs ≠ .fuel := by
  unfold authorPrefix newUnsigned newUnsignedWith
  apply loop_terminates
  exact Nat.add_le_add_left (by split <;> decide) _

/-- PARTIAL (tree before fix-C07-F5): "insufficient funds" ⇒ all offered coins together cannot cover outputs +
    required fee — EXCEPT when exactly one P2TR coin is offered, see `C07_insufficient_counterexample`. -/
theorem C07_insufficient_partial (coins : List Coin) (outs : List TxOut) (rate : Int) (cs : ChangeSource)
    (hr : 1000 ≤ rate) (ho : 0 ≤ sumOuts outs)
    (hexcl : ¬ (coins.length = 1 ∧ count .p2tr coins = 1))
    (h : authorPrefix coins outs rate cs = .err .insufficient) :
    sumCoins coins < sumOuts outs + SizesGen.FeeForSerializeSize rate (SizesGen.EstimateVirtualSize
      (count .p2pkh coins) (count .p2tr coins) (count .p2wpkh coins) (count .nested coins) outs cs.scriptSize) := by
  show _ < _ + maxReq genCfg rate outs cs coins
  rw [maxReq_eq C07_gen_est_prefix C07_gen_fee (Int.le_trans (by decide) hr)]
  by_cases hne : coins = []
  · subst hne
    have := feeAll_pos false hr outs cs []
    simp only [sumCoins]; omega
  · exact insufficient_of_first_le C07_gen_est_prefix C07_gen_fee C07_gen_sum hr outs cs coins _
      (first_le_feeAll_p2wpkh C07_gen_est_prefix C07_gen_fee hr outs cs coins hne C07_gen_init_prefix hexcl) h

/-! ## counter-examples on the unfixed tree (F4, F5) -/

def p2pkhScript : Script := { len := 25 }
def p2wpkhScript : Script := { len := 22, isP2WPKH := true, isWitness := true }
def p2trScript : Script := { len := 34, isP2TR := true, isWitness := true }

/-- F4 witness: 252 requested outputs of 1000 sat, one P2WPKH coin of 400000 sat, P2WPKH change, 1000 sat/kvB -/
def f4outs : List TxOut := List.replicate 252 ⟨1000, p2pkhScript⟩
def f4coins : List Coin := [⟨400000, p2wpkhScript⟩]
def f4cs : ChangeSource := ⟨22, some p2wpkhScript⟩
def f4result : Result := ⟨f4coins, 400000, f4outs ++ [⟨139322, p2wpkhScript⟩], some 252⟩

set_option maxRecDepth 100000 in
theorem f4_run : authorPrefix f4coins f4outs 1000 f4cs = .ok f4result := by decide

set_option maxRecDepth 100000 in
/-- F4: the authored transaction (fee 8678 sat) signed with a 71-byte DER signature has 8680 vB; at 1000 sat/kvB
    that needs 8680 sat.  The estimate sized the output-count var-int for 252 outputs, the transaction has 253. -/
theorem C07_fee_lower_counterexample :
    authorPrefix f4coins f4outs 1000 f4cs = .ok f4result ∧ Admissible (signedInputs f4result [71]) ∧
    ¬ (SizesGen.FeeForSerializeSize 1000 (realVSize (signedInputs f4result [71]) f4result.outs) ≤ f4result.fee) := by
  exact ⟨f4_run, by decide, by decide⟩

/-- F5 witness: one P2TR coin of 50140 sat, one output of 50000 sat, 1000 sat/kvB: the coin covers
    50000 + fee(1 P2TR input) = 50000 + 134, but the first target assumes a P2WPKH input (144). -/
def f5outs : List TxOut := [⟨50000, p2wpkhScript⟩]
def f5coins : List Coin := [⟨50140, p2trScript⟩]

theorem C07_insufficient_counterexample :
    authorPrefix f5coins f5outs 1000 f4cs = .err .insufficient ∧
    ¬ (sumCoins f5coins < sumOuts f5outs + SizesGen.FeeForSerializeSize 1000 (SizesGen.EstimateVirtualSize
      (count .p2pkh f5coins) (count .p2tr f5coins) (count .p2wpkh f5coins) (count .nested f5coins) f5outs 22)) := by
  decide

/-! ## non-vacuity -/

/-- a successful run with change, mixed inputs, and an admissible signature assignment -/
example : authorPrefix [⟨30000, p2pkhScript⟩, ⟨40000, p2trScript⟩, ⟨9, p2wpkhScript⟩] [⟨60000, p2pkhScript⟩] 2500 f4cs =
    .ok ⟨[⟨30000, p2pkhScript⟩, ⟨40000, p2trScript⟩], 70000, [⟨60000, p2pkhScript⟩, ⟨9293, p2wpkhScript⟩], some 1⟩ := by
  decide

example : Admissible [(Kind.p2pkh, 71), (Kind.p2tr, 64)] := by decide

/-- a genuine "insufficient funds" (hypotheses of `C07_insufficient_partial` hold) -/
example : authorPrefix [⟨50100, p2wpkhScript⟩] f5outs 1000 f4cs = .err .insufficient ∧
    ¬ ([(⟨50100, p2wpkhScript⟩ : Coin)].length = 1 ∧ count .p2tr [⟨50100, p2wpkhScript⟩] = 1) := by decide

end C07
