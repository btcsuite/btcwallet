/-
Lemmas about the write-program model `FaultOps` (C10).  `run` is built from step functions by `comp` (`seq`, and the rounds
of `loop`); what holds of the primitive steps, is kept by `comp` and is asked configuration by configuration (`Pointwise`,
for `branch`) holds of every program: `Atomic` (`run_atomic`), and `KeepsMem`, `AlwaysOk`, `ErrKeepsMem` (`run_mem`), the
last of which `comp` keeps only under the memory-after-disk discipline (the first step keeps the memory or the second
cannot fail).  At the end: handling tables in which every row propagates, and `allBy`, the evaluation of
`List.all` in chunks that `Props/C10` uses on the generated tables.  Core Lean only.
-/
import BtcwVerif.Model.FaultOps
namespace FaultOps
variable {σ δ μ : Type}

theorem tick_none : tick none = (false, none) := rfl

abbrev Step (δ μ : Type) := Cfg δ μ → Option Nat → Res δ μ

/-- `s`, and if it succeeds `k` -/
def comp (s k : Step δ μ) : Step δ μ := fun c f =>
  match s c f with
  | (c', f', .ok) => k c' f'
  | r => r

theorem run_seq (tbl : σ → Handling) (a b : Prog σ δ μ) : run tbl (.seq a b) = comp (run tbl a) (run tbl b) := rfl

theorem iter_succ (step : Step δ μ) (n : Nat) : iter step (n + 1) = comp step (iter step n) := rfl

theorem run_branch (tbl : σ → Handling) (cond : δ → μ → Bool) (t e : Prog σ δ μ) (c : Cfg δ μ) :
    run tbl (.branch cond t e) c = if cond c.disk c.mem then run tbl t c else run tbl e c := by
  funext f; unfold run; cases cond c.disk c.mem <;> rfl

theorem comp_cases (s k : Step δ μ) (c : Cfg δ μ) (f : Option Nat) :
    (∃ c' f', s c f = (c', f', .ok) ∧ comp s k c f = k c' f') ∨ ((s c f).2.2 = .err ∧ comp s k c f = s c f) := by
  unfold comp
  rcases s c f with ⟨c', f', _ | _⟩
  · exact .inl ⟨c', f', rfl, rfl⟩
  · exact .inr ⟨rfl, rfl⟩

theorem iter_of_comp {Φ : Step δ μ → Prop} {step : Step δ μ}
    (h0 : Φ fun c f => (c, f, .ok)) (hc : ∀ k, Φ k → Φ (comp step k)) : ∀ n, Φ (iter step n)
  | 0 => h0
  | n + 1 => iter_succ step n ▸ hc _ (iter_of_comp h0 hc n)

/-- a property of step functions that is asked configuration by configuration; a `branch` has it when both arms have -/
def Pointwise (Ψ : Cfg δ μ → (Option Nat → Res δ μ) → Prop) (s : Step δ μ) : Prop := ∀ c, Ψ c (s c)

theorem branch_of {Ψ : Cfg δ μ → (Option Nat → Res δ μ) → Prop} {tbl : σ → Handling}
    {cond : δ → μ → Bool} {t e : Prog σ δ μ} (ht : Pointwise Ψ (run tbl t)) (he : Pointwise Ψ (run tbl e)) :
    Pointwise Ψ (run tbl (.branch cond t e)) := by
  intro c
  rw [run_branch]
  cases cond c.disk c.mem
  · exact he c
  · exact ht c

/-- unarmed, the counter stays unarmed; armed, the step errs or goes exactly as unarmed -/
def Atomic : Step δ μ → Prop :=
  Pointwise fun _ g => (g none).2.1 = none ∧
    ∀ f, (g f).2.2 = .err ∨ ((g f).1 = (g none).1 ∧ (g f).2.2 = (g none).2.2)

/-- where `s` went as without fault, the fault-free run of `s; k` enters `k` in the same configuration -/
theorem atomic_comp {s k : Step δ μ} (hs : Atomic s) (hk : Atomic k) : Atomic (comp s k) := by
  refine fun c => ⟨?_, fun f => ?_⟩
  · rcases comp_cases s k c none with ⟨c', f', h, e⟩ | ⟨_, e⟩ <;> rw [e]
    · cases (congrArg (·.2.1) h).symm.trans (hs c).1
      exact (hk c').1
    · exact (hs c).1
  · rcases comp_cases s k c f with ⟨c', f', h, e⟩ | ⟨he, e⟩ <;> rw [e]
    · rcases (hs c).2 f with he | ⟨h1, h2⟩
      · rw [h] at he; cases he
      · have hn : s c none = (c', none, .ok) := by
          rw [h] at h1 h2
          exact Prod.ext h1.symm (Prod.ext (hs c).1 h2.symm)
        rw [show FaultOps.comp s k c none = k c' none by unfold FaultOps.comp; rw [hn]]
        exact (hk c').2 f'
    · exact .inl he

theorem run_atomic (tbl : σ → Handling) (op : Prog σ δ μ)
    (hs : ∀ s ∈ sitesOf op, tbl s = .propagated) : Atomic (run tbl op) := by
  induction op with
  | fail => exact fun _ => ⟨rfl, fun _ => .inl rfl⟩
  | write s eff =>
    refine fun c => ⟨rfl, fun f => ?_⟩
    unfold run
    rcases tick f with ⟨_ | _, f'⟩
    · exact .inr ⟨rfl, rfl⟩
    · exact .inl (by rw [hs s List.mem_cons_self]; rfl)
  | seq a b iha ihb =>
    rw [run_seq]
    exact atomic_comp (iha fun s h => hs s (List.mem_append_left _ h)) (ihb fun s h => hs s (List.mem_append_right _ h))
  | branch cond t e iht ihe =>
    exact branch_of (iht fun s h => hs s (List.mem_append_left _ h)) (ihe fun s h => hs s (List.mem_append_right _ h))
  | loop n body ih =>
    exact fun c =>
      iter_of_comp (Φ := Atomic) (fun _ => ⟨rfl, fun _ => .inr ⟨rfl, rfl⟩⟩) (fun _ => atomic_comp (ih hs)) _ c
  | _ => exact fun _ => ⟨rfl, fun _ => .inr ⟨rfl, rfl⟩⟩

def KeepsMem : Step δ μ → Prop := Pointwise fun c g => ∀ f, (g f).1.mem = c.mem

def AlwaysOk : Step δ μ → Prop := Pointwise fun _ g => ∀ f, (g f).2.2 = .ok

def ErrKeepsMem : Step δ μ → Prop := Pointwise fun c g => ∀ f, (g f).2.2 = .err → (g f).1.mem = c.mem

theorem keepsMem_comp {s k : Step δ μ} (hs : KeepsMem s) (hk : KeepsMem k) : KeepsMem (comp s k) := by
  intro c f
  rcases comp_cases s k c f with ⟨c', f', h, e⟩ | ⟨_, e⟩ <;> rw [e]
  · exact (hk c' f').trans ((congrArg (·.1.mem) h).symm.trans (hs c f))
  · exact hs c f

theorem alwaysOk_comp {s k : Step δ μ} (hs : AlwaysOk s) (hk : AlwaysOk k) : AlwaysOk (comp s k) := by
  intro c f
  rcases comp_cases s k c f with ⟨c', f', _, e⟩ | ⟨he, _⟩
  · rw [e]; exact hk c' f'
  · rw [hs c f] at he; cases he

theorem errKeepsMem_comp {s k : Step δ μ} (hs : ErrKeepsMem s) (hk : ErrKeepsMem k)
    (hor : KeepsMem s ∨ AlwaysOk k) : ErrKeepsMem (comp s k) := by
  intro c f
  rcases comp_cases s k c f with ⟨c', f', h, e⟩ | ⟨he, e⟩ <;> rw [e]
  · intro he
    rcases hor with hm | hok
    · exact (hk c' f' he).trans ((congrArg (·.1.mem) h).symm.trans (hm c f))
    · rw [hok c' f'] at he; cases he
  · exact hs c f

/-- What each condition on the program text gives of its run: no eager mutation, the memory is kept; no write and no
`fail`, no error; the memory-after-disk discipline, the memory is kept whenever the run errs.  One induction for the three:
at every `seq a b` (and every round of a loop) the discipline asks the first of `a` or the second of `b`, and the induction
hypotheses have them. -/
theorem run_mem (tbl : σ → Handling) (op : Prog σ δ μ) :
    (noEager op = true → KeepsMem (run tbl op)) ∧ (cantErr op = true → AlwaysOk (run tbl op)) ∧
    (noEagerBeforeWrite op = true → ErrKeepsMem (run tbl op)) := by
  induction op with
  | skip | memOnCommit => exact ⟨fun _ _ _ => rfl, fun _ _ _ => rfl, fun _ _ _ he => nomatch he⟩
  | memEager => exact ⟨nofun, fun _ _ _ => rfl, fun _ _ _ he => nomatch he⟩
  | fail => exact ⟨fun _ _ _ => rfl, nofun, fun _ _ _ _ => rfl⟩
  | write s eff =>
    have hk : KeepsMem (run tbl (.write s eff : Prog σ δ μ)) := by
      intro c f
      unfold run
      rcases tick f with ⟨_ | _, f'⟩
      · rfl
      · cases tbl s <;> rfl
    exact ⟨fun _ => hk, nofun, fun _ c f _ => hk c f⟩
  | seq a b iha ihb =>
    obtain ⟨ka, oa, ea⟩ := iha
    obtain ⟨kb, ob, eb⟩ := ihb
    rw [run_seq]
    refine ⟨fun h => ?_, fun h => ?_, fun h => ?_⟩
    · have h := Bool.and_eq_true_iff.mp h
      exact keepsMem_comp (ka h.1) (kb h.2)
    · have h := Bool.and_eq_true_iff.mp h
      exact alwaysOk_comp (oa h.1) (ob h.2)
    · obtain ⟨hab, hor⟩ := Bool.and_eq_true_iff.mp h
      have h := Bool.and_eq_true_iff.mp hab
      exact errKeepsMem_comp (ea h.1) (eb h.2) ((Bool.or_eq_true_iff.mp hor).imp ka ob)
  | branch cond t e iht ihe =>
    obtain ⟨kt, ot, et⟩ := iht
    obtain ⟨ke, oe, ee⟩ := ihe
    refine ⟨fun h => ?_, fun h => ?_, fun h => ?_⟩ <;> have h := Bool.and_eq_true_iff.mp h
    · exact branch_of (kt h.1) (ke h.2)
    · exact branch_of (ot h.1) (oe h.2)
    · exact branch_of (et h.1) (ee h.2)
  | loop n body ih =>
    have hm : noEager body = true → KeepsMem (run tbl (.loop n body)) := fun h c f =>
      iter_of_comp (Φ := KeepsMem) (fun _ _ => rfl) (fun _ => keepsMem_comp (ih.1 h)) _ c f
    have hok : cantErr body = true → AlwaysOk (run tbl (.loop n body)) := fun h c f =>
      iter_of_comp (Φ := AlwaysOk) (fun _ _ => rfl) (fun _ => alwaysOk_comp (ih.2.1 h)) _ c f
    -- every round keeps the memory, or no round can fail
    refine ⟨hm, hok, fun h c f he => ?_⟩
    rcases Bool.or_eq_true_iff.mp (Bool.and_eq_true_iff.mp h).2 with h | h
    · exact hm h c f
    · exact nomatch (hok h c f).symm.trans he

theorem bracket_ok {tbl : σ → Handling} {op : Prog σ δ μ} {s : St δ μ} {f f' : Option Nat} {c : Cfg δ μ}
    (hr : run tbl op ⟨s.disk, s.mem, []⟩ f = (c, f', .ok)) :
    bracket tbl op s f = (⟨c.disk, applyPending c.pending c.mem⟩, .ok) := by
  unfold bracket; rw [hr]

theorem bracket_err {tbl : σ → Handling} {op : Prog σ δ μ} {s : St δ μ} {f f' : Option Nat} {c : Cfg δ μ}
    (hr : run tbl op ⟨s.disk, s.mem, []⟩ f = (c, f', .err)) : bracket tbl op s f = (⟨s.disk, c.mem⟩, .err) := by
  unfold bracket; rw [hr]

theorem lookupHandling_of_all {κ : Type} [BEq κ] (tab : List (κ × Handling))
    (hall : allPropagatedTab tab = true) (k : κ) (hk : (tab.lookup k).isSome = true) :
    lookupHandling tab k = .propagated := by
  unfold lookupHandling
  induction tab with
  | nil => cases hk
  | cons e rest ih =>
    obtain ⟨k', h'⟩ := e
    obtain ⟨he, hrest⟩ := Bool.and_eq_true_iff.mp (show (h' == .propagated && rest.all _) = true from hall)
    rw [List.lookup_cons] at hk ⊢
    cases hkk : k == k' with
    | true => exact eq_of_beq he
    | false => rw [hkk] at hk; exact ih hrest hk

theorem chainHandling_of_all {κ : Type} [BEq κ] (tab : List (κ × Handling))
    (hall : allPropagatedTab tab = true) (ch : List κ) (hk : ∀ k ∈ ch, (tab.lookup k).isSome = true) :
    chainHandling tab ch = .propagated := by
  induction ch with
  | nil => rfl
  | cons k ks ih =>
    rw [chainHandling, lookupHandling_of_all tab hall k (hk k List.mem_cons_self)]
    exact ih fun k' h' => hk k' (List.mem_cons_of_mem _ h')

/-- `l.all p` for lists of at most `n * k` entries, `n` at a time (false on longer lists).  The recursive call comes first:
an evaluator that goes deeper with every unfolding, also in tail position, then nests `k` calls and one chunk of `n`
entries instead of the whole list, so a table of up to `n * k` entries is checked under the default recursion limit.
`Props/C10` passes `64 8` (512 call sites; 274 today) and `64 16` (1024 frame rows; 480 today); a regenerated table that
outgrows them makes `allBy` false and the `decide` there fail: raise `k`. -/
def allBy {α : Type} (p : α → Bool) (n : Nat) : Nat → List α → Bool
  | 0, l => l.isEmpty
  | k + 1, l => allBy p n k (l.drop n) && (l.take n).all p

theorem all_of_allBy {α : Type} (p : α → Bool) (n : Nat) :
    ∀ (k : Nat) (l : List α), allBy p n k l = true → l.all p = true
  | 0, l, h => by rw [List.isEmpty_iff.mp h]; rfl
  | k + 1, l, h => by
    obtain ⟨h1, h2⟩ := Bool.and_eq_true_iff.mp h
    rw [← List.take_append_drop n l, List.all_append, h2, all_of_allBy p n k _ h1]; rfl

end FaultOps
