/-
Coherence of the in-memory caches of the address manager with the database (C08), and the answers every query of
the property gives as a function of the DATABASE ALONE.
-/
import BtcwVerif.Lemmas.AddrLock
namespace AddrLock

def keyAcct : AKey → Nat
  | .chain a _ _ => a
  | _ => IMPORTED

/-- what `loadAccountInfo` finds in the database -/
def acctAns (d : Disk) (sc a : Nat) : Except Err AcctRow :=
  match aget (d.scopes sc).accts a with
  | none => .error .accountNotFound
  | some row => if a = IMPORTED then .error .crypto else .ok row

/-- answer of `Address(k)` computed from the database alone -/
def addrAns (d : Disk) (sc : Nat) (k : AKey) : QRes :=
  match aget (d.scopes sc).addrs k with
  | none => .err .addressNotFound
  | some row =>
    match row, k with
    | .chain, .chain a _ _ =>
      match acctAns d sc a with
      | .error e => .err e
      | .ok _ => .addr k a
    | .chain, _ => .err .database
    | _, _ => .addr k IMPORTED

def propsAns (d : Disk) (sc a : Nat) : QRes :=
  if a = IMPORTED then .props "imported" 0 0 (importedCount (d.scopes sc))
  else match acctAns d sc a with
    | .error e => .err e
    | .ok row => .props row.name row.nextExt row.nextInt 0

def rowNext (row : AcctRow) (internal : Bool) : Nat := if internal then row.nextInt else row.nextExt

def lastAns (d : Disk) (sc a : Nat) (internal : Bool) : QRes :=
  match acctAns d sc a with
  | .error e => .err e
  | .ok row =>
    if rowNext row internal > 0 then .addr (.chain a (brOf internal) (rowNext row internal - 1)) a
    else .err .addressNotFound

def usedAns (d : Disk) (sc : Nat) (k : AKey) : QRes :=
  match addrAns d sc k with
  | .addr _ _ => .used ((d.scopes sc).used.contains k)
  | _ => .used false

def qAns (d : Disk) : Query → QRes
  | .address sc k => addrAns d sc k
  | .props sc a => propsAns d sc a
  | .lastAddr sc a i => lastAns d sc a i
  | .lookup sc name =>
    match lookupName (d.scopes sc) name with
    | some a => .acct a
    | none => .err .accountNotFound
  | .acctName sc a =>
    match aget (d.scopes sc).accts a with
    | some r => .name r.name
    | none => .err .accountNotFound
  | .used sc k => usedAns d sc k
  | .syncedTo => .synced d.syncedTo.1 d.syncedTo.2
  | .blockHash h =>
    match aget d.hashes h with
    | some x => .hash x
    | none => .err .blockNotFound

def InfoOK (m : Mem) (a : Nat) (ai : AcctInfo) (row : AcctRow) : Prop :=
  ai.name = row.name ∧ ai.nextExt = row.nextExt ∧ ai.nextInt = row.nextInt ∧
  (m.heap ai.lastExt).key = .chain a 0 (row.nextExt - 1) ∧ (m.heap ai.lastExt).acct = a ∧
  (m.heap ai.lastInt).key = .chain a 1 (row.nextInt - 1) ∧ (m.heap ai.lastInt).acct = a

/-- the manager never needs a private account key the database does not have: it is locked, watching-only, or
every default account row carries an encrypted private key -/
def PrivOK (d : Disk) (m : Mem) : Prop :=
  m.locked = true ∨ m.watchOnly = true ∨
  ∀ sc a row, acctAns d sc a = .ok row → row.wo = false → row.hasPriv = true

structure Coherent (d : Disk) (m : Mem) : Prop where
  acct   : ∀ sc a ai, aget (m.scopes sc).acctInfo a = some ai → ∃ row, acctAns d sc a = .ok row ∧ InfoOK m a ai row
  addr   : ∀ sc k id, aget (m.scopes sc).addrs k = some id →
             addrAns d sc k = .addr k (keyAcct k) ∧ (m.heap id).key = k ∧ (m.heap id).acct = keyAcct k
  priv   : PrivOK d m
  synced : m.syncedTo = d.syncedTo

/-- the account clause of coherence + the private-key clause: what AccountProperties / Last…Address / the next
index depend on -/
def AcctCoh (d : Disk) (m : Mem) : Prop :=
  (∀ sc a ai, aget (m.scopes sc).acctInfo a = some ai → ∃ row, acctAns d sc a = .ok row ∧ InfoOK m a ai row) ∧ PrivOK d m

variable {d : Disk} {m : Mem}

theorem Coherent.acctCoh (h : Coherent d m) : AcctCoh d m := ⟨h.acct, h.priv⟩

theorem memUpd_scopes (m : Mem) (sc : Nat) (f : ScopeMem → ScopeMem) (sc' : Nat) :
    (m.updScope sc f).scopes sc' = if sc' = sc then f (m.scopes sc) else m.scopes sc' := by
  simp only [Mem.updScope]; split
  · rename_i h; rw [h]
  · rfl

theorem diskUpd_scopes (d : Disk) (sc : Nat) (f : ScopeDisk → ScopeDisk) (sc' : Nat) :
    (d.updScope sc f).scopes sc' = if sc' = sc then f (d.scopes sc) else d.scopes sc' := by
  simp only [Disk.updScope]; split
  · rename_i h; rw [h]
  · rfl

theorem diskUpd_diskUpd (d : Disk) (sc : Nat) (f g : ScopeDisk → ScopeDisk) :
    (d.updScope sc f).updScope sc g = d.updScope sc fun s => g (f s) := by
  simp only [Disk.updScope]
  congr 1; funext i
  split <;> rfl

/-! `hf` is closed by `rfl` once `f` is known, hence only after the statement has been matched against the goal. -/

theorem diskUpd_field {γ} (get : ScopeDisk → γ) (d : Disk) (sc : Nat) (f : ScopeDisk → ScopeDisk) (sc' : Nat)
    (hf : ∀ s, get (f s) = get s := by intro _; rfl) : get ((d.updScope sc f).scopes sc') = get (d.scopes sc') := by
  rw [diskUpd_scopes]; split
  · rename_i h; rw [hf, h]
  · rfl

theorem memUpd_field {γ} (get : ScopeMem → γ) (m : Mem) (sc : Nat) (f : ScopeMem → ScopeMem) (sc' : Nat)
    (hf : ∀ s, get (f s) = get s := by intro _; rfl) : get ((m.updScope sc f).scopes sc') = get (m.scopes sc') :=
  updScope_rel (R := fun _ s s' => get s' = get s) m sc f (fun _ _ => rfl) (hf _) sc'

theorem aget_setAddr (d : Disk) (sc : Nat) (k : AKey) (row : ARow) (sc' : Nat) (k' : AKey) :
    aget ((d.setAddr sc k row).scopes sc').addrs k' =
      if sc' = sc ∧ k' = k then some row else aget (d.scopes sc').addrs k' := by
  by_cases hsc : sc' = sc
  · subst hsc; simp [Disk.updScope, aget_aset]
  · simp [Disk.updScope, hsc]

theorem aget_setAcct (m : Mem) (sc a : Nat) (ai : AcctInfo) (sc' a' : Nat) :
    aget ((m.setAcct sc a ai).scopes sc').acctInfo a' =
      if sc' = sc ∧ a' = a then some ai else aget (m.scopes sc').acctInfo a' := by
  by_cases hsc : sc' = sc
  · subst hsc; simp [Mem.updScope, aget_aset]
  · simp [Mem.updScope, hsc]

theorem aget_cacheAddr (m : Mem) (sc : Nat) (k : AKey) (id sc' : Nat) (k' : AKey) :
    aget ((m.cacheAddr sc k id).scopes sc').addrs k' =
      if sc' = sc ∧ k' = k then some id else aget (m.scopes sc').addrs k' := by
  by_cases hsc : sc' = sc
  · subst hsc; simp [Mem.updScope, aget_aset]
  · simp [Mem.updScope, hsc]

theorem setAcct_addrs (m : Mem) (sc a : Nat) (ai : AcctInfo) (sc' : Nat) :
    ((m.setAcct sc a ai).scopes sc').addrs = (m.scopes sc').addrs := memUpd_field (·.addrs) m sc _ sc'

theorem cacheAddr_acctInfo (m : Mem) (sc : Nat) (k : AKey) (id sc' : Nat) :
    ((m.cacheAddr sc k id).scopes sc').acctInfo = (m.scopes sc').acctInfo := memUpd_field (·.acctInfo) m sc _ sc'

/-- the account info `loadAccountInfo` builds from a row (the two last-address objects are the next two heap ids) -/
def rowInfo (m : Mem) (row : AcctRow) : AcctInfo :=
  { name := row.name, wo := row.wo, hasEnc := row.hasPriv && !row.wo, keyPriv := !m.locked && !m.watchOnly && !row.wo,
    nextExt := row.nextExt, nextInt := row.nextInt, lastExt := m.heapN, lastInt := m.heapN + 1 }

structure RowLoaded (m m1 : Mem) (sc a : Nat) (row : AcctRow) : Prop where
  entry  : (m1.scopes sc).acctInfo = aset (m.scopes sc).acctInfo a (rowInfo m row)
  others : ∀ sc', sc' ≠ sc → (m1.scopes sc').acctInfo = (m.scopes sc').acctInfo
  addrs  : ∀ sc', (m1.scopes sc').addrs = (m.scopes sc').addrs
  heap   : ∀ id, id < m.heapN → m1.heap id = m.heap id
  heapN  : m1.heapN = m.heapN + 2
  synced : m1.syncedTo = m.syncedTo
  scal   : Scal m1 = Scal m
  info   : InfoOK m1 a (rowInfo m row) row

theorem loadAcctRow_spec (m : Mem) (sc a : Nat) (row : AcctRow) : RowLoaded m (loadAcctRow m sc a row) sc a row := by
  unfold loadAcctRow
  dsimp only
  have hne : m.heapN ≠ m.heapN + 1 := Nat.ne_of_lt (Nat.lt_succ_self _)
  have o1 : ∀ p i j, (keyToManaged (keyToManaged m sc a 0 i p).1 sc a 1 j p).1.heap m.heapN =
      { key := .chain a 0 i, kind := .managed, hasEnc := p, ct := p, acct := a } := by
    intro p i j; rw [ktm_heap, ktm_heapN, if_neg hne, ktm_heap, if_pos rfl]
  have o2 : ∀ p i j, (keyToManaged (keyToManaged m sc a 0 i p).1 sc a 1 j p).1.heap (m.heapN + 1) =
      { key := .chain a 1 j, kind := .managed, hasEnc := p, ct := p, acct := a } := by
    intro p i j; rw [ktm_heap, ktm_heapN, if_pos rfl]
  refine ⟨?_, fun sc' hne => ?_, fun sc' => ?_, fun id hid => ?_, ?_, ?_, ?_, ⟨rfl, rfl, rfl, ?_, ?_, ?_, ?_⟩⟩
  · rw [memUpd_scopes, if_pos rfl, ktm_acctInfo, ktm_acctInfo, ktm_snd, ktm_snd, ktm_heapN]; rfl
  · rw [memUpd_scopes, if_neg hne, ktm_acctInfo, ktm_acctInfo]
  · exact (memUpd_field (·.addrs) _ sc _ sc').trans (by rw [ktm_addrs, ktm_addrs])
  · show (keyToManaged _ sc a 1 _ _).1.heap id = _
    rw [ktm_heap, ktm_heapN, if_neg (by omega), ktm_heap, if_neg (by omega)]
  · show (keyToManaged _ sc a 1 _ _).1.heapN = _
    rw [ktm_heapN, ktm_heapN]
  · show (keyToManaged _ sc a 1 _ _).1.syncedTo = _
    rw [ktm_synced, ktm_synced]
  · rw [scal_updScope, scal_keyToManaged, scal_keyToManaged]
  · exact congrArg Obj.key (o1 _ _ _)
  · exact congrArg Obj.acct (o1 _ _ _)
  · exact congrArg Obj.key (o2 _ _ _)
  · exact congrArg Obj.acct (o2 _ _ _)

theorem acctAns_ok_row {sc a : Nat} {row : AcctRow} (h : acctAns d sc a = .ok row) :
    aget (d.scopes sc).accts a = some row ∧ a ≠ IMPORTED := by
  unfold acctAns at h
  cases hr : aget (d.scopes sc).accts a with
  | none => rw [hr] at h; cases h
  | some r =>
    rw [hr] at h; dsimp only at h
    by_cases hi : a = IMPORTED
    · rw [if_pos hi] at h; cases h
    · rw [if_neg hi] at h; cases h; exact ⟨rfl, hi⟩

theorem loadAcct_uncached {sc a : Nat} (hc : aget (m.scopes sc).acctInfo a = none)
    (hp : PrivOK d m) :
    loadAcct d m sc a = match acctAns d sc a with
      | .error e => .error e
      | .ok row => .ok (loadAcctRow m sc a row) := by
  unfold loadAcct
  rw [hc]
  cases hr : acctAns d sc a with
  | error e =>
    unfold acctAns at hr
    cases hrow : aget (d.scopes sc).accts a with
    | none => rw [hrow] at hr; exact congrArg _ (Except.error.inj hr)
    | some row =>
      rw [hrow] at hr; dsimp only at hr ⊢
      by_cases hi : a = IMPORTED
      · rw [if_pos hi] at hr ⊢; exact congrArg _ (Except.error.inj hr)
      · rw [if_neg hi] at hr; cases hr
  | ok row =>
    obtain ⟨hrow, hi⟩ := acctAns_ok_row hr
    rw [hrow]; dsimp only
    rw [if_neg hi, if_neg]
    rcases hp with h | h | h
    · simp [h]
    · simp [h]
    · cases hw : row.wo
      · simp [h sc a row hr hw]
      · simp

theorem loadAcct_ans
    (h : AcctCoh d m) (sc a : Nat) :
    match acctAns d sc a with
    | .error e => loadAcct d m sc a = .error e
    | .ok row => ∃ m1 ai, loadAcct d m sc a = .ok m1 ∧ acctInfoOf m1 sc a = some ai ∧ InfoOK m1 a ai row := by
  cases hc : aget (m.scopes sc).acctInfo a with
  | some ai =>
    obtain ⟨row, hr, hok⟩ := h.1 sc a ai hc
    rw [hr]
    exact ⟨m, ai, loadAcct_cached hc, hc, hok⟩
  | none =>
    rw [loadAcct_uncached hc h.2]
    cases acctAns d sc a with
    | error e => rfl
    | ok row =>
      have hs := loadAcctRow_spec m sc a row
      exact ⟨_, rowInfo m row, rfl, by unfold acctInfoOf; rw [hs.entry, aget_aset_self], hs.info⟩

theorem query_props_ans
    (h : AcctCoh d m) (sc a : Nat) : (query d m (.props sc a)).2 = propsAns d sc a := by
  unfold query propsAns
  by_cases hi : a = IMPORTED
  · simp [hi]
  · simp only [hi, if_false]
    have h := loadAcct_ans h sc a
    cases hr : acctAns d sc a with
    | error e => rw [hr] at h; simp only at h; simp [h]
    | ok row =>
      rw [hr] at h; simp only at h
      obtain ⟨m1, ai, hl, hai, hok⟩ := h
      simp only [hl, hai]
      rw [hok.1, hok.2.1, hok.2.2.1]

theorem lastOf_info {a : Nat} {ai : AcctInfo} {row : AcctRow} (hok : InfoOK m a ai row) (internal : Bool) :
    nextOf ai internal = rowNext row internal ∧
    (m.heap (lastOf ai internal)).key = .chain a (brOf internal) (rowNext row internal - 1) ∧
    (m.heap (lastOf ai internal)).acct = a := by
  obtain ⟨_, h2, h3, h4, h5, h6, h7⟩ := hok
  cases internal <;> simp [nextOf, rowNext, lastOf, brOf, h2, h3, h4, h5, h6, h7]

theorem query_last_ans
    (h : AcctCoh d m) (sc a : Nat) (internal : Bool) :
    (query d m (.lastAddr sc a internal)).2 = lastAns d sc a internal := by
  unfold query lastAns
  have h := loadAcct_ans h sc a
  cases hr : acctAns d sc a with
  | error e => rw [hr] at h; simp only at h; simp [h]
  | ok row =>
    rw [hr] at h; simp only at h
    obtain ⟨m1, ai, hl, hai, hok⟩ := h
    obtain ⟨k1, k2, k3⟩ := lastOf_info hok internal
    simp only [hl, hai, k1]
    by_cases hz : rowNext row internal > 0
    · simp only [hz, if_true]; rw [k2, k3]
    · simp only [hz, if_false]

theorem chainRow_ans
    (h : AcctCoh d m) (sc a b i : Nat) :
    match acctAns d sc a with
    | .error e => chainRowToManaged d m sc a b i = .error e
    | .ok _ => ∃ r, chainRowToManaged d m sc a b i = .ok r ∧ (r.1.heap r.2).key = .chain a b i ∧ (r.1.heap r.2).acct = a := by
  have h := loadAcct_ans h sc a
  cases hr : acctAns d sc a with
  | error e => rw [hr] at h; simp only at h ⊢; unfold chainRowToManaged; simp [h]
  | ok row =>
    rw [hr] at h; simp only at h ⊢
    obtain ⟨m1, ai, hl, hai, _⟩ := h
    unfold chainRowToManaged
    simp only [hl, hai]
    refine ⟨_, rfl, ?_, ?_⟩ <;> simp [ktm_heap, ktm_snd]

theorem addrAns_nonchain {sc : Nat} {k : AKey} {row : ARow} (h : aget (d.scopes sc).addrs k = some row)
    (hr : row ≠ .chain) : addrAns d sc k = .addr k IMPORTED := by
  unfold addrAns; rw [h]
  cases row <;> first | exact absurd rfl hr | rfl

theorem loadAndCache_imported (m : Mem) {sc : Nat} {k : AKey} {row : ARow}
    (h : aget (d.scopes sc).addrs k = some row) (hr : row ≠ .chain) :
    ∃ o : Obj, o.key = k ∧ o.acct = IMPORTED ∧ loadAndCache d m sc k =
      .ok ((m.alloc o).1.cacheAddr sc k (m.alloc o).2, (m.alloc o).2) := by
  unfold loadAndCache; rw [h]
  cases row with
  | chain => exact absurd rfl hr
  | _ => cases k <;> exact ⟨_, rfl, rfl, rfl⟩

theorem addressOf_ans (hA : Coherent d m) (sc : Nat) (k : AKey) :
    (∃ r, addressOf d m sc k = .ok r ∧ addrAns d sc k = .addr (r.1.heap r.2).key (r.1.heap r.2).acct) ∨
    (∃ e, addressOf d m sc k = .error e ∧ addrAns d sc k = .err e) := by
  unfold addressOf
  cases hc : aget (m.scopes sc).addrs k with
  | some id =>
    obtain ⟨h1, h2, h3⟩ := hA.addr sc k id hc
    exact Or.inl ⟨(m, id), rfl, by simp only [h1, h2, h3]⟩
  | none =>
    dsimp only
    cases hrow : aget (d.scopes sc).addrs k with
    | none => exact Or.inr ⟨_, by unfold loadAndCache; rw [hrow], by unfold addrAns; rw [hrow]⟩
    | some row =>
      by_cases hne : row = .chain
      · subst hne
        unfold loadAndCache addrAns; rw [hrow]
        cases k with
        | chain a b i =>
          dsimp only
          have h := chainRow_ans hA.acctCoh sc a b i
          cases hr : acctAns d sc a with
          | error e => rw [hr] at h; exact Or.inr ⟨e, by rw [h], rfl⟩
          | ok row' =>
            rw [hr] at h
            obtain ⟨r, hcr, hk, ha⟩ := h
            exact Or.inl ⟨(r.1.cacheAddr sc (.chain a b i) r.2, r.2),
              by rw [hcr], (congr (congrArg QRes.addr hk) ha).symm⟩
        | imp k' => exact Or.inr ⟨_, rfl, rfl⟩
        | scr k1 k2 => exact Or.inr ⟨_, rfl, rfl⟩
      · obtain ⟨o, hk, ha, hl⟩ := loadAndCache_imported m hrow hne
        have hobj : ((m.alloc o).1.cacheAddr sc k (m.alloc o).2).heap (m.alloc o).2
            = o := if_pos rfl
        exact Or.inl ⟨_, hl, by rw [addrAns_nonchain hrow hne, hobj, hk, ha]⟩

/-- **Coherent caches answer every query of the property from the database.** -/
theorem query_ans (h : Coherent d m) (q : Query) : (query d m q).2 = qAns d q := by
  cases q with
  | address sc k =>
    rcases addressOf_ans h sc k with ⟨r, h1, h2⟩ | ⟨e, h1, h2⟩ <;> simp only [query, qAns, h1, h2]
  | props sc a => exact query_props_ans h.acctCoh sc a
  | lastAddr sc a i => exact query_last_ans h.acctCoh sc a i
  | lookup sc n => simp only [query, qAns]; cases lookupName (d.scopes sc) n <;> rfl
  | acctName sc a => simp only [query, qAns]; cases aget (d.scopes sc).accts a <;> rfl
  | used sc k =>
    rcases addressOf_ans h sc k with ⟨r, h1, h2⟩ | ⟨e, h1, h2⟩ <;> simp only [query, qAns, usedAns, h1, h2]
  | syncedTo => simp only [query, qAns, h.synced]
  | blockHash x => simp only [query, qAns]; cases aget d.hashes x <;> rfl

theorem coherent_open (d : Disk) : Coherent d (openMem d) where
  acct := by intro sc a ai h; simp [openMem, aget] at h
  addr := by intro sc k id h; simp [openMem, aget] at h
  priv := Or.inl rfl
  synced := rfl

end AddrLock
