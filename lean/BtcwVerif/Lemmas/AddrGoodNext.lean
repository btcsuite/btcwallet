/-
Address issuing keeps `Good`: extendAddresses, and nextAddresses with its OnCommit closure.

The database advances the account row at every address; the code writes the cached account entry once, after its loop.
Inside the loops the memory is therefore not `Good`, but it is once that one stale entry is patched: the loop invariant is
`Good d (m.setAcct sc acct (setNext info internal n0 o0))`, `n0` being the database's next index (`good_issue1` for one
`putChainedAddress`, `good_issueFold` for the loop of extendAddresses).  The final write of the entry overrides the patch,
and `Good` looks at the caches through `aget` only (`good_congr`).  `good_issue` is the whole of it, from the allocation
of the objects to the entry written back.

nextAddresses reads every new row back, which caches a second object under each new key; its OnCommit closure then puts the
first objects in their place.  After the commit the caches answer as extendAddresses would have left them; the second
objects stay on the heap with no cache entry pointing at them (on a locked manager they are also queued for
derive-on-unlock, which `Good` does not read).  `SameBut`, `putAndLoad_spec`, `sameBut_foldl_cacheNew` say so, and `good_next`
is `good_issue` carried over to the closure's memory.
-/
import BtcwVerif.Lemmas.AddrGoodWrite
namespace AddrLock

variable {d : Disk} {m : Mem}

theorem cacheNew_addrs (sc : Nat) (w : Bool) (m : Mem) (e : Dou) (sc' : Nat) (k : AKey) :
    aget ((cacheNew sc w m e).scopes sc').addrs k =
      if sc' = sc ∧ k = .chain e.acct e.br e.idx then some e.obj else aget (m.scopes sc').addrs k := by
  by_cases hsc : sc' = sc
  · subst hsc; simp [cacheNew, Mem.updScope, aget_aset]
  · simp [cacheNew, Mem.updScope, hsc]

def bumpRow (row : AcctRow) (br idx : Nat) : AcctRow :=
  if br = 1 then { row with nextInt := idx + 1 } else { row with nextExt := idx + 1 }

theorem putChained_some {sc acct br idx : Nat} {row : AcctRow}
    (h : aget (d.scopes sc).accts acct = some row) :
    putChained d sc acct br idx = some
      ((d.setAddr sc (.chain acct br idx) .chain).setAcct sc acct (bumpRow row br idx)) := by
  unfold putChained bumpRow Disk.setAcct Disk.setAddr; rw [h, diskUpd_diskUpd]

theorem nextOf_setNext (info : AcctInfo) (internal : Bool) (n id : Nat) :
    nextOf (setNext info internal n id) internal = n := by
  cases internal <;> rfl

theorem setNext_setNext (info : AcctInfo) (internal : Bool) (n id n' id' : Nat) :
    setNext (setNext info internal n id) internal n' id' = setNext info internal n' id' := by
  cases internal <;> rfl

theorem setNext_self (info : AcctInfo) (internal : Bool) :
    setNext info internal (nextOf info internal) (lastOf info internal) = info := by
  cases internal <;> rfl

theorem infoOK_setNext {a : Nat} {info : AcctInfo} {row : AcctRow} (hok : InfoOK m a info row)
    (internal : Bool) {id : Nat} (hk : (m.heap id).key = .chain a (brOf internal) (nextOf info internal))
    (ha : (m.heap id).acct = a) :
    InfoOK m a (setNext info internal (nextOf info internal + 1) id)
      (bumpRow row (brOf internal) (nextOf info internal)) := by
  obtain ⟨i1, i2, i3, i4, i5, i6, i7⟩ := hok
  cases internal
  · exact ⟨i1, rfl, i3, hk, ha, i6, i7⟩
  · exact ⟨i1, i2, rfl, i4, i5, hk, ha⟩

theorem good_setAddrObj (hg : Good d m) (hw : DiskWF d) {sc acct br idx id : Nat} {row : AcctRow}
    (hr : acctAns d sc acct = .ok row) (hid : id < m.heapN) (hk : (m.heap id).key = .chain acct br idx)
    (ha : (m.heap id).acct = acct) :
    Good (d.setAddr sc (.chain acct br idx) .chain)
      (m.cacheAddr sc (.chain acct br idx) id) ∧
    DiskWF (d.setAddr sc (.chain acct br idx) .chain) := by
  have hans : addrAns (d.setAddr sc (.chain acct br idx) .chain) sc
      (.chain acct br idx) = .addr (.chain acct br idx) acct := by
    unfold addrAns
    rw [aget_setAddr, if_pos ⟨rfl, rfl⟩]
    simp only [acctAns_setAddr, hr]
  obtain ⟨g1, w1⟩ := good_disk_addAddr hg hw sc (.chain acct br idx) .chain (by simp [AKey.isChain]) (fun _ _ => hans)
  exact ⟨good_addAddr g1 ⟨hans, hid, hk, ha⟩, w1⟩

/-- one `putChainedAddress` and the cache write that goes with it, against a memory whose entry of `acct` is patched to
the database's index `n0`; afterwards the patch is at `n0 + 1` with the new object as last address -/
theorem good_issue1 (w : Bool) {sc acct : Nat} {internal : Bool} {info : AcctInfo} {row : AcctRow} {n0 o0 : Nat} {e : Dou}
    (hg : Good d (m.setAcct sc acct (setNext info internal n0 o0))) (hw : DiskWF d) (hr : acctAns d sc acct = .ok row)
    (h1 : e.acct = acct) (h2 : e.br = brOf internal) (h3 : e.idx = n0) (hid : e.obj < m.heapN)
    (hk : (m.heap e.obj).key = .chain acct (brOf internal) n0) (ha : (m.heap e.obj).acct = acct) :
    ∃ d1, putChained d sc acct (brOf internal) n0 = some d1 ∧ DiskWF d1 ∧
      acctAns d1 sc acct = .ok (bumpRow row (brOf internal) n0) ∧
      Good d1 ((cacheNew sc w m e).setAcct sc acct (setNext info internal (n0 + 1) e.obj)) := by
  refine ⟨_, putChained_some (acctAns_ok_row hr).1, ?_⟩
  obtain ⟨⟨row1, hr1, hok⟩, hl⟩ := hg.acctOK ((aget_setAcct ..).trans (if_pos ⟨rfl, rfl⟩))
  rw [hr] at hr1; cases hr1
  obtain ⟨gA, wA⟩ := good_setAddrObj hg hw hr hid hk ha
  have hbump : ∀ br idx, (bumpRow row br idx).wo = row.wo ∧ (bumpRow row br idx).hasPriv = row.hasPriv := by
    intro br idx; unfold bumpRow; split <;> exact ⟨rfl, rfl⟩
  have hok' := infoOK_setNext hok internal (id := e.obj) (by rw [nextOf_setNext]; exact hk) ha
  rw [nextOf_setNext, setNext_setNext] at hok'
  obtain ⟨gC, wC⟩ := good_setRowInfo gA wA ((acctAns_setAddr ..).trans hr) (hbump _ _).1 (hbump _ _).2 hok'
    (show (setNext info internal (n0 + 1) e.obj).lastExt < m.heapN ∧ _ by
      have hl' : (setNext info internal n0 o0).lastExt < m.heapN ∧ (setNext info internal n0 o0).lastInt < m.heapN := hl
      revert hl'; unfold setNext
      cases internal <;> exact fun hl' => ⟨by first | exact hid | exact hl'.1, by first | exact hid | exact hl'.2⟩)
  -- the code's `cacheNew` also queues the object for derive-on-unlock, which `Good` does not read
  refine ⟨wC, acctAns_setRow_self (acctAns_ok_row hr).2, good_congr gC (ext_same rfl rfl rfl rfl) (fun sc' a => ?_)
    fun sc' k => ?_⟩
  · simp only [aget_setAcct, cacheAddr_acctInfo, cacheNew_acctInfo]
    split <;> rfl
  · simp only [setAcct_addrs, aget_cacheAddr, cacheNew_addrs, h1, h2, h3]

/-- `es` are objects for the consecutive indices `start, start+1, …` of branch `br` of account `acct` -/
inductive Consec (H : Nat → Obj) (N : Nat) (acct br : Nat) : Nat → List Dou → Prop
  | nil (start : Nat) : Consec H N acct br start []
  | cons {start : Nat} {e : Dou} {t : List Dou} : e.acct = acct → e.br = br → e.idx = start → e.obj < N →
      (H e.obj).key = .chain acct br start → (H e.obj).acct = acct → Consec H N acct br (start + 1) t →
      Consec H N acct br start (e :: t)

theorem Consec.acct_eq {H : Nat → Obj} {N acct br : Nat} : ∀ {start : Nat} {es : List Dou},
    Consec H N acct br start es → ∀ e ∈ es, e.acct = acct := by
  intro start es h
  induction h with
  | nil s => intro e he; cases he
  | cons h1 _ _ _ _ _ _ ih =>
    intro e he
    rcases List.mem_cons.mp he with rfl | he
    · exact h1
    · exact ih e he

def lastObj (o0 : Nat) (es : List Dou) : Nat := es.foldl (fun _ e => e.obj) o0

theorem lastObj_eq {es : List Dou} {last : Dou} (h : es.getLast? = some last) (o0 : Nat) : lastObj o0 es = last.obj := by
  induction es generalizing o0 with
  | nil => cases h
  | cons e t ih =>
    cases t with
    | nil => cases h; rfl
    | cons e' t' => rw [List.getLast?_cons_cons] at h; exact ih h e.obj

/-! ### the loop of extendAddresses: all rows, then all cache entries -/

theorem good_issueFold (w : Bool) {sc acct : Nat} {internal : Bool} {info : AcctInfo} :
    ∀ (es : List Dou) {d : Disk} {m : Mem} {row : AcctRow} {n0 o0 : Nat},
    Good d (m.setAcct sc acct (setNext info internal n0 o0)) → DiskWF d → acctAns d sc acct = .ok row →
    Consec m.heap m.heapN acct (brOf internal) n0 es →
    ∃ d2, putAll sc es d = some d2 ∧ DiskWF d2 ∧
      Good d2 ((es.foldl (cacheNew sc w) m).setAcct sc acct (setNext info internal (n0 + es.length) (lastObj o0 es))) := by
  intro es
  induction es with
  | nil => intro d m row n0 o0 hg hw _ _; exact ⟨d, rfl, hw, hg⟩
  | cons e es ih =>
    intro d m row n0 o0 hg hw hr hcs
    cases hcs with
    | cons h1 h2 h3 h4 h5 h6 h7 =>
      obtain ⟨d1, hp, w1, hr1, g1⟩ := good_issue1 w hg hw hr h1 h2 h3 h4 h5 h6
      obtain ⟨d2, hp2, w2, g2⟩ := ih g1 w1 hr1 h7
      refine ⟨d2, by simp only [putAll, h1, h2, h3, hp, hp2], w2, ?_⟩
      rw [List.length_cons, ← Nat.add_assoc, Nat.add_right_comm]
      exact g2

theorem good_setAcct_self (hg : Good d m) {sc a : Nat} {ai : AcctInfo} (h : aget (m.scopes sc).acctInfo a = some ai) :
    Good d (m.setAcct sc a ai) :=
  good_congr hg (ext_updScope ..) (fun sc' a' => by
    rw [aget_setAcct]; split
    · rename_i hc; rw [hc.1, hc.2, h]
    · rfl) fun sc' k => by rw [setAcct_addrs]

theorem mkAddrs_spec (acct br : Nat) (priv : Bool) : ∀ (n start : Nat) (m : Mem),
    let r := mkAddrs m acct br priv start n
    Ext m r.1 ∧ r.2.length = n ∧ Consec r.1.heap r.1.heapN acct br start r.2 := by
  intro n
  induction n with
  | zero => intro start m; exact ⟨Ext.refl m, rfl, Consec.nil _⟩
  | succ n ih =>
    intro start m
    simp only [mkAddrs]
    obtain ⟨k1, k3, k4⟩ := ih (start + 1) (m.alloc ⟨.chain acct br start, .managed, priv, priv, acct⟩).1
    have hlt : m.heapN < (m.alloc ⟨.chain acct br start, .managed, priv, priv, acct⟩).1.heapN := Nat.lt_succ_self _
    have hobj := k1.heap m.heapN hlt
    refine ⟨(ext_alloc m _).trans k1, by simp [k3], Consec.cons rfl rfl rfl (Nat.lt_of_lt_of_le hlt k1.heapN) ?_ ?_ k4⟩
    · exact hobj.1.trans (by simp [Mem.alloc])
    · exact hobj.2.trans (by simp [Mem.alloc])

/-- what extendAddresses does once the account is loaded and the request admitted, and what nextAddresses with its
closure amounts to: `n` new objects, their rows, their cache entries, at last the account entry -/
theorem good_issue (w pv : Bool) {sc acct : Nat} (internal : Bool) {ai : AcctInfo} {row : AcctRow} (n : Nat)
    (hg : Good d m) (hw : DiskWF d) (hc : aget (m.scopes sc).acctInfo acct = some ai) (hr : acctAns d sc acct = .ok row) :
    let r := mkAddrs m acct (brOf internal) pv (nextOf ai internal) n
    ∃ d2, putAll sc r.2 d = some d2 ∧ DiskWF d2 ∧
      Good d2 (match r.2.getLast? with
        | none => r.2.foldl (cacheNew sc w) r.1
        | some last => (r.2.foldl (cacheNew sc w) r.1).setAcct sc acct
            (setNext ai internal (nextOf ai internal + n) last.obj)) := by
  intro r
  obtain ⟨k1, k3, k4⟩ : Ext m r.1 ∧ r.2.length = n ∧ Consec r.1.heap r.1.heapN acct (brOf internal) (nextOf ai internal) r.2 :=
    mkAddrs_spec acct (brOf internal) pv n (nextOf ai internal) m
  have k2 : r.1.scopes = m.scopes := mkAddrs_scopes ..
  clear_value r
  have gr : Good d r.1 := good_congr hg k1 (fun _ _ => by rw [k2]) fun _ _ => by rw [k2]
  cases hlast : r.2.getLast? with
  | none => rw [List.getLast?_eq_none_iff.mp hlast]; exact ⟨d, rfl, hw, gr⟩
  | some last =>
    have g0 := good_setAcct_self gr (show aget (r.1.scopes sc).acctInfo acct = some ai by rw [k2]; exact hc)
    rw [← setNext_self ai internal] at g0
    obtain ⟨d2, hp, w2, g2⟩ := good_issueFold w r.2 g0 hw hr k4
    rw [lastObj_eq hlast, k3] at g2
    exact ⟨d2, hp, w2, g2⟩

theorem good_extend (cfg : Cfg) (hg : Good d m) (hw : DiskWF d) (sc acct lastIdx : Nat)
    (internal : Bool) : WriteOK d (extendAddresses cfg d m sc acct lastIdx internal) := by
  unfold extendAddresses
  cases hl : loadAcct d m sc acct with
  | error e => exact writeOK_err hg e
  | ok m1 =>
    have hf := loadAcct_good hg hl
    obtain ⟨ai, row, hc, hr, _⟩ := hf.cached
    have hai : acctInfoOf m1 sc acct = some ai := hc
    simp only [hai]
    refine ite_ind (fun _ => writeOK_ok ⟨hf.good, hw⟩) fun hlt => ite_ind (fun _ => writeOK_err hf.good _) fun _ =>
      ite_ind (fun _ => writeOK_err hf.good _) fun _ => ?_
    obtain ⟨d2, hp, w2, g2⟩ := good_issue (extWatch cfg m1 ai) (!m1.locked && !extWatch cfg m1 ai) internal
      (lastIdx + 1 - nextOf ai internal) hf.good hw hc hr
    rw [show nextOf ai internal + (lastIdx + 1 - nextOf ai internal) = lastIdx + 1 by omega] at g2
    rw [hp]
    generalize (mkAddrs m1 acct (brOf internal) (!m1.locked && !extWatch cfg m1 ai) (nextOf ai internal)
      (lastIdx + 1 - nextOf ai internal)).2.getLast? = o at g2 ⊢
    cases o <;> exact writeOK_ok ⟨g2, w2⟩

/-! ### the loop of nextAddresses: row, read back, row, read back, … -/

theorem loadAndCache_chain_cached {sc acct br idx : Nat} {info : AcctInfo}
    (hc : aget (m.scopes sc).acctInfo acct = some info)
    (hrow : aget (d.scopes sc).addrs (.chain acct br idx) = some .chain) :
    let t := keyToManaged m sc acct br idx (!m.locked && !m.watchOnly && info.keyPriv)
    loadAndCache d m sc (.chain acct br idx) = .ok (t.1.cacheAddr sc (.chain acct br idx) t.2, t.2) := by
  have hai : acctInfoOf m sc acct = some info := hc
  unfold loadAndCache; simp only [hrow]; unfold chainRowToManaged; rw [loadAcct_cached hc]; simp only [hai]

def keyOf (e : Dou) : AKey := .chain e.acct e.br e.idx

/-- equal cache lookups, except possibly for the address keys of `es` in scope `sc`; `m'` may have more heap, and the
derive-on-unlock queue and the derived-key cache are not compared (`Good` reads neither) -/
structure SameBut (sc : Nat) (es : List Dou) (m m' : Mem) : Prop where
  ext   : Ext m m'
  acct  : ∀ sc' a, aget (m'.scopes sc').acctInfo a = aget (m.scopes sc').acctInfo a
  addrs : ∀ sc' k, ¬ (sc' = sc ∧ ∃ e ∈ es, k = keyOf e) → aget (m'.scopes sc').addrs k = aget (m.scopes sc').addrs k

/-- with the account cached and its row present the loop cannot fail; it writes what `putAll` writes, caches a second
object for every new key and touches nothing else that the queries look at -/
theorem putAndLoad_spec {sc acct : Nat} : ∀ (es : List Dou) {d : Disk} {m : Mem} {row : AcctRow} {ai : AcctInfo},
    aget (d.scopes sc).accts acct = some row → aget (m.scopes sc).acctInfo acct = some ai → (∀ e ∈ es, e.acct = acct) →
    ∃ d2 m2, putAndLoad sc es d m = (d2, m2, none) ∧ putAll sc es d = some d2 ∧ SameBut sc es m m2 := by
  intro es
  induction es with
  | nil => intro d m row ai _ _ _; exact ⟨d, m, rfl, rfl, Ext.refl m, fun _ _ => rfl, fun _ _ _ => rfl⟩
  | cons e es ih =>
    intro d m row ai hrow hc hes
    have h1 := hes e List.mem_cons_self
    have hp := putChained_some (br := e.br) (idx := e.idx) hrow
    generalize hd1 : (d.setAddr sc (.chain acct e.br e.idx) .chain).setAcct sc acct (bumpRow row e.br e.idx) = d1 at hp
    have hrow1 : aget (d1.scopes sc).accts acct = some (bumpRow row e.br e.idx) := by
      subst hd1; rw [diskUpd_scopes, if_pos rfl, aget_aset_self]
    have hadr1 : aget (d1.scopes sc).addrs (.chain acct e.br e.idx) = some .chain := by
      subst hd1
      exact (congrArg (aget · _) (diskUpd_field (·.addrs) _ sc _ sc)).trans (by rw [aget_setAddr, if_pos ⟨rfl, rfl⟩])
    have hlc := loadAndCache_chain_cached hc hadr1
    dsimp only at hlc
    generalize hm' : (keyToManaged m sc acct e.br e.idx (!m.locked && !m.watchOnly && ai.keyPriv)).1.cacheAddr sc
      (.chain acct e.br e.idx) (keyToManaged m sc acct e.br e.idx (!m.locked && !m.watchOnly && ai.keyPriv)).2 = m' at hlc
    have hacct : ∀ sc' a, aget (m'.scopes sc').acctInfo a = aget (m.scopes sc').acctInfo a := fun sc' a => by
      rw [← hm', cacheAddr_acctInfo, ktm_acctInfo]
    obtain ⟨d2, m2, q1, q2, q3⟩ := ih hrow1 ((hacct sc acct).trans hc) fun e' he' => hes e' (List.mem_cons_of_mem _ he')
    refine ⟨d2, m2, by simp only [putAndLoad, h1, hp, hlc]; exact q1, by simp only [putAll, h1, hp]; exact q2,
      (hm' ▸ (ext_ktm ..).trans (ext_updScope ..) : Ext m m').trans q3.ext, fun sc' a => (q3.acct sc' a).trans (hacct sc' a),
      fun sc' k hne => ?_⟩
    rw [q3.addrs sc' k fun hh => hne ⟨hh.1, hh.2.imp fun _ h => ⟨List.mem_cons_of_mem _ h.1, h.2⟩⟩, ← hm', aget_cacheAddr,
      ktm_addrs, if_neg fun hh => hne ⟨hh.1, e, List.mem_cons_self, by rw [hh.2, keyOf, h1]⟩]

/-- `es0` holds the keys on which `M` and `M'` may still differ: each is yet to be overwritten (its entry is in `es`) or
agrees already -/
theorem sameBut_foldl_cacheNew (sc : Nat) (w : Bool) : ∀ (es : List Dou) {M M' : Mem} {es0 : List Dou},
    (∀ e ∈ es0, e ∈ es ∨ ∀ sc', aget (M'.scopes sc').addrs (keyOf e) = aget (M.scopes sc').addrs (keyOf e)) →
    SameBut sc es0 M M' → SameBut sc [] (es.foldl (cacheNew sc w) M) (es.foldl (cacheNew sc w) M') := by
  intro es
  induction es with
  | nil =>
    intro M M' es0 h0 h
    refine ⟨h.ext, h.acct, fun sc' k _ => ?_⟩
    by_cases hk : sc' = sc ∧ ∃ e ∈ es0, k = keyOf e
    · obtain ⟨_, e, he, rfl⟩ := hk; exact (h0 e he).elim (fun h => nomatch h) fun h => h sc'
    · exact h.addrs sc' k hk
  | cons e es ih =>
    intro M M' es0 h0 h
    refine ih (fun e' he' => ?_) ⟨⟨h.ext.heapN, h.ext.heap, h.ext.synced, h.ext.wo⟩,
      fun sc' a => by rw [cacheNew_acctInfo, cacheNew_acctInfo]; exact h.acct sc' a, fun sc' k hne => by
        rw [cacheNew_addrs, cacheNew_addrs, h.addrs sc' k hne]⟩
    by_cases hk : keyOf e' = keyOf e
    · right; intro sc'; rw [cacheNew_addrs, cacheNew_addrs]
      by_cases hsc : sc' = sc
      · rw [if_pos ⟨hsc, hk⟩, if_pos ⟨hsc, hk⟩]
      · rw [if_neg fun hh => hsc hh.1, if_neg fun hh => hsc hh.1]
        exact h.addrs sc' _ fun hh => hsc hh.1
    · rcases h0 e' he' with h1 | h1
      · rcases List.mem_cons.mp h1 with rfl | h1
        · exact absurd rfl hk
        · exact Or.inl h1
      · right; intro sc'; rw [cacheNew_addrs, cacheNew_addrs, if_neg fun hh => hk hh.2, if_neg fun hh => hk hh.2]; exact h1 sc'

/-- the f13 part of the OnCommit closure (wipes clear-text flags only), named so that `runPend_eq` can split it off -/
def pendWipe (cfg : Cfg) (m : Mem) (p : Pend) : Mem :=
  if cfg.f13 && m.locked then
    { m with heap := fun id =>
        if p.infos.any (fun e => e.obj == id) && (m.heap id).kind == .managed then { m.heap id with ct := false }
        else m.heap id }
  else m

theorem pendWipe_spec (cfg : Cfg) (m : Mem) (p : Pend) :
    Ext m (pendWipe cfg m p) ∧ (pendWipe cfg m p).scopes = m.scopes := by
  unfold pendWipe
  split
  · exact ⟨⟨Nat.le_refl _, fun id _ => by dsimp only; split <;> exact ⟨rfl, rfl⟩, rfl, rfl⟩, rfl⟩
  · exact ⟨Ext.refl _, rfl⟩

theorem runPend_eq (cfg : Cfg) (m : Mem) (p : Pend) :
    runPend cfg m p =
      match p.infos.getLast?, acctInfoOf (p.infos.foldl (cacheNew p.scope p.watchOnly) (pendWipe cfg m p)) p.scope p.acct with
      | some last, some ai =>
        (p.infos.foldl (cacheNew p.scope p.watchOnly) (pendWipe cfg m p)).setAcct p.scope p.acct
          (setNext ai p.internal p.nextIdx last.obj)
      | _, _ => p.infos.foldl (cacheNew p.scope p.watchOnly) (pendWipe cfg m p) := rfl

theorem nextAddresses_loaded {m1 : Mem} {sc acct : Nat} {ai : AcctInfo} {row : AcctRow} (n : Nat)
    (internal : Bool) (hl : loadAcct d m sc acct = .ok m1) (hc : aget (m1.scopes sc).acctInfo acct = some ai)
    (hrow : aget (d.scopes sc).accts acct = some row) :
    let w := m1.watchOnly || !ai.hasEnc
    let r := mkAddrs m1 acct (brOf internal) (!m1.locked && !w) (nextOf ai internal) n
    ∃ d2 m2, putAll sc r.2 d = some d2 ∧ SameBut sc r.2 r.1 m2 ∧
      nextAddresses d m sc acct n internal =
        if n > MAXADDR || nextOf ai internal + n > MAXADDR then ⟨d, m1, none, .error .tooManyAddresses⟩
        else if (!m1.locked && !w) && !ai.keyPriv then ⟨d, m1, none, .error .panic⟩
        else ⟨d2, m2, some ⟨sc, acct, internal, nextOf ai internal + n, r.2, w⟩,
              .ok (r.2.map fun e => .chain e.acct e.br e.idx)⟩ := by
  intro w r
  have k4 := (mkAddrs_spec acct (brOf internal) (!m1.locked && !w) n (nextOf ai internal) m1).2.2
  obtain ⟨d2, m2, q1, q2, q3⟩ := putAndLoad_spec (m := r.1) (ai := ai) r.2 hrow (by rw [mkAddrs_scopes]; exact hc) k4.acct_eq
  have hai : acctInfoOf m1 sc acct = some ai := hc
  refine ⟨d2, m2, q2, q3, ?_⟩
  unfold nextAddresses
  simp only [r, w] at q1
  simp only [hl, hai, q1]
  rfl

/-- outcome of `nextAddresses` run in a transaction of its own; on success the memory is good only once the closure
it registered has run at commit -/
structure NextGood (cfg : Cfg) (d : Disk) (r : NextOut) : Prop where
  err : ∀ e, r.res = .error e → r.pend = none ∧ Good d r.mem
  ok  : ∀ l, r.res = .ok l → ∃ p, r.pend = some p ∧ Good r.disk (runPend cfg r.mem p) ∧ DiskWF r.disk

theorem nextGood_err {cfg : Cfg} {d' : Disk} (hg : Good d m) (e : Err) :
    NextGood cfg d ⟨d', m, none, .error e⟩ :=
  ⟨fun _ _ => ⟨rfl, hg⟩, fun _ h => nomatch h⟩

theorem good_next (cfg : Cfg) (hg : Good d m) (hw : DiskWF d) (sc acct n : Nat)
    (internal : Bool) : NextGood cfg d (nextAddresses d m sc acct n internal) := by
  cases hl : loadAcct d m sc acct with
  | error e => unfold nextAddresses; rw [hl]; exact nextGood_err hg e
  | ok m1 =>
    have hf := loadAcct_good hg hl
    obtain ⟨ai, row, hc, hr, _⟩ := hf.cached
    obtain ⟨d2, m2, hp, hS, heq⟩ := nextAddresses_loaded n internal hl hc (acctAns_ok_row hr).1
    rw [heq]
    refine ite_ind (fun _ => nextGood_err hf.good _) fun _ => ite_ind (fun _ => nextGood_err hf.good _) fun _ =>
      ⟨fun e h => (nomatch h), fun l _ => ⟨_, rfl, ?_⟩⟩
    generalize (m1.watchOnly || !ai.hasEnc) = w at *
    -- what extendAddresses would leave …
    obtain ⟨d2', hp', w2, g2⟩ := good_issue w (!m1.locked && !w) internal n hf.good hw hc hr
    have k2 := mkAddrs_scopes m1 acct (brOf internal) (!m1.locked && !w) (nextOf ai internal) n
    generalize mkAddrs m1 acct (brOf internal) (!m1.locked && !w) (nextOf ai internal) n = r at *
    cases hp.symm.trans hp'
    -- … and the closure's memory answers like it
    obtain ⟨p1, p2⟩ := pendWipe_spec cfg m2 ⟨sc, acct, internal, nextOf ai internal + n, r.2, w⟩
    rw [runPend_eq]
    dsimp only
    generalize pendWipe cfg m2 ⟨sc, acct, internal, nextOf ai internal + n, r.2, w⟩ = M0 at p1 p2 ⊢
    have hS0 := sameBut_foldl_cacheNew sc w r.2 (fun e he => Or.inl he)
      (⟨hS.ext.trans p1, fun sc' a => by rw [p2]; exact hS.acct sc' a, fun sc' k h => by rw [p2]; exact hS.addrs sc' k h⟩ :
        SameBut sc r.2 r.1 M0)
    have haiF : acctInfoOf (r.2.foldl (cacheNew sc w) M0) sc acct = some ai := by
      unfold acctInfoOf; rw [hS0.acct, foldl_cacheNew_acctInfo, k2]; exact hc
    rw [haiF]
    have hadr := fun sc' k => hS0.addrs sc' k fun hh => nomatch hh.2.choose_spec.1
    generalize r.2.getLast? = o at g2 ⊢
    cases o with
    | none => exact ⟨good_congr g2 hS0.ext hS0.acct hadr, w2⟩
    | some last =>
      exact ⟨good_congr g2 ⟨hS0.ext.heapN, hS0.ext.heap, hS0.ext.synced, hS0.ext.wo⟩
        (fun sc' a => by rw [aget_setAcct, aget_setAcct, hS0.acct])
        fun sc' k => by rw [setAcct_addrs, setAcct_addrs]; exact hadr sc' k, w2⟩

end AddrLock
