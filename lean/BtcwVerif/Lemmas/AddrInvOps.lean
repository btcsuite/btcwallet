import BtcwVerif.Lemmas.AddrNodup
import BtcwVerif.Model.AddrDeriveStep
/-!
Moves that keep `Inv`: those that change nothing it reads, `loadAccountInfo` (`loadAcct_spec`) and other updates of one
cache entry, rewriting one scope's disk part, allocating an address object.  `Ok hd s0 s`: `s` satisfies `Inv` and the
move from `s0` to it `Keeps` what is not in `Inv` — what the per-operation lemmas conclude.  Also `Inv_empty`; the two uses of the BIP32 laws
(`derive2_neuter`, `derive2pub_nonhard`); and what `newManagedAddressFromExtKey` delivers for a cached account (`Chained`,
`mkChained_ok`).  `LoadFrame s s1`: what a load leaves alone (`getSD`, `acctRow`, `addrRowAt`), the third conjunct of
`loadAcct_spec`.
-/
set_option linter.unusedSectionVars false
namespace AddrDerive

variable {K P : Type} [DecidableEq K] [DecidableEq P]

theorem Inv.quiet {hd : HD K P} {s s' : State K P} (h : Inv hd s) (hsd : ∀ sc, getSD s' sc = getSD s sc)
    (hc : ∀ sc a, cacheAt s' sc a = cacheAt s sc a) (hdou : ∀ sc, douAt s' sc = douAt s sc)
    (new : List (Obj K P)) (hheap : s'.mem.heap = s.mem.heap ++ new) (hnew : ∀ o, Obj.key o ∉ new)
    (hl : s'.mem.locked = s.mem.locked) (hmw : s'.mem.watchOnly = s.mem.watchOnly) (hdw : s'.disk.watchOnly = s.disk.watchOnly)
    (hrp : s'.disk.rootPriv = s.disk.rootPriv) (hroot : s'.root = s.root) (himp : s'.imports = s.imports) : Inv hd s' := by
  have e1 : ∀ sc a, acctRow s' sc a = acctRow s sc a := by intro sc a; simp [acctRow, hsd]
  have e4 : ∀ sc id, addrRowAt s' sc id = addrRowAt s sc id := by intro sc id; simp [addrRowAt, hsd]
  refine h.extend hl hmw hdw hrp hroot himp (by intro sc; simp [coinAt, hsd]) (by intro sc; simp [lastAt, hsd])
    (by intro sc a; rw [e1]) (by intro sc id a b i hr; rw [e4] at hr; exact Or.inl hr)
    (by intro sc a ai hc'; rw [hc] at hc'; exact Or.inl ⟨ai, hc', rfl, rfl, rfl⟩)
    (by intro sc a x; rw [hc]; exact x) new hheap (fun o ho => absurd ho (hnew o))
    (by intro sc e he; rw [hdou] at he; exact Or.inl he) (by intro sc e he; rw [hdou]; exact he) ?_
  intro idx o hge ho
  rw [hheap, List.getElem?_append_right hge] at ho
  exact absurd (List.mem_of_getElem? ho) (hnew o)

theorem Inv.of_scopes {hd : HD K P} {s s' : State K P} (h : Inv hd s) (hm : s'.mem.scopes = s.mem.scopes)
    (hds : s'.disk.scopes = s.disk.scopes) (hheap : s'.mem.heap = s.mem.heap)
    (hl : s'.mem.locked = s.mem.locked) (hmw : s'.mem.watchOnly = s.mem.watchOnly) (hdw : s'.disk.watchOnly = s.disk.watchOnly)
    (hrp : s'.disk.rootPriv = s.disk.rootPriv) (hroot : s'.root = s.root) (himp : s'.imports = s.imports) : Inv hd s' :=
  h.quiet (fun _ => by simp only [getSD, hds]) (fun _ _ => by simp only [cacheAt, getSM, hm]) (fun _ => by simp only [douAt, getSM, hm])
    [] (by rw [hheap, List.append_nil]) (fun _ => List.not_mem_nil) hl hmw hdw hrp hroot himp

theorem Inv_empty (hd : HD K P) : Inv hd (emptyState : State K P) := by
  refine ⟨rfl, by simp [emptyState], ⟨?_, ?_, ?_, ?_, ?_⟩, ?_, ?_, ?_, ?_⟩ <;>
    simp [emptyState, coinAt, lastAt, acctRow, addrRowAt, cacheAt, douAt, getSD, getSM, alookup]

structure LoadFrame (s s1 : State K P) : Prop where
  disk : s1.disk = s.disk
  root : s1.root = s.root
  imports : s1.imports = s.imports
  heap : s1.mem.heap = s.mem.heap
  locked : s1.mem.locked = s.mem.locked
  mwo : s1.mem.watchOnly = s.mem.watchOnly
  dou : ∀ sc, douAt s1 sc = douAt s sc
  created : s1.created = s.created
  poisoned : s1.poisoned = s.poisoned
  cmono : ∀ sc a, (cacheAt s sc a).isSome → (cacheAt s1 sc a).isSome

theorem LoadFrame.getSD {s s1 : State K P} (f : LoadFrame s s1) (sc : Scope) : getSD s1 sc = getSD s sc := by
  simp [AddrDerive.getSD, f.disk]
theorem LoadFrame.acctRow {s s1 : State K P} (f : LoadFrame s s1) (sc : Scope) (a : Nat) : acctRow s1 sc a = acctRow s sc a := by
  simp [AddrDerive.acctRow, f.getSD]
theorem LoadFrame.addrRowAt {s s1 : State K P} (f : LoadFrame s s1) (sc : Scope) (id : AddrId P) :
    addrRowAt s1 sc id = addrRowAt s sc id := by
  simp [AddrDerive.addrRowAt, f.getSD]

section
variable {hd : HD K P} {s s' : State K P} {sc : Scope} {acct : Nat} {sm : ScopeMem K P}
  {sd : ScopeDisk K P} {ai : AcctInfo K P}

/-- the account info `loadAccountInfo` builds from an account row (`hasPriv`: unlocked and not watching-only) -/
def rowInfo (hasPriv : Bool) (acct : Nat) : AcctRow K P → AcctInfo K P
  | .dflt pub priv ne ni name =>
    { keyEnc := priv, keyPub := pub, keyPriv := if hasPriv then priv else none, nextExt := ne, nextInt := ni,
      schema := none, fp := 0, childIdx := acct + H, name := name }
  | .wo pub fp ne ni name schema ci =>
    { keyEnc := none, keyPub := pub, keyPriv := none, nextExt := ne, nextInt := ni, schema := schema, fp := fp,
      childIdx := ci, name := name }

def LoadOutcome (s : State K P) (sc : Scope) (acct : Nat) : Except Err (State K P × AcctInfo K P) → Prop
  | .error _ => True
  | .ok (s1, ai) => ∃ sm sd, getSM s sc = some sm ∧ getSD s sc = some sd ∧
      ((s1 = s ∧ alookup sm.acctInfo acct = some ai) ∨
       ∃ row, alookup sm.acctInfo acct = none ∧ alookup sd.accts acct = some row ∧
        ai = rowInfo (!s.mem.locked && !s.mem.watchOnly) acct row ∧
        s1 = putSM s sc { sm with acctInfo := (acct, ai) :: sm.acctInfo })

theorem loadAcct_outcome (hd : HD K P) (s : State K P) (sc : Scope) (acct : Nat) :
    LoadOutcome s sc acct (loadAcct hd s sc acct) := by
  unfold loadAcct
  split
  · rename_i sm sd hsm hsd
    split
    · rename_i ai0 hai
      exact ⟨sm, sd, hsm, hsd, Or.inl ⟨rfl, hai⟩⟩
    · rename_i hnone
      refine ite_ind (fun _ => trivial) fun _ => ?_
      split
      · trivial
      · rename_i row hrow
        cases row with
        | dflt pub priv ne ni name =>
          dsimp only
          split
          · trivial
          · rename_i ai hmk
            refine ite_ind (fun _ => trivial) fun _ => ⟨sm, sd, hsm, hsd, Or.inr ⟨_, hnone, hrow, ?_, rfl⟩⟩
            split at hmk
            · cases hmk
            · cases hmk; rfl
        | wo pub fp ne ni name schema ci =>
          exact ite_ind (fun _ => trivial) fun _ => ⟨sm, sd, hsm, hsd, Or.inr ⟨_, hnone, hrow, rfl, rfl⟩⟩
  · trivial

theorem rowInfo_pub (p : Bool) (a : Nat) (r : AcctRow K P) : (rowInfo p a r).keyPub = rowPub r := by cases r <;> rfl
theorem rowInfo_enc (p : Bool) (a : Nat) (r : AcctRow K P) : (rowInfo p a r).keyEnc = rowPriv r := by cases r <;> rfl
theorem rowInfo_priv (p : Bool) (a : Nat) (r : AcctRow K P) : (rowInfo p a r).keyPriv = if p then rowPriv r else none := by
  cases r <;> cases p <;> rfl
theorem rowInfo_next (p : Bool) (a : Nat) (r : AcctRow K P) :
    (rowInfo p a r).nextExt = rowNext r false ∧ (rowInfo p a r).nextInt = rowNext r true := by cases r <;> exact ⟨rfl, rfl⟩

theorem Inv.cacheUpd (h : Inv hd s) (hsm : getSM s sc = some sm) (sm' : ScopeMem K P)
    (hdou : sm'.dou = sm.dou) {ai' : AcctInfo K P}
    (hi : ∀ a, alookup sm'.acctInfo a = if acct = a then some ai' else alookup sm.acctInfo a)
    (hok : (∃ ai, alookup sm.acctInfo acct = some ai ∧ ai'.keyPub = ai.keyPub ∧ ai'.keyEnc = ai.keyEnc ∧ ai'.keyPriv = ai.keyPriv) ∨
      ∃ row, acctRow s sc acct = some row ∧ CacheOK s ai' row) : Inv hd (putSM s sc sm') := by
  have hc := cacheAt_putSM_upd hsm sm' hi
  have hd' := douAt_putSM_same hsm sm' hdou
  refine h.extend rfl rfl rfl rfl rfl rfl (fun _ => rfl) (fun _ => rfl) (fun _ _ => rfl) (fun _ _ _ _ _ hr => Or.inl hr)
    ?_ ?_ [] (List.append_nil _).symm (fun _ ho => nomatch ho) (fun sc' e he => Or.inl (by rwa [hd'] at he))
    (fun sc' e he => by rwa [hd']) ?_
  · intro sc' a ai2 hc2
    rw [hc] at hc2
    split at hc2
    · rename_i e
      cases hc2
      rw [← e.1, ← e.2]
      rcases hok with ⟨ai, hai, e1, e2, e3⟩ | ⟨row, hr, hrow⟩
      · exact Or.inl ⟨ai, by rw [cacheAt_of_getSM hsm, hai], e1, e2, e3⟩
      · exact Or.inr ⟨row, hr, hrow.pub, hrow.enc, hrow.locked, hrow.unlocked⟩
    · exact Or.inl ⟨ai2, hc2, rfl, rfl, rfl⟩
  · intro sc' a x
    rw [hc]; split
    · rfl
    · exact x
  · intro idx o' hge ho'
    rw [heap_putSM, List.getElem?_eq_none hge] at ho'
    cases ho'

structure Ok (hd : HD K P) (s0 s : State K P) : Prop where
  inv : Inv hd s
  keeps : Keeps hd s0 s

theorem Ok.refl (h : Inv hd s) : Ok hd s s := ⟨h, .refl s⟩

theorem loadAcct_spec {s s1 : State K P} (h : Inv hd s) (hl : loadAcct hd s sc acct = .ok (s1, ai)) :
    Ok hd s s1 ∧ cacheAt s1 sc acct = some ai ∧ LoadFrame s s1 ∧ ∃ sm sd, getSM s1 sc = some sm ∧ getSD s1 sc = some sd := by
  obtain ⟨sm, sd, hsm, hsd, ⟨rfl, hai⟩ | ⟨row, hnone, hrow, rfl, rfl⟩⟩ :=
    (hl ▸ loadAcct_outcome hd s sc acct : LoadOutcome s sc acct (.ok (s1, ai)))
  · exact ⟨.refl h, by rw [cacheAt_of_getSM hsm, hai], ⟨rfl, rfl, rfl, rfl, rfl, rfl, fun _ => rfl, rfl, rfl, fun _ _ x => x⟩,
      sm, sd, hsm, hsd⟩
  have hc := cacheAt_putSM_upd hsm { sm with acctInfo := (acct, rowInfo (!s.mem.locked && !s.mem.watchOnly) acct row) :: sm.acctInfo }
    (fun _ => alookup_cons ..)
  have hr : acctRow s sc acct = some row := by rw [acctRow_of_getSD hsd, hrow]
  refine ⟨⟨?_, .load (·.putSM _ _) (fun _ _ => rfl) hr (rowInfo_next ..) hc⟩, by rw [hc, if_pos ⟨rfl, rfl⟩],
    ⟨rfl, rfl, rfl, rfl, rfl, rfl, douAt_putSM_same hsm _ rfl, rfl, rfl, fun sc' a x => ?_⟩, _, sd, by rw [getSM_putSM, if_pos rfl], hsd⟩
  · refine h.cacheUpd hsm _ rfl (fun _ => alookup_cons ..) (Or.inr ⟨row, hr, rowInfo_pub .., rowInfo_enc ..,
      fun hlk => by rw [rowInfo_priv, hlk]; rfl, fun hlk => ?_⟩)
    -- unlocked managers are not watching-only
    have hw : s.mem.watchOnly = false := by
      cases hw : s.mem.watchOnly with
      | false => rfl
      | true => rw [h.woLocked hw] at hlk; cases hlk
    rw [rowInfo_priv, rowInfo_enc, hlk, hw]; rfl
  · rw [hc]; split
    · rfl
    · exact x

theorem derive2_neuter (hd : HD K P) (hl : hd.Lawful) (k : K) (b i : Nat) (hb : b < H) (hi : i < H) :
    (derive2 hd k b i).map hd.neuter = derive2pub hd (hd.neuter k) b i := by
  unfold derive2 derive2pub
  have h1 := hl k b hb
  cases hc : hd.child k b with
  | none => simp [hc] at h1; simp [← h1]
  | some bk =>
    simp [hc] at h1
    simp [← h1]
    exact hl bk i hi

theorem derive2pub_nonhard (hd : HD K P) (hn : hd.NoHardPub) (p q : P) (b i : Nat) (h : derive2pub hd p b i = some q) :
    b < H ∧ i < H := by
  unfold derive2pub at h
  cases hb : hd.pubChild p b with
  | none => simp [hb] at h
  | some bp =>
    simp [hb] at h
    constructor
    · rcases Nat.lt_or_ge b H with h1 | h1
      · exact h1
      · rw [hn p b h1] at hb; cases hb
    · rcases Nat.lt_or_ge i H with h1 | h1
      · exact h1
      · rw [hn bp i h1] at h; cases h

theorem cache_priv_pub (h : Inv hd s)
    (hc : cacheAt s sc acct = some ai) {ak : K} (hk : ai.keyPriv = some ak) : hd.neuter ak = ai.keyPub ∧ ai.keyEnc = some ak := by
  obtain ⟨row, hr, hok⟩ := h.cache sc acct ai hc
  have hlk : s.mem.locked = false := by
    cases hlk : s.mem.locked with
    | false => rfl
    | true => rw [hok.locked hlk] at hk; cases hk
  have henc : ai.keyEnc = some ak := by rw [← hok.unlocked hlk]; exact hk
  exact ⟨hok.pub ▸ (h.disk.row sc acct row hr).neuter (hok.enc ▸ henc), henc⟩

/-- what `newManagedAddressFromExtKey` delivers for child `b/i` of a cached account -/
structure Chained (hd : HD K P) (s : State K P) (sc : Scope) (acct : Nat) (ai : AcctInfo K P) (usePriv : Bool) (b i : Nat)
    (o : KeyObj K P) : Prop where
  ok : KeyObjOK hd s o
  scope : o.scope = sc
  acct : o.acct = acct
  branch : o.branch = b
  index : o.index = i
  notImp : o.imported = false
  hasPriv : o.hasPrivAcct = ai.keyEnc.isSome
  acctPub : o.acctPub = some ai.keyPub
  priv : usePriv = true → o.privEnc.isSome
  pub : usePriv = false → ∃ p, derive2pub hd ai.keyPub b i = some p ∧ o.pub = .hd p

theorem mkChained_ok (hlaw : hd.Lawful) (h : Inv hd s)
    (hc : cacheAt s sc acct = some ai) {usePriv : Bool} {b i : Nat} {typ : AddrType} {ac fp : Nat}
    {o : KeyObj K P} (hm : mkChained hd sc acct ai usePriv b i typ ac fp = some o) :
    Chained hd s sc acct ai usePriv b i o := by
  obtain ⟨row, hr, hok⟩ := h.cache sc acct ai hc
  unfold mkChained at hm
  cases usePriv with
  | true =>
    simp only [if_true] at hm
    cases hk : ai.keyPriv with
    | none => simp [hk] at hm
    | some ak =>
      simp only [hk] at hm
      cases hd2 : derive2 hd ak b i with
      | none => simp [hd2] at hm
      | some k =>
        simp [hd2] at hm
        subst hm
        have hn := (cache_priv_pub h hc hk).1
        refine ⟨⟨?_, ?_, by simp⟩, rfl, rfl, rfl, rfl, rfl, rfl, rfl, by simp, by simp⟩
        · intro k' hk'; simp at hk'; subst hk'; rfl
        · intro _
          refine ⟨row, hr, by simp [hok.pub], rfl, ?_, ?_⟩
          · intro hb hi
            have := derive2_neuter hd hlaw ak b i hb hi
            rw [hd2, hn, hok.pub] at this
            exact ⟨hd.neuter k, this.symm, rfl⟩
          · intro _; simp [hok.enc]
  | false =>
    simp at hm
    obtain ⟨p, hp, rfl⟩ := hm
    refine ⟨⟨by simp, ?_, by simp⟩, rfl, rfl, rfl, rfl, rfl, rfl, rfl, by simp, fun _ => ⟨p, hp, rfl⟩⟩
    intro _
    refine ⟨row, hr, by simp [hok.pub], rfl, fun _ _ => ⟨p, by rw [← hok.pub]; exact hp, rfl⟩, ?_⟩
    intro _; simp [hok.enc]

theorem Inv.diskUpd (h : Inv hd s)
    (hsd : getSD s sc = some sd) (sd' : ScopeDisk K P)
    (hcoin : sd'.coinPriv = sd.coinPriv) (hlast : sd'.lastAcct = sd.lastAcct)
    (hkey : ∀ a, (alookup sd'.accts a).map rowKey = (alookup sd.accts a).map rowKey)
    (haddr : ∀ id a b i, alookup sd'.addrs id = some (.chain a b i) → alookup sd.addrs id = some (.chain a b i) ∨
      ∃ row p cls, alookup sd'.accts a = some row ∧ derive2pub hd (rowPub row) b i = some p ∧ id = .key (.hd p) cls true) :
    Inv hd (putSD s sc sd') := by
  refine h.extend rfl rfl rfl rfl rfl rfl ?_ ?_ ?_ ?_ (fun sc' a ai hc => Or.inl ⟨ai, hc, rfl, rfl, rfl⟩)
    (fun _ _ x => x) [] (by simp) (by intro o ho; cases ho) (fun _ _ he => Or.inl he) (fun _ _ he => he) ?_
  · intro sc'
    rw [coinAt_putSD]
    by_cases hsc : sc = sc'
    · subst hsc; simp [coinAt_of_getSD hsd, hcoin]
    · simp [hsc]
  · intro sc'
    rw [lastAt_putSD]
    by_cases hsc : sc = sc'
    · subst hsc; simp [lastAt_of_getSD hsd, hlast]
    · simp [hsc]
  · intro sc' a
    rw [acctRow_putSD]
    by_cases hsc : sc = sc'
    · subst hsc; simp [acctRow_of_getSD hsd, hkey]
    · simp [hsc]
  · intro sc' id a b i hr
    rw [addrRowAt_putSD] at hr
    by_cases hsc : sc = sc'
    · subst hsc
      simp only [if_true] at hr
      rcases haddr id a b i hr with h0 | ⟨row, p, cls, h1, h2, h3⟩
      · exact Or.inl (by rw [addrRowAt_of_getSD hsd]; exact h0)
      · exact Or.inr ⟨row, p, cls, by simp [h1], h2, h3⟩
    · simp [hsc] at hr; exact Or.inl hr
  · intro idx o hge ho
    simp at ho
    rw [List.getElem?_eq_none hge] at ho
    cases ho


theorem putSM_putSD_comm (s : State K P) (sc sc' : Scope) (sd : ScopeDisk K P) (sm : ScopeMem K P) :
    putSM (putSD s sc sd) sc' sm = putSD (putSM s sc' sm) sc sd := rfl


theorem Inv.addObj (h : Inv hd s)
    (hsm : getSM s sc = some sm) (o : KeyObj K P) (hok : KeyObjOK hd s o)
    (addrs' : List (AddrId P × Nat)) (queue : Bool)
    (hq : queue = true → o.scope = sc ∧ o.imported = false ∧ (cacheAt s sc o.acct).isSome ∧
      ∃ ap p, o.acctPub = some ap ∧ derive2pub hd ap o.branch o.index = some p ∧ o.pub = .hd p)
    (hsign : o.imported = false → o.hasPrivAcct = true → s.mem.watchOnly = false →
      o.privEnc.isSome ∨ (s.mem.locked = true ∧ queue = true)) :
    Inv hd (putSM (alloc s (.key o)).1 sc
      { sm with addrs := addrs', dou := if queue then sm.dou ++ [(s.mem.heap.length, o.branch, o.index)] else sm.dou }) := by
  have hmem : ∀ e, e ∈ (if queue = true then sm.dou ++ [(s.mem.heap.length, o.branch, o.index)] else sm.dou) ↔
      e ∈ douAt s sc ∨ (queue = true ∧ e = (s.mem.heap.length, o.branch, o.index)) := by
    intro e; rw [douAt_of_getSM hsm]; cases queue <;> simp
  -- kept opaque: the frame rule is instantiated at this state, and the `if` would be carried through every hypothesis
  generalize (if queue = true then sm.dou ++ [(s.mem.heap.length, o.branch, o.index)] else sm.dou) = dou' at hmem ⊢
  have hc := cacheAt_putSM_same (s := (alloc s (.key o)).1) hsm { sm with addrs := addrs', dou := dou' } rfl
  refine h.extend rfl rfl rfl rfl rfl rfl (fun _ => rfl) (fun _ => rfl) (fun _ _ => rfl) (fun _ _ _ _ _ hr => Or.inl hr)
    (fun sc' a ai hca => Or.inl ⟨ai, by rw [hc] at hca; exact hca, rfl, rfl, rfl⟩) (fun sc' a x => by rw [hc]; exact x)
    [.key o] rfl ?_ ?_ ?_ ?_
  · intro o' ho'
    cases List.mem_singleton.mp ho'
    exact KeyObjOK.congr (s := s) (fun _ _ => rfl) rfl hok
  · intro sc' e he
    rw [douAt_putSM] at he
    split at he
    · rename_i hsc
      subst hsc
      rcases (hmem e).mp he with he | ⟨hqt, rfl⟩
      · exact Or.inl he
      · obtain ⟨h1, h2, h3, h4⟩ := hq hqt
        exact Or.inr ⟨o, List.getElem?_concat_length, h2, h1, rfl, rfl, by rw [hc]; exact h3, h4⟩
    · exact Or.inl he
  · intro sc' e he
    rw [douAt_putSM]
    split
    · rename_i hsc
      subst hsc
      exact (hmem e).mpr (.inl he)
    · exact he
  · intro idx o' hge ho' hni hpa hw
    obtain ⟨rfl, e⟩ := getElem?_concat_ge hge ho'
    cases e
    rcases hsign hni hpa hw with h1 | ⟨h1, hqt⟩
    · exact Or.inl h1
    · refine Or.inr ⟨h1, (s.mem.heap.length, o.branch, o.index), ?_, rfl⟩
      rw [douAt_putSM, (hq hqt).1, if_pos rfl]
      exact (hmem _).mpr (.inr ⟨hqt, rfl⟩)

theorem Inv.addScr (h : Inv hd s)
    (hsm : getSM s sc = some sm) (o : ScrObj) (addrs' : List (AddrId P × Nat)) :
    Inv hd (putSM (alloc s (.scr o)).1 sc { sm with addrs := addrs' }) :=
  h.quiet (fun _ => rfl) (cacheAt_putSM_same (s := (alloc s (.scr o)).1) hsm _ rfl)
    (douAt_putSM_same (s := (alloc s (.scr o)).1) hsm _ rfl) [.scr o] rfl (fun _ ho => by simp at ho) rfl rfl rfl rfl rfl rfl

theorem Inv.setAddrs (h : Inv hd s)
    (hsm : getSM s sc = some sm) (addrs' : List (AddrId P × Nat)) :
    Inv hd (putSM s sc { sm with addrs := addrs' }) :=
  h.quiet (fun _ => rfl) (cacheAt_putSM_same hsm _ rfl) (douAt_putSM_same hsm _ rfl) [] (List.append_nil _).symm (fun _ => List.not_mem_nil)
    rfl rfl rfl rfl rfl rfl

theorem Inv.setCache (h : Inv hd s)
    (hsm : getSM s sc = some sm) {ai ai' : AcctInfo K P} (hai : alookup sm.acctInfo acct = some ai)
    (e1 : ai'.keyPub = ai.keyPub) (e2 : ai'.keyEnc = ai.keyEnc) (e3 : ai'.keyPriv = ai.keyPriv) :
    Inv hd (putSM s sc { sm with acctInfo := aset sm.acctInfo acct ai' }) :=
  h.cacheUpd hsm _ rfl (fun _ => alookup_aset ..) (Or.inl ⟨ai, hai, e1, e2, e3⟩)

theorem getSM_fresh (d : Disk K P) (s : State K P) (hm : s.mem = freshMem d) (sc : Scope) :
    getSM s sc = (alookup d.scopes sc).map fun sd => { schema := sd.schema, acctInfo := [], addrs := [], dou := [] } := by
  simp only [getSM, hm, freshMem]
  exact alookup_map d.scopes (fun _ sd => ({ schema := sd.schema, acctInfo := [], addrs := [], dou := [] } : ScopeMem K P)) sc

theorem Inv.bindH (h : Inv hd s) (hh i : Nat) : Inv hd (bindH s hh i) :=
  h.of_scopes rfl rfl rfl rfl rfl rfl rfl rfl rfl

theorem Inv.poison (h : Inv hd s) : Inv hd { s with poisoned := true } :=
  h.of_scopes rfl rfl rfl rfl rfl rfl rfl rfl rfl

theorem Ok.bindH {s0 : State K P} (x : Ok hd s0 s) (hh i : Nat) : Ok hd s0 (bindH s hh i) :=
  ⟨x.inv.bindH hh i, x.keeps.trans (.of_scopes rfl rfl)⟩

end

end AddrDerive
