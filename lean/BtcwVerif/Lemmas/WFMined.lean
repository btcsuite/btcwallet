import BtcwVerif.Lemmas.WF
/-! `insertMinedTx` as `recordTx`, then `updateMinedBalance`, then the removal of the unconfirmed copy (together `confirmCore`),
then conflict removal and lease release (`insertMinedTx_core`); one step of the spend loop as one write (`spendInput_some`);
`recordTx` preserves `WF` under the chain-consistency preconditions of the *confirmed* event (`ConfirmPre`). -/
namespace TxStore
open KMap

/-- first two writes of `insertMinedTx`: the block record gets the tx hash, the tx record is stored -/
def recordTx (s : Store) (rec : Tx) (bm : BlockMeta) : Store :=
  let s := match s.blocks.find? bm.block.height with
    | none => { s with blocks := s.blocks.insert bm.block.height ⟨bm.block.hash, bm.time, [rec.hash]⟩ }
    | some br => { s with blocks := s.blocks.insert bm.block.height { br with txs := br.txs ++ [rec.hash] } }
  { s with txrecs := s.txrecs.insert ⟨rec.hash, bm.block⟩ rec }

/-- `insertMinedTx` up to (excluding) `removeDoubleSpends` -/
def confirmCore (s : Store) (rec : Tx) (bm : BlockMeta) : Store :=
  let s1 := updateMinedBalance (recordTx s rec bm) rec bm.block
  if s1.unmined.contains rec.hash then deleteUnminedTx s1 rec else s1

theorem insertMinedTx_core (s : Store) (rec : Tx) (bm : BlockMeta) :
    insertMinedTx s rec bm =
      if s.txrecs.contains ⟨rec.hash, bm.block⟩ then throw Err.duplicate else
      removeDoubleSpends (confirmCore s rec bm) rec >>= fun s => pure (rec.ins.foldl unlockOutputRaw s) := by
  unfold insertMinedTx confirmCore recordTx
  by_cases h : s.txrecs.contains ⟨rec.hash, bm.block⟩ = true
  · simp [h]
  · simp only [h, Bool.false_eq_true, if_false]
    cases s.blocks.find? bm.block.height <;> rfl

def newBlockRec (s : Store) (rec : Tx) (bm : BlockMeta) : BlockRec :=
  match s.blocks.find? bm.block.height with
  | none => ⟨bm.block.hash, bm.time, [rec.hash]⟩
  | some br => { br with txs := br.txs ++ [rec.hash] }

theorem recordTx_fields (s : Store) (rec : Tx) (bm : BlockMeta) :
    recordTx s rec bm = { s with blocks := s.blocks.insert bm.block.height (newBlockRec s rec bm),
                                 txrecs := s.txrecs.insert ⟨rec.hash, bm.block⟩ rec } := by
  unfold recordTx newBlockRec
  cases s.blocks.find? bm.block.height <;> rfl

def baseCredit (s : Store) (k : CredKey) : CreditVal := (s.credits.find? k).getD ⟨0, false, false, none⟩

theorem baseCredit_of_find {s : Store} {k : CredKey} {cv : CreditVal} (h : s.credits.find? k = some cv) :
    baseCredit s k = cv := by
  unfold baseCredit; rw [h]; rfl

theorem spendInput_none {rec : Tx} {blk : Block} {s : Store} {bal : Int} {j : Nat} {inp : OutPoint}
    (h : s.unspent.find? inp = none) : spendInput rec blk (s, bal) (j, inp) = (s, bal) := by
  unfold spendInput; simp only [h]

/-- what `spendInput` writes for an input found in the unspent index under block `b0` -/
def spendStore (rec : Tx) (blk : Block) (s : Store) (j : Nat) (inp : OutPoint) (b0 : Block) : Store :=
  { s with
    credits := s.credits.insert ⟨inp.hash, b0, inp.index⟩
      { baseCredit s ⟨inp.hash, b0, inp.index⟩ with spent := true, spender := some ⟨rec.hash, blk, j⟩ }
    debits := s.debits.insert ⟨rec.hash, blk, j⟩ ⟨(baseCredit s ⟨inp.hash, b0, inp.index⟩).amount, ⟨inp.hash, b0, inp.index⟩⟩
    unspent := s.unspent.erase inp }

theorem spendInput_some {rec : Tx} {blk : Block} {s : Store} {bal : Int} {j : Nat} {inp : OutPoint} {b0 : Block}
    (h : s.unspent.find? inp = some b0) :
    spendInput rec blk (s, bal) (j, inp) =
      (spendStore rec blk s j inp b0, bal - (baseCredit s ⟨inp.hash, b0, inp.index⟩).amount) := by
  unfold spendInput spendCredit spendStore baseCredit; simp only [h]

/-- chain consistency of a *confirmed* event, read on the store before the insert -/
structure ConfirmPre (s : Store) (rec : Tx) (bm : BlockMeta) : Prop where
  /-- the transaction is not recorded in any block yet -/
  fresh : ∀ k, (s.txrecs.find? k).isSome → k.hash ≠ rec.hash
  /-- one block per height -/
  sameBlock : ∀ br, s.blocks.find? bm.block.height = some br → br.hash = bm.block.hash
  /-- the unconfirmed credits recorded for this hash are outputs of this transaction -/
  ucValid : ∀ op uc, s.unminedCredits.find? op = some uc → op.hash = rec.hash → rec.outs[op.index]? = some uc.amount

theorem newBlockRec_hash (s : Store) (rec : Tx) (bm : BlockMeta) (hp : ConfirmPre s rec bm) :
    (newBlockRec s rec bm).hash = bm.block.hash := by
  unfold newBlockRec
  cases h : s.blocks.find? bm.block.height with
  | none => rfl
  | some br => exact hp.sameBlock br h

theorem newBlockRec_txs (s : Store) (rec : Tx) (bm : BlockMeta) :
    (newBlockRec s rec bm).txs = ((s.blocks.find? bm.block.height).map (·.txs)).getD [] ++ [rec.hash] := by
  unfold newBlockRec
  cases s.blocks.find? bm.block.height <;> rfl

theorem wf_recordTx (s : Store) (rec : Tx) (bm : BlockMeta) (hw : WF s) (hp : ConfirmPre s rec bm) :
    WF (recordTx s rec bm) := by
  rw [recordTx_fields]
  have htx : ∀ k, (s.txrecs.find? k).isSome → (s.txrecs.insert ⟨rec.hash, bm.block⟩ rec).find? k = s.txrecs.find? k :=
    fun k hk => find?_insert_ne _ _ fun e => hp.fresh k hk (e ▸ rfl)
  have hnew : ((s.txrecs.insert ⟨rec.hash, bm.block⟩ rec).find? ⟨rec.hash, ⟨bm.block.height, bm.block.hash⟩⟩).isSome :=
    (find?_insert_self s.txrecs ⟨rec.hash, bm.block⟩ rec).symm ▸ rfl
  have hfind : ∀ h, (s.blocks.insert bm.block.height (newBlockRec s rec bm)).find? h =
      if bm.block.height = h then some (newBlockRec s rec bm) else s.blocks.find? h := fun h => find?_insert ..
  refine hw.of_view rfl rfl rfl hw.nodupUC (sorted_insert_nat _ _ _ hw.sorted)
    (fun h br hf => ?_) (fun k rec' hk => ?_) (fun k1 k2 h1 h2 e => ?_)
    (fun k cv hk => htx _ (by obtain ⟨_, r0, _, _, _, hr0, _⟩ := hw.listed k cv hk; rw [hr0]; rfl))
  · rw [hfind] at hf
    split at hf
    · rename_i e
      cases hf; subst e
      rw [newBlockRec_hash s rec bm hp, newBlockRec_txs]
      cases hb : s.blocks.find? bm.block.height with
      | none => exact ⟨(List.pairwise_singleton _ _), fun tx htx' => by cases List.mem_singleton.mp htx'; exact hnew⟩
      | some br0 =>
        obtain ⟨hnd, hrecd⟩ := hw.block hb
        rw [hp.sameBlock br0 hb] at hrecd
        refine ⟨List.nodup_append.mpr ⟨hnd, (List.pairwise_singleton _ _), fun a ha b hb' e => ?_⟩, fun tx htx' => ?_⟩
        · cases List.mem_singleton.mp hb'
          exact hp.fresh _ (hrecd a ha) e
        · rcases List.mem_append.mp htx' with h1 | h1
          · rw [htx _ (hrecd tx h1)]; exact hrecd tx h1
          · cases List.mem_singleton.mp h1; exact hnew
    · obtain ⟨h1, h2⟩ := hw.block hf
      exact ⟨h1, fun tx htx' => by rw [htx _ (h2 tx htx')]; exact h2 tx htx'⟩
  · replace hk : (s.txrecs.insert ⟨rec.hash, bm.block⟩ rec).find? k = some rec' := hk
    rw [find?_insert] at hk
    split at hk
    · rename_i e
      cases hk; subst e
      exact ⟨rfl, newBlockRec s rec bm, by rw [hfind, if_pos rfl], newBlockRec_hash s rec bm hp, by
        rw [newBlockRec_txs]; exact List.mem_append_right _ List.mem_cons_self⟩
    · obtain ⟨hhash, br0, hb0, hbh, hmem⟩ := hw.recListed k rec' hk
      refine ⟨hhash, ?_⟩
      rw [hfind]
      split
      · rename_i e
        rw [← e] at hb0
        exact ⟨_, rfl, (newBlockRec_hash s rec bm hp).trans ((hp.sameBlock br0 hb0).symm.trans hbh), by
          rw [newBlockRec_txs, hb0]; exact List.mem_append_left _ hmem⟩
      · exact ⟨br0, hb0, hbh, hmem⟩
  · have old : ∀ k, ((s.txrecs.insert ⟨rec.hash, bm.block⟩ rec).find? k).isSome →
        k = ⟨rec.hash, bm.block⟩ ∨ (s.txrecs.find? k).isSome := by
      intro k hk
      rw [find?_insert] at hk
      split at hk
      · exact .inl (Eq.symm ‹_›)
      · exact .inr hk
    rcases old k1 h1 with rfl | g1 <;> rcases old k2 h2 with rfl | g2
    · rfl
    · exact absurd e.symm (hp.fresh k2 g2)
    · exact absurd e (hp.fresh k1 g1)
    · exact hw.oneBlock k1 k2 g1 g2 e

end TxStore
