import BtcwVerif.Lemmas.RefRange
import BtcwVerif.Lemmas.RefUtxos
/-!
# Path independence, ledger side: what `Ledger.balance`, `utxos`, `details` answer is a function of the ledger's facts
(which blocks hold which transactions, which transactions are unconfirmed, which outputs are credited, which leases are
in force, the clock), not of the order in which the wallet learned them.
-/
namespace TxStore
open Ledger

/-- the two ledgers hold the same facts: the same blocks with the same transactions (in any order inside a block), the
same unconfirmed transactions (in any order), the same credited outputs, the same leases, the same clock -/
structure SameFacts (L1 L2 : Ledger) : Prop where
  chain : Pointwise (fun a b : LBlock => a.bm = b.bm ∧ a.txs.Perm b.txs) L1.chain L2.chain
  pool : L1.pool.Perm L2.pool
  credit : ∀ op, lookup L1.credit op = lookup L2.credit op
  leases : ∀ op, lookup L1.leases op = lookup L2.leases op
  now : L1.now = L2.now

theorem SameFacts.refl (L : Ledger) : SameFacts L L :=
  ⟨pointwise_refl (fun a => ⟨rfl, List.Perm.refl _⟩) _, List.Perm.refl _, fun _ => rfl, fun _ => rfl, rfl⟩

theorem perm_flatMap_pointwise {α β γ : Type} {R : α → β → Prop} (f : α → List γ) (g : β → List γ)
    (hfg : ∀ a b, R a b → (f a).Perm (g b)) : ∀ {l : List α} {m : List β}, Pointwise R l m →
    (l.flatMap f).Perm (m.flatMap g) := by
  intro l m h
  induction h with
  | nil => exact List.Perm.refl _
  | cons hr _ ih =>
    rw [List.flatMap_cons, List.flatMap_cons]
    exact List.Perm.append (hfg _ _ hr) ih

section
variable {L1 L2 : Ledger} (h : SameFacts L1 L2)
include h

theorem SameFacts.chainTxs_perm : (chainTxs L1).Perm (chainTxs L2) := by
  unfold chainTxs
  refine perm_flatMap_pointwise _ _ ?_ h.chain
  rintro a b ⟨e, hp⟩
  rw [e]
  exact hp.map _

theorem SameFacts.known_perm : (known L1).Perm (known L2) := by
  unfold known
  exact List.Perm.append (h.chainTxs_perm.map _) (h.pool.map _)

theorem SameFacts.credited_eq (op : OutPoint) : credited L1 op = credited L2 op := by
  unfold credited; rw [h.credit]

theorem SameFacts.spent_eq (op : OutPoint) :
    Ledger.spent L1 op = Ledger.spent L2 op := by
  unfold Ledger.spent; exact h.known_perm.any_eq

theorem SameFacts.utxos_perm : (utxos L1).Perm (utxos L2) := by
  unfold utxos leased leaseOf
  simp only [h.credited_eq, h.spent_eq, h.leases, h.now]
  exact h.known_perm.flatMap_right _

theorem SameFacts.balance_eq (mat m sy : Int) :
    Ledger.balance L1 mat m sy = Ledger.balance L2 mat m sy := by
  rw [balance_eq_sum_utxos, balance_eq_sum_utxos]
  exact perm_map_sum _ h.utxos_perm

/-- finding a transaction by hash does not depend on the order (hashes identify transactions) -/
theorem SameFacts.find_known_eq (hl2 : LWF L2) (x : Nat) :
    (known L1).find? (fun p => p.1.hash == x) = (known L2).find? (fun p => p.1.hash == x) := by
  cases h1 : (known L1).find? (fun p => p.1.hash == x) with
  | none =>
    exact (List.find?_eq_none.mpr fun p hp => List.find?_eq_none.mp h1 p (h.known_perm.mem_iff.mpr hp)).symm
  | some p =>
    have hpx : p.1.hash = x := by simpa using List.find?_some h1
    rw [← hpx, known_find hl2 (h.known_perm.mem_iff.mp (List.mem_of_find?_eq_some h1))]

theorem SameFacts.creditValue_eq (hl2 : LWF L2) (op : OutPoint) :
    creditValue L1 op = creditValue L2 op := by
  unfold creditValue
  rw [h.credited_eq, h.find_known_eq hl2]

theorem SameFacts.detailsOf_eq (hl2 : LWF L2) (t : Tx)
    (ob : Option BlockMeta) : detailsOf L1 t ob = detailsOf L2 t ob := by
  unfold detailsOf
  simp only [h.credit, h.spent_eq, h.creditValue_eq hl2]

theorem SameFacts.details_eq (hl2 : LWF L2) (x : Nat) :
    Ledger.details L1 x = Ledger.details L2 x := by
  unfold Ledger.details
  rw [h.find_known_eq hl2]
  cases (known L2).find? (fun p => p.1.hash == x) with
  | none => rfl
  | some p => simp only [h.detailsOf_eq hl2]

end

/-- two records hold the same transaction under the same block with the same credit and debit records (as sets);
with `SameAnswer` the vocabulary of the statement of `C02_path_independence`, which is their only use -/
structure SameRecord (d d' : Details) : Prop where
  tx : d.tx = d'.tx
  block : d.block = d'.block
  credits : ∀ c, c ∈ d.credits ↔ c ∈ d'.credits
  debits : ∀ x, x ∈ d.debits ↔ x ∈ d'.debits

def SameAnswer : Option Details → Option Details → Prop
  | none, none => True
  | some d, some d' => SameRecord d d'
  | _, _ => False

theorem SameAnswer.refl : ∀ (o : Option Details), SameAnswer o o
  | none => trivial
  | some _ => ⟨rfl, rfl, fun _ => Iff.rfl, fun _ => Iff.rfl⟩

theorem sameAnswer_of_agree {o1 o2 o : Option Details} (h1 : DetailsAgree o1 o) (h2 : DetailsAgree o2 o) :
    SameAnswer o1 o2 := by
  cases o1 <;> cases o2 <;> cases o <;> simp only [DetailsAgree, SameAnswer] at h1 h2 ⊢
  exact ⟨h1.tx.trans h2.tx.symm, h1.block.trans h2.block.symm, fun c => (h1.credits c).trans (h2.credits c).symm,
    fun x => (h1.debits x).trans (h2.debits x).symm⟩

end TxStore
