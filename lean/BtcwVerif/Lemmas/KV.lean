/-
Lemmas about the `KV` model (C11).  The store is reasoned about pointwise, as the function `q ↦ d[q]?`.  What a call does to
the transaction is case-split once (`step_spec`); frame, locality, well-formedness and what a whole program does
(`runOps_core`) are read off that.  What a call ANSWERS is computed where a theorem needs it (`mutate_open`, behind
`mutate_readonly` / `C11_readonly_refuses` and `batchCall_eq`; `mutator_ok`; the cursor lemmas).  Core Lean + Std (+ `Lemmas/Util`).
-/
import BtcwVerif.Model.KV
import BtcwVerif.Lemmas.Util
open Std

namespace KV

theorem childKey_eq_some {p q : Path} {k : Bytes} : childKey p q = some k ↔ q = p ++ [k] := by
  induction p generalizing q with
  | nil =>
    cases q with
    | nil => simp [childKey]
    | cons a q => cases q <;> simp [childKey]
  | cons a p ih =>
    cases q with
    | nil => simp [childKey]
    | cons b q =>
      simp only [childKey, List.cons_append, List.cons.injEq]
      by_cases h : a = b
      · simp [h, ih]
      · simp [h, Ne.symm h]

theorem compare_append_singleton (p : Path) (k k' : Bytes) :
    compare (p ++ [k]) (p ++ [k']) = compare k k' := by
  induction p with
  | nil => simp [List.compare_cons_cons]
  | cons a p ih => simp [List.compare_cons_cons, ih]

theorem append_singleton_ne_self (p : Path) (k : Bytes) : p ++ [k] ≠ p :=
  fun h => by simpa using congrArg List.length h

theorem append_singleton_ne_nil (p : Path) (k : Bytes) : p ++ [k] ≠ [] := by simp

theorem append_singleton_inj {p p' : Path} {k k' : Bytes} : p ++ [k] = p' ++ [k'] ↔ p = p' ∧ k = k' := by
  simp

theorem get_insert (d : DB) (a q : Path) (e : Entry) :
    (d.insert a e)[q]? = if a = q then some e else d[q]? := by
  rw [ExtTreeMap.getElem?_insert]
  simp only [compare_eq_iff_eq]

theorem get_erase (d : DB) (a q : Path) :
    (d.erase a)[q]? = if a = q then none else d[q]? := by
  rw [ExtTreeMap.getElem?_erase]
  simp only [compare_eq_iff_eq]

theorem get_deleteBucket (d : DB) (a q : Path) :
    (d.filter (fun q _ => !a.isPrefixOf q))[q]? = if a <+: q then none else d[q]? := by
  rw [ExtTreeMap.getElem?_filter']
  by_cases h : a <+: q
  · rw [if_pos h, List.isPrefixOf_iff_prefix.mpr h]; cases d[q]? <;> rfl
  · rw [if_neg h, Bool.eq_false_iff.mpr (mt List.isPrefixOf_iff_prefix.mp h)]; cases d[q]? <;> rfl

theorem insert_comm (d : DB) {a b : Path} (x y : Entry) (h : a ≠ b) :
    (d.insert a x).insert b y = (d.insert b y).insert a x := by
  apply ExtTreeMap.ext_getElem?
  intro q
  simp only [get_insert]
  by_cases h1 : b = q
  · subst h1; rw [if_pos rfl, if_neg h, if_pos rfl]
  · simp only [if_neg h1]

section store
variable {d d' : DB} {p q a : Path} {k v n : Bytes}

theorem mem_view {s : Option Bytes} :
    (k, s) ∈ view d p ↔ (d[p ++ [k]]?).map Entry.shown = some s := by
  unfold view
  rw [List.mem_filterMap, Option.map_eq_some_iff]
  constructor
  · rintro ⟨⟨q, e⟩, hmem, hf⟩
    obtain ⟨k', hk', heq⟩ := Option.map_eq_some_iff.mp hf
    cases heq
    rw [← childKey_eq_some.mp hk']
    exact ⟨e, ExtTreeMap.mem_toList_iff_getElem?_eq_some.mp hmem, rfl⟩
  · rintro ⟨e, he, rfl⟩
    refine ⟨(p ++ [k], e), ExtTreeMap.mem_toList_iff_getElem?_eq_some.mpr he, ?_⟩
    rw [childKey_eq_some.mpr rfl]; rfl

theorem view_sorted (d : DB) (p : Path) :
    (view d p).Pairwise (fun a b => compare a.1 b.1 = .lt) := by
  unfold view
  refine List.Pairwise.filterMap _ ?_ (ExtTreeMap.ordered_keys_toList (t := d))
  intro a a' hlt b hb b' hb'
  obtain ⟨k, hk, rfl⟩ := Option.map_eq_some_iff.mp hb
  obtain ⟨k', hk', rfl⟩ := Option.map_eq_some_iff.mp hb'
  rwa [childKey_eq_some.mp hk, childKey_eq_some.mp hk', compare_append_singleton] at hlt

theorem lt_irrefl_bytes (a : Bytes) : compare a a ≠ .lt := by
  rw [compare_self]; decide

theorem sorted_ext {l₁ l₂ : List (Bytes × Option Bytes)}
    (h₁ : l₁.Pairwise (fun a b => compare a.1 b.1 = .lt))
    (h₂ : l₂.Pairwise (fun a b => compare a.1 b.1 = .lt))
    (h : ∀ x, x ∈ l₁ ↔ x ∈ l₂) : l₁ = l₂ := by
  have ne : ∀ {a b : Bytes × Option Bytes}, compare a.1 b.1 = .lt → a ≠ b :=
    fun hab e => lt_irrefl_bytes _ (e ▸ hab)
  refine List.Perm.eq_of_pairwise ?_ h₁ h₂ ((List.perm_ext_iff_of_nodup (h₁.imp ne) (h₂.imp ne)).mpr h)
  intro a b _ _ hab hba
  exact absurd (TransCmp.lt_trans (cmp := (compare : Bytes → Bytes → Ordering)) hab hba) (lt_irrefl_bytes _)

theorem view_ext
    (h : ∀ k, (d[p ++ [k]]?).map Entry.shown = (d'[p ++ [k]]?).map Entry.shown) : view d p = view d' p :=
  sorted_ext (view_sorted d p) (view_sorted d' p) fun ⟨k, s⟩ => by rw [mem_view, mem_view, h k]

theorem getVal_eq (d : DB) (p : Path) (k : Bytes) : getVal d p k = ((d[p ++ [k]]?).map Entry.shown).join := by
  unfold getVal
  cases d[p ++ [k]]? with
  | none => rfl
  | some e => cases e <;> rfl

theorem reads_of_shown {Q : Path}
    (h : ∀ k, (d'[Q ++ [k]]?).map Entry.shown = (d[Q ++ [k]]?).map Entry.shown) :
    (∀ k, getVal d' Q k = getVal d Q k) ∧ view d' Q = view d Q :=
  ⟨fun k => by rw [getVal_eq, getVal_eq, h k], view_ext h⟩

theorem isBucket_of_get (h : d'[p]? = d[p]?) : isBucket d' p = isBucket d p := by
  cases p with
  | nil => rfl
  | cons a p => simp only [isBucket, h]

theorem isBucket_iff (hq : q ≠ []) : isBucket d q = true ↔ ∃ s, d[q]? = some (.bucket s) := by
  cases q with
  | nil => exact absurd rfl hq
  | cons a r =>
    simp only [isBucket]
    split
    · exact ⟨fun _ => ⟨_, ‹_›⟩, fun _ => rfl⟩
    · rename_i hn; exact ⟨nofun, fun ⟨s, hs⟩ => absurd hs (hn s)⟩

theorem isBucket_insert_val (h : ∀ s, d[a]? ≠ some (.bucket s)) (v : Bytes) (q : Path) :
    isBucket (d.insert a (.val v)) q = isBucket d q := by
  by_cases e : a = q
  · by_cases hq : q = []
    · rw [hq]; rfl
    · rw [Bool.eq_iff_iff, isBucket_iff hq, isBucket_iff hq, get_insert, if_pos e]
      exact ⟨fun ⟨_, hs⟩ => (nomatch hs), fun ⟨s, hs⟩ => absurd (e ▸ hs) (h s)⟩
  · exact isBucket_of_get (by rw [get_insert, if_neg e])

/-- why a `Put` is refused, as a function of what the key currently holds. -/
def putErr (k v : Bytes) (cur : Option Entry) : Option Err :=
  if k.length = 0 then some .keyRequired
  else if k.length > maxKeySize then some .keyTooLarge
  else if v.length > maxValueSize then some .valueTooLarge
  else match cur with
    | some (.bucket _) => some .incompatibleValue
    | _ => none

/-- `Put` reads nothing of the store but what its key holds. -/
theorem put_eq (d : DB) (p : Path) (k v : Bytes) :
    put d p k v = match putErr k v d[p ++ [k]]? with
      | some e => .error e
      | none => .ok (d.insert (p ++ [k]) (.val v)) := by
  unfold put putErr
  by_cases hk : k.length = 0
  · simp only [if_pos hk]
  by_cases hk' : k.length > maxKeySize
  · simp only [if_neg hk, if_pos hk']
  by_cases hv : v.length > maxValueSize
  · simp only [if_neg hk, if_neg hk', if_pos hv]
  simp only [if_neg hk, if_neg hk', if_neg hv]
  cases d[p ++ [k]]? with
  | none => rfl
  | some e => cases e <;> rfl

theorem putErr_none {cur : Option Entry} (h : putErr k v cur = none) :
    k ≠ [] ∧ ∀ s, cur ≠ some (.bucket s) := by
  unfold putErr at h
  by_cases hk : k.length = 0
  · rw [if_pos hk] at h; cases h
  refine ⟨fun e => hk (e ▸ rfl), fun s hs => ?_⟩
  rw [hs, if_neg hk] at h
  repeat (split at h; cases h)
  cases h

theorem put_ok (h : put d p k v = .ok d') :
    d' = d.insert (p ++ [k]) (.val v) ∧ k ≠ [] ∧ (∀ s, d[p ++ [k]]? ≠ some (.bucket s)) := by
  rw [put_eq] at h
  split at h
  · cases h
  · cases h; exact ⟨rfl, putErr_none ‹_›⟩

theorem delete_ok (h : delete d p k = .ok d') :
    d' = d.erase (p ++ [k]) ∧ (∀ s, d[p ++ [k]]? ≠ some (.bucket s)) := by
  unfold delete at h
  split at h
  · rename_i hn
    cases h
    refine ⟨ExtTreeMap.ext_getElem? fun q => ?_, fun s hs => by rw [hn] at hs; cases hs⟩
    rw [get_erase]
    split
    · rw [← ‹p ++ [k] = q›, hn]
    · rfl
  · cases h
  · rename_i hv
    cases h
    exact ⟨rfl, fun s hs => by rw [hv] at hs; cases hs⟩

theorem delete_val (h : d[p ++ [k]]? = some (.val v)) :
    delete d p k = .ok (d.erase (p ++ [k])) := by
  unfold delete; rw [h]

theorem createBucket_ok (h : createBucket d p n = .ok d') :
    d' = d.insert (p ++ [n]) (.bucket 0) ∧ n ≠ [] ∧ d[p ++ [n]]? = none := by
  unfold createBucket at h
  split at h; · cases h
  rename_i hn
  split at h
  · cases h
  · cases h
  · cases h
    exact ⟨rfl, fun e => hn (e ▸ rfl), ‹_›⟩

theorem createBucketIfNotExists_ok
    (h : createBucketIfNotExists d p n = .ok d') : d' = d ∨ createBucket d p n = .ok d' := by
  unfold createBucketIfNotExists at h
  split at h
  · cases h; exact .inl rfl
  · exact .inr h

theorem deleteBucket_ok (h : deleteBucket d p n = .ok d') :
    d' = d.filter (fun q _ => !(p ++ [n]).isPrefixOf q) := by
  unfold deleteBucket at h
  split at h
  · split at h <;> cases h
  · cases h
  · cases h; rfl

end store

/-- A usable store: nothing is stored at the root path, every entry lives in an existing bucket, keys are non-empty
(what bbolt guarantees of its own trees). -/
structure WF (d : DB) : Prop where
  root : d[([] : Path)]? = none
  parent : ∀ (p : Path) (k : Bytes) (e : Entry), d[p ++ [k]]? = some e → isBucket d p = true
  key : ∀ (p : Path) (k : Bytes) (e : Entry), d[p ++ [k]]? = some e → k ≠ []

namespace WF

section wf
variable {d d' : DB} {p a : Path} {k : Bytes}

theorem empty : WF ({} : DB) := ⟨by simp, by simp, by simp⟩

/-- writing an entry into an existing bucket, as long as no bucket header is overwritten by a value. -/
theorem insert (w : WF d) {e : Entry} (hb : isBucket d p = true) (hk : k ≠ [])
    (hkeep : ∀ s, d[p ++ [k]]? = some (.bucket s) → ∃ s', e = .bucket s') : WF (d.insert (p ++ [k]) e) := by
  have hent : ∀ {p' k' e'}, (d.insert (p ++ [k]) e)[p' ++ [k']]? = some e' →
      (p = p' ∧ k = k') ∨ d[p' ++ [k']]? = some e' := by
    intro p' k' e' h
    rw [get_insert] at h
    split at h
    · exact .inl (append_singleton_inj.mp ‹_›)
    · exact .inr h
  refine ⟨?_, fun p' k' e' h => ?_, fun p' k' e' h => (hent h).elim (·.2 ▸ hk) (w.key _ _ _)⟩
  · rw [get_insert, if_neg (append_singleton_ne_nil _ _)]; exact w.root
  · have hp' : isBucket d p' = true := (hent h).elim (·.1 ▸ hb) (w.parent _ _ _)
    by_cases hnil : p' = []
    · rw [hnil]; rfl
    obtain ⟨s, hs⟩ := (isBucket_iff hnil).mp hp'
    rw [isBucket_iff hnil, get_insert]
    by_cases e : p ++ [k] = p'
    · obtain ⟨s', rfl⟩ := hkeep s (e ▸ hs)
      exact ⟨s', if_pos e⟩
    · exact ⟨s, (if_neg e).trans hs⟩

/-- removing the entries in `R`, as long as no entry that stays loses its bucket. -/
theorem remove (w : WF d) (R : Path → Prop) {_ : DecidablePred R}
    (h : ∀ q, d'[q]? = if R q then none else d[q]?)
    (hkeep : ∀ (p : Path) (k : Bytes) (e : Entry), d[p ++ [k]]? = some e → ¬ R (p ++ [k]) → R p → d[p]? = none) :
    WF d' := by
  have hsub : ∀ {q : Path} {e : Entry}, d'[q]? = some e → ¬ R q ∧ d[q]? = some e := by
    intro q e hq
    rw [h] at hq
    split at hq
    · cases hq
    · exact ⟨‹_›, hq⟩
  refine ⟨?_, ?_, ?_⟩
  · rw [h, w.root, ite_self]
  · intro p k e he
    have hp : d'[p]? = d[p]? := by
      rw [h]
      split
      · exact (hkeep p k e (hsub he).2 (hsub he).1 ‹_›).symm
      · rfl
    rw [isBucket_of_get hp]
    exact w.parent p k e (hsub he).2
  · intro p k e he
    exact w.key p k e (hsub he).2

theorem erase_val (w : WF d) (hnb : ∀ s, d[a]? ≠ some (.bucket s)) : WF (d.erase a) := by
  refine w.remove (a = ·) (get_erase d a) ?_
  rintro p k e he _ rfl
  -- `a` has a child, so it is a bucket: the root, where nothing is stored, or excluded by `hnb`
  by_cases ha : a = []
  · rw [ha]; exact w.root
  · obtain ⟨s, hs⟩ := (isBucket_iff ha).mp (w.parent _ _ _ he)
    exact absurd hs (hnb s)

theorem delete_subtree (w : WF d) (a : Path) : WF (d.filter (fun q _ => !a.isPrefixOf q)) :=
  w.remove (a <+: ·) (get_deleteBucket d a) fun _ _ _ _ hn hp => absurd (hp.trans (List.prefix_append _ _)) hn

theorem set_seq (w : WF d) (hp : p ≠ []) (hb : isBucket d p = true) (s : Nat) :
    WF (d.insert p (.bucket s)) := by
  obtain ⟨p0, n0, rfl⟩ : ∃ p0 n0, p = p0 ++ [n0] := ⟨_, _, (List.dropLast_concat_getLast hp).symm⟩
  obtain ⟨s0, hs0⟩ := (isBucket_iff hp).mp hb
  exact w.insert (w.parent _ _ _ hs0) (w.key _ _ _ hs0) fun _ _ => ⟨_, rfl⟩

end wf

end WF

/-- the parts of a transaction that matter for the database (everything but cursors and the handle flag). -/
structure SameCore (t t' : Tx) : Prop where
  work : t'.work = t.work
  db : t'.db = t.db
  closed : t'.closed = t.closed
  writable : t'.writable = t.writable
  managed : t'.managed = t.managed
  pending : t'.pending = t.pending
  fired : t'.fired = t.fired

theorem SameCore.refl (t : Tx) : SameCore t t := ⟨rfl, rfl, rfl, rfl, rfl, rfl, rfl⟩

theorem SameCore.trans {a b c : Tx} (h₁ : SameCore a b) (h₂ : SameCore b c) : SameCore a c :=
  ⟨h₂.work.trans h₁.work, h₂.db.trans h₁.db, h₂.closed.trans h₁.closed, h₂.writable.trans h₁.writable,
   h₂.managed.trans h₁.managed, h₂.pending.trans h₁.pending, h₂.fired.trans h₁.fired⟩

theorem sameCore_noteHandle (t : Tx) (p : Path) : SameCore t (t.noteHandle p) := by
  unfold Tx.noteHandle; split <;> exact ⟨rfl, rfl, rfl, rfl, rfl, rfl, rfl⟩
theorem sameCore_touchCursors (t : Tx) (p : Path) : SameCore t (t.touchCursors p) := ⟨rfl, rfl, rfl, rfl, rfl, rfl, rfl⟩
theorem sameCore_killCursors (t : Tx) (p : Path) : SameCore t (t.killCursors p) := ⟨rfl, rfl, rfl, rfl, rfl, rfl, rfl⟩
theorem sameCore_setCursor (t : Tx) (i : Nat) (c : Cursor) : SameCore t (t.setCursor i c) := ⟨rfl, rfl, rfl, rfl, rfl, rfl, rfl⟩

section proj
variable (t : Tx) (p : Path)

@[simp] theorem noteHandle_work : (t.noteHandle p).work = t.work := (sameCore_noteHandle t p).work
@[simp] theorem noteHandle_db : (t.noteHandle p).db = t.db := (sameCore_noteHandle t p).db
@[simp] theorem noteHandle_closed : (t.noteHandle p).closed = t.closed := (sameCore_noteHandle t p).closed
@[simp] theorem noteHandle_writable : (t.noteHandle p).writable = t.writable := (sameCore_noteHandle t p).writable
@[simp] theorem noteHandle_managed : (t.noteHandle p).managed = t.managed := (sameCore_noteHandle t p).managed
@[simp] theorem noteHandle_cursors : (t.noteHandle p).cursors = t.cursors := by unfold Tx.noteHandle; split <;> rfl
@[simp] theorem noteHandle_pending : (t.noteHandle p).pending = t.pending := (sameCore_noteHandle t p).pending
@[simp] theorem noteHandle_fired : (t.noteHandle p).fired = t.fired := (sameCore_noteHandle t p).fired

@[simp] theorem touchCursors_work : (t.touchCursors p).work = t.work := rfl
@[simp] theorem touchCursors_db : (t.touchCursors p).db = t.db := rfl
@[simp] theorem touchCursors_closed : (t.touchCursors p).closed = t.closed := rfl
@[simp] theorem touchCursors_writable : (t.touchCursors p).writable = t.writable := rfl
@[simp] theorem touchCursors_managed : (t.touchCursors p).managed = t.managed := rfl
@[simp] theorem touchCursors_pending : (t.touchCursors p).pending = t.pending := rfl
@[simp] theorem touchCursors_fired : (t.touchCursors p).fired = t.fired := rfl

@[simp] theorem killCursors_work : (t.killCursors p).work = t.work := rfl
@[simp] theorem killCursors_db : (t.killCursors p).db = t.db := rfl
@[simp] theorem killCursors_closed : (t.killCursors p).closed = t.closed := rfl
@[simp] theorem killCursors_writable : (t.killCursors p).writable = t.writable := rfl
@[simp] theorem killCursors_managed : (t.killCursors p).managed = t.managed := rfl
@[simp] theorem killCursors_pending : (t.killCursors p).pending = t.pending := rfl
@[simp] theorem killCursors_fired : (t.killCursors p).fired = t.fired := rfl

variable (i : Nat) (c : Cursor)
@[simp] theorem setCursor_work : (t.setCursor i c).work = t.work := rfl
@[simp] theorem setCursor_db : (t.setCursor i c).db = t.db := rfl
@[simp] theorem setCursor_closed : (t.setCursor i c).closed = t.closed := rfl
@[simp] theorem setCursor_writable : (t.setCursor i c).writable = t.writable := rfl
@[simp] theorem setCursor_managed : (t.setCursor i c).managed = t.managed := rfl
@[simp] theorem setCursor_pending : (t.setCursor i c).pending = t.pending := rfl
@[simp] theorem setCursor_fired : (t.setCursor i c).fired = t.fired := rfl
end proj

theorem curMove_sameCore (t : Tx) (i : Nat) (b : Bool) (f) : SameCore t (t.curMove i b f).1 := by
  unfold Tx.curMove
  cases t.cursors.lookup i with
  | none => exact .refl t
  | some c =>
    dsimp only
    by_cases h1 : t.closed = true
    · rw [if_pos h1]; exact .refl t
    by_cases h2 : (c.dead || (b && c.pos.isNone)) = true
    · rw [if_neg h1, if_pos h2]; exact .refl t
    · rw [if_neg h1, if_neg h2]; exact sameCore_setCursor _ _ _

section prelude
variable (t : Tx) (p : Path) (raw : Bool)

theorem guardW_open (hopen : t.closed = false) :
    t.guardW p raw =
      if isBucket t.work p then
        if t.writable then none else some (.err (if raw then .rawTxNotWritable else .txNotWritable))
      else some .noBucket := by
  unfold Tx.guardW
  rw [hopen]
  cases isBucket t.work p <;> cases t.writable <;> rfl

/-- The shape of every mutator on bucket `p`: note the handle, run the prelude `guardW`, continue with `f`. -/
def Tx.mutate (t : Tx) (p : Path) (raw : Bool) (f : Tx → Tx × Reply) : Tx × Reply :=
  match (t.noteHandle p).guardW p raw with
  | some r => (t.noteHandle p, r)
  | none => f (t.noteHandle p)

/-- on an open transaction the prelude asks whether the bucket resolves, then whether the transaction may write. -/
theorem mutate_open (f : Tx → Tx × Reply) (hopen : t.closed = false) :
    t.mutate p raw f =
      if isBucket t.work p then
        if t.writable then f (t.noteHandle p)
        else (t.noteHandle p, .err (if raw then .rawTxNotWritable else .txNotWritable))
      else (t.noteHandle p, .noBucket) := by
  unfold Tx.mutate
  rw [guardW_open _ _ _ ((noteHandle_closed t p).trans hopen), noteHandle_work, noteHandle_writable]
  cases isBucket t.work p <;> cases t.writable <;> rfl

theorem mutate_cases (f : Tx → Tx × Reply) :
    (∃ r, t.mutate p raw f = (t.noteHandle p, r) ∧ r ≠ .ok) ∨
    (t.closed = false ∧ t.writable = true ∧ isBucket t.work p = true ∧ t.mutate p raw f = f (t.noteHandle p)) := by
  cases hc : t.closed
  · rw [mutate_open t p raw f hc]
    cases isBucket t.work p
    · exact .inl ⟨_, rfl, nofun⟩
    cases t.writable
    · exact .inl ⟨_, rfl, nofun⟩
    · exact .inr ⟨rfl, rfl, rfl, rfl⟩
  · unfold Tx.mutate Tx.guardW
    rw [noteHandle_closed, hc, if_pos rfl]
    cases p != [] && !(t.noteHandle p).touched <;> exact .inl ⟨_, rfl, nofun⟩

theorem mutate_readonly (f : Tx → Tx × Reply) (hopen : t.closed = false)
    (hro : t.writable = false) :
    (t.mutate p raw f).2 =
      if isBucket t.work p then .err (if raw then .rawTxNotWritable else .txNotWritable) else .noBucket := by
  rw [mutate_open t p raw f hopen, hro]
  cases isBucket t.work p <;> rfl

end prelude

section equations
variable (t : Tx) (p : Path) (k v n : Bytes)

theorem step_put : step t (.put p k v) = t.mutate p false fun t => t.applyW p (put t.work p k v) := rfl
theorem step_delete : step t (.delete p k) = t.mutate p false fun t => t.applyW p (delete t.work p k) := rfl
theorem step_createBucket :
    step t (.createBucket p n) = t.mutate p false fun t => t.applyW p (createBucket t.work p n) := rfl
theorem step_createBucketIfNotExists :
    step t (.createBucketIfNotExists p n) =
      t.mutate p false fun t => t.applyW p (createBucketIfNotExists t.work p n) := rfl
theorem step_deleteBucket :
    step t (.deleteBucket p n) = t.mutate p false fun t =>
      match deleteBucket t.work p n with
      | .ok d => ({ (t.touchCursors p).killCursors (p ++ [n]) with work := d }, .ok)
      | .error e => (t.touchCursors p, .err e) := rfl
theorem step_setSequence (s : Nat) :
    step t (.setSequence p s) = t.mutate p true fun t =>
      ({ t.touchCursors p with work := t.work.insert p (.bucket (s % seqMod)) }, .ok) := rfl
theorem step_nextSequence :
    step t (.nextSequence p) = t.mutate p true fun t =>
      ({ t.touchCursors p with work := t.work.insert p (.bucket ((seqOf t.work p + 1) % seqMod)) },
        .num ((seqOf t.work p + 1) % seqMod)) := rfl

variable (i : Nat)
theorem step_curFirst : step t (.curFirst i) = t.curMove i false (fun _ _ => (0, true)) := rfl
theorem step_curLast : step t (.curLast i) = t.curMove i false (fun l _ => (l.length - 1, true)) := rfl
theorem step_curNext :
    step t (.curNext i) =
      t.curMove i true (fun l pos => if pos + 1 < l.length then (pos + 1, true) else (pos, false)) := rfl
theorem step_curPrev :
    step t (.curPrev i) = t.curMove i true (fun _ pos => if 0 < pos then (pos - 1, true) else (0, false)) := rfl
theorem step_curSeek : step t (.curSeek i k) = t.curMove i false (fun l _ => (seekPos l k, true)) := rfl
end equations

/-- What one call can do to the database-relevant part of a transaction. -/
structure StepCore (t : Tx) (op : Op) (t' : Tx) : Prop where
  writable : t'.writable = t.writable
  managed : t'.managed = t.managed
  db : t'.db = t.db ∨ (op = .commit ∧ t.closed = false ∧ t.writable = true ∧ t.managed = false ∧ t'.db = t.work)
  work : t'.work = t.work ∨ (t.closed = false ∧ t.writable = true)
  closed : t'.closed = t.closed ∨ (t'.closed = true ∧ t.managed = false ∧ (op = .commit ∨ op = .rollback))
  pending : t'.pending = t.pending ∨ (op = .onCommit ∧ t'.pending = t.pending + 1) ∨ op = .commit
  fired : t'.fired = t.fired ∨ (op = .commit ∧ t'.fired = t.fired + t.pending)

/-- The entries (full paths) a call may change, given the transaction it runs in (a cursor delete depends on the
cursor's bucket). Everything else a call leaves alone — `step_frame`. -/
def footprint (t : Tx) : Op → Path → Prop
  | .put p k _, q => q = p ++ [k]
  | .delete p k, q => q = p ++ [k]
  | .createBucket p n, q => q = p ++ [n]
  | .createBucketIfNotExists p n, q => q = p ++ [n]
  | .deleteBucket p n, q => p ++ [n] <+: q
  | .setSequence p _, q => q = p
  | .nextSequence p, q => q = p
  | .curDelete i, q => ∃ c k, t.cursors.lookup i = some c ∧ q = c.path ++ [k]
  | _, _ => False

/-- Which store-level mutator ran on `t.work` and answered `d'` (`Cursor.Delete` is `Delete` of the cursor's key). -/
inductive Mutates (t : Tx) : Op → DB → Prop
  | put {p k v d'} (hb : isBucket t.work p = true) (h : put t.work p k v = .ok d') : Mutates t (.put p k v) d'
  | delete {p k d'} (h : delete t.work p k = .ok d') : Mutates t (.delete p k) d'
  | createBucket {p n d'} (hb : isBucket t.work p = true) (h : createBucket t.work p n = .ok d') :
      Mutates t (.createBucket p n) d'
  | createBucketIfNotExists {p n d'} (hb : isBucket t.work p = true) (h : createBucket t.work p n = .ok d') :
      Mutates t (.createBucketIfNotExists p n) d'
  | deleteBucket {p n d'} (h : deleteBucket t.work p n = .ok d') : Mutates t (.deleteBucket p n) d'
  | setSequence {p n} (s : Nat) (hb : isBucket t.work p = true) :
      Mutates t (.setSequence p n) (t.work.insert p (.bucket s))
  | nextSequence {p} (s : Nat) (hb : isBucket t.work p = true) :
      Mutates t (.nextSequence p) (t.work.insert p (.bucket s))
  | curDelete {i c k d'} (hc : t.cursors.lookup i = some c) (h : delete t.work c.path k = .ok d') :
      Mutates t (.curDelete i) d'

section call
variable {t t' t₁ : Tx} {op : Op} {d d' : DB} {p q : Path}

/-- `StepCore`, and behind every change of the working state the mutator that made it. -/
structure Step (t : Tx) (op : Op) (t' : Tx) : Prop extends StepCore t op t' where
  wrote : t'.work = t.work ∨ Mutates t op t'.work

namespace Step

theorem of_same (h : SameCore t t') : Step t op t' :=
  ⟨⟨h.writable, h.managed, .inl h.db, .inl h.work, .inl h.closed, .inl h.pending, .inl h.fired⟩, .inl h.work⟩

theorem refl : Step t op t := of_same (.refl t)

theorem ite {c : Prop} [Decidable c] {a b : Tx × Reply} (ha : c → Step t op a.1)
    (hb : ¬ c → Step t op b.1) : Step t op (if c then a else b).1 :=
  ite_ind (P := fun x : Tx × Reply => Step t op x.1) ha hb

theorem of_write (hs : SameCore t t₁) (ho : t.closed = false)
    (hw : t.writable = true) (hm : d = t.work ∨ Mutates t op d) : Step t op { t₁ with work := d } :=
  ⟨⟨hs.writable, hs.managed, .inl hs.db, .inr ⟨ho, hw⟩, .inl hs.closed, .inl hs.pending, .inl hs.fired⟩, hm⟩

theorem mutate {raw : Bool} {f : Tx → Tx × Reply}
    (hf : t.closed = false → t.writable = true → isBucket t.work p = true → Step t op (f (t.noteHandle p)).1) :
    Step t op (t.mutate p raw f).1 := by
  rcases mutate_cases t p raw f with ⟨r, e, _⟩ | ⟨ho, hw, hb, e⟩
  · rw [e]; exact .of_same (sameCore_noteHandle t p)
  · rw [e]; exact hf ho hw hb

theorem mutate_applyW (g : DB → Except Err DB)
    (hm : isBucket t.work p = true → ∀ d, g t.work = .ok d → d = t.work ∨ Mutates t op d) :
    Step t op (t.mutate p false fun t => t.applyW p (g t.work)).1 := by
  refine .mutate fun ho hw hb => ?_
  have hs := (sameCore_noteHandle t p).trans (sameCore_touchCursors _ p)
  rw [noteHandle_work]
  unfold Tx.applyW
  cases hg : g t.work with
  | ok d => exact .of_write hs ho hw (hm hb d hg)
  | error e => exact .of_same hs

end Step

theorem step_curDelete (t : Tx) (i : Nat) : Step t (.curDelete i) (step t (.curDelete i)).1 := by
  simp only [step]
  split
  · exact .refl
  · rename_i c hc
    refine .ite (fun _ => .refl) fun ho => .ite (fun _ => .refl) fun hw => ?_
    split
    · exact .refl
    · exact .refl
    · split
      · exact .of_same (sameCore_touchCursors _ _)
      · exact .of_same (sameCore_touchCursors _ _)
      · -- the entry under the cursor shows a value, so it is one: `Cursor.Delete` is `Delete` of its key
        rename_i k v hv
        obtain ⟨e, he, hs⟩ := Option.map_eq_some_iff.mp (mem_view.mp (List.mem_of_getElem? hv))
        cases e with
        | bucket _ => cases hs
        | val v' =>
          exact .of_write (sameCore_touchCursors _ _) (eq_false_of_ne_true ho) (by simpa using hw)
            (.inr (.curDelete hc (delete_val he)))

theorem step_spec (t : Tx) (op : Op) : Step t op (step t op).1 := by
  cases op with
  | put p k v => exact .mutate_applyW (fun d => put d p k v) fun hb _ h => .inr (.put hb h)
  | delete p k => exact .mutate_applyW (fun d => delete d p k) fun _ _ h => .inr (.delete h)
  | createBucket p n => exact .mutate_applyW (fun d => createBucket d p n) fun hb _ h => .inr (.createBucket hb h)
  | createBucketIfNotExists p n =>
    exact .mutate_applyW (fun d => createBucketIfNotExists d p n) fun hb _ h =>
      (createBucketIfNotExists_ok h).imp id (.createBucketIfNotExists hb)
  | deleteBucket p n =>
    rw [step_deleteBucket]
    refine .mutate fun ho hw _ => ?_
    split
    · rename_i d h
      exact .of_write (((sameCore_noteHandle t p).trans (sameCore_touchCursors _ _)).trans (sameCore_killCursors _ _))
        ho hw (.inr (.deleteBucket (by rwa [noteHandle_work] at h)))
    · exact .of_same ((sameCore_noteHandle t p).trans (sameCore_touchCursors _ _))
  | setSequence p n =>
    rw [step_setSequence]
    exact .mutate fun ho hw hb => .of_write ((sameCore_noteHandle t p).trans (sameCore_touchCursors _ _)) ho hw
      (.inr (noteHandle_work t p ▸ .setSequence _ hb))
  | nextSequence p =>
    rw [step_nextSequence]
    exact .mutate fun ho hw hb => .of_write ((sameCore_noteHandle t p).trans (sameCore_touchCursors _ _)) ho hw
      (.inr (noteHandle_work t p ▸ .nextSequence _ hb))
  | get | sequence => simp only [step]; split <;> exact .of_same (sameCore_noteHandle _ _)
  | lookup p n =>
    simp only [step]
    split
    · exact .of_same (sameCore_noteHandle _ _)
    · exact .of_same ((sameCore_noteHandle _ _).trans (sameCore_noteHandle _ _))
  | forEach p l =>
    cases l <;> simp only [step, apply_ite Prod.fst, ite_self] <;> exact .of_same (sameCore_noteHandle _ _)
  | curOpen i p =>
    simp only [step]
    split
    · exact .of_same (sameCore_noteHandle _ _)
    · exact .of_same ((sameCore_noteHandle _ _).trans (sameCore_setCursor _ _ _))
  | curFirst i => rw [step_curFirst]; exact .of_same (curMove_sameCore _ _ _ _)
  | curLast i => rw [step_curLast]; exact .of_same (curMove_sameCore _ _ _ _)
  | curNext i => rw [step_curNext]; exact .of_same (curMove_sameCore _ _ _ _)
  | curPrev i => rw [step_curPrev]; exact .of_same (curMove_sameCore _ _ _ _)
  | curSeek i k => rw [step_curSeek]; exact .of_same (curMove_sameCore _ _ _ _)
  | curDelete i => exact step_curDelete t i
  | commit =>
    simp only [step]
    refine .ite (fun _ => .refl) fun hm => .ite (fun _ => .refl) fun hc => .ite (fun _ => .refl) fun hw => ?_
    have hm := eq_false_of_ne_true hm
    exact ⟨⟨rfl, rfl, .inr ⟨rfl, eq_false_of_ne_true hc, by simpa using hw, hm, rfl⟩, .inl rfl,
      .inr ⟨rfl, hm, .inl rfl⟩, .inr (.inr rfl), .inr ⟨rfl, rfl⟩⟩, .inl rfl⟩
  | rollback =>
    simp only [step]
    refine .ite (fun _ => .refl) fun hm => .ite (fun _ => .refl) fun _ => ?_
    exact ⟨⟨rfl, rfl, .inl rfl, .inl rfl, .inr ⟨rfl, eq_false_of_ne_true hm, .inr rfl⟩, .inl rfl, .inl rfl⟩, .inl rfl⟩
  | onCommit => exact ⟨⟨rfl, rfl, .inl rfl, .inl rfl, .inl rfl, .inr (.inl ⟨rfl, rfl⟩), .inl rfl⟩, .inl rfl⟩

theorem step_core (t : Tx) (op : Op) : StepCore t op (step t op).1 := (step_spec t op).toStepCore

theorem Mutates.frame (h : Mutates t op d') (hq : ¬ footprint t op q) :
    d'[q]? = t.work[q]? := by
  cases h with
  | put _ h => rw [(put_ok h).1, get_insert, if_neg (Ne.symm hq)]
  | delete h => rw [(delete_ok h).1, get_erase, if_neg (Ne.symm hq)]
  | createBucket _ h | createBucketIfNotExists _ h => rw [(createBucket_ok h).1, get_insert, if_neg (Ne.symm hq)]
  | deleteBucket h => rw [deleteBucket_ok h, get_deleteBucket]; exact if_neg hq
  | setSequence | nextSequence => rw [get_insert, if_neg (Ne.symm hq)]
  | curDelete hc h => rw [(delete_ok h).1, get_erase, if_neg fun e => hq ⟨_, _, hc, e.symm⟩]

theorem step_frame (t : Tx) (op : Op) (q : Path) (h : ¬ footprint t op q) :
    (step t op).1.work[q]? = t.work[q]? := by
  rcases (step_spec t op).wrote with e | hm
  · rw [e]
  · exact hm.frame h

theorem Mutates.wf (h : Mutates t op d') (w : WF t.work) (hapi : op.apiOk = true) :
    WF d' := by
  cases h with
  | put hb h =>
    obtain ⟨rfl, hk, hnb⟩ := put_ok h
    exact w.insert hb hk fun s hs => absurd hs (hnb s)
  | createBucket hb h | createBucketIfNotExists hb h =>
    obtain ⟨rfl, hn, _⟩ := createBucket_ok h
    exact w.insert hb hn fun _ _ => ⟨_, rfl⟩
  | delete h | curDelete _ h =>
    obtain ⟨rfl, hnb⟩ := delete_ok h
    exact w.erase_val hnb
  | deleteBucket h => rw [deleteBucket_ok h]; exact w.delete_subtree _
  | setSequence s hb | nextSequence s hb => exact w.set_seq (by rintro rfl; cases hapi) hb s

theorem step_wf (t : Tx) (op : Op) (w : WF t.work) (hapi : op.apiOk = true) : WF (step t op).1.work := by
  rcases (step_spec t op).wrote with e | hm
  · rw [e]; exact w
  · exact hm.wf w hapi

end call

theorem runOps_nil (t : Tx) : runOps t [] = (t, []) := rfl

theorem runOps_cons (t : Tx) (op : Op) (rest : List Op) :
    runOps t (op :: rest) = ((runOps (step t op).1 rest).1, (step t op).2 :: (runOps (step t op).1 rest).2) := rfl

theorem runOps_append (t : Tx) (a b : List Op) :
    runOps t (a ++ b) = ((runOps (runOps t a).1 b).1, (runOps t a).2 ++ (runOps (runOps t a).1 b).2) := by
  induction a generalizing t with
  | nil => rfl
  | cons op rest ih => simp only [List.cons_append, runOps_cons, ih]

theorem StepCore.open_of_open {t t' : Tx} {op : Op} (sc : StepCore t op t') (h : t'.closed = false) :
    t.closed = false := by
  rcases sc.closed with h' | ⟨h', _⟩
  · exact h' ▸ h
  · rw [h'] at h; cases h

/-- `StepCore` for a whole program: `∈ ops` where `StepCore` has `op =`; the handlers are counted while no call commits. -/
structure RunCore (t : Tx) (ops : List Op) (t' : Tx) : Prop where
  writable : t'.writable = t.writable
  managed : t'.managed = t.managed
  db : t'.db = t.db ∨ (Op.commit ∈ ops ∧ t.closed = false ∧ t.writable = true ∧ t.managed = false)
  work : t'.work = t.work ∨ (t.closed = false ∧ t.writable = true)
  closed : t'.closed = t.closed ∨
    (t'.closed = true ∧ t.managed = false ∧ ∃ op ∈ ops, op = .commit ∨ op = .rollback)
  handlers : Op.commit ∉ ops → t'.fired = t.fired ∧ t'.pending = t.pending + ops.count .onCommit

theorem runOps_core (t : Tx) (ops : List Op) : RunCore t ops (runOps t ops).1 := by
  induction ops generalizing t with
  | nil => exact ⟨rfl, rfl, .inl rfl, .inl rfl, .inl rfl, fun _ => ⟨rfl, rfl⟩⟩
  | cons op rest ih =>
    rw [runOps_cons]
    have sc := step_core t op
    have rc := ih (step t op).1
    refine ⟨rc.writable.trans sc.writable, rc.managed.trans sc.managed, ?_, ?_, ?_, fun h => ?_⟩
    · rcases rc.db with h | ⟨hm, hc, hw, hg⟩
      · rcases sc.db with h' | ⟨rfl, hc, hw, hg, _⟩
        · exact .inl (h.trans h')
        · exact .inr ⟨List.mem_cons_self, hc, hw, hg⟩
      · exact .inr ⟨List.mem_cons_of_mem _ hm, sc.open_of_open hc, sc.writable ▸ hw, sc.managed ▸ hg⟩
    · rcases rc.work with h | ⟨hc, hw⟩
      · exact sc.work.imp h.trans id
      · exact .inr ⟨sc.open_of_open hc, sc.writable ▸ hw⟩
    · rcases rc.closed with h | ⟨h, hg, o, ho, ho'⟩
      · rcases sc.closed with h' | ⟨h', hg, ho⟩
        · exact .inl (h.trans h')
        · exact .inr ⟨h.trans h', hg, op, List.mem_cons_self, ho⟩
      · exact .inr ⟨h, sc.managed ▸ hg, o, List.mem_cons_of_mem _ ho, ho'⟩
    · have hop : op ≠ .commit := fun e => h (e ▸ List.mem_cons_self)
      have ⟨h1, h2⟩ := rc.handlers fun m => h (List.mem_cons_of_mem _ m)
      refine ⟨h1.trans (sc.fired.resolve_right fun h' => hop h'.1), ?_⟩
      rw [h2]
      rcases sc.pending with h' | ⟨rfl, h'⟩ | e
      · -- `sc.pending` alone does not exclude `onCommit` here: `h'` is about the computed `step t .onCommit`
        have : op ≠ .onCommit := by
          rintro rfl
          exact absurd h' (Nat.succ_ne_self _)
        rw [h', List.count_cons_of_ne this]
      · rw [h', List.count_cons_self]; omega
      · exact absurd e hop

theorem runOps_writable (t : Tx) (ops : List Op) : (runOps t ops).1.writable = t.writable :=
  (runOps_core t ops).writable

theorem runOps_managed (t : Tx) (ops : List Op) : (runOps t ops).1.managed = t.managed :=
  (runOps_core t ops).managed

section run
variable (t : Tx) (ops : List Op)

theorem runOps_open (h : ∀ op ∈ ops, op ≠ .commit ∧ op ≠ .rollback) :
    (runOps t ops).1.closed = t.closed :=
  (runOps_core t ops).closed.resolve_right fun ⟨_, _, op, hop, e⟩ => e.elim (h op hop).1 (h op hop).2

theorem runOps_wf (wd : WF t.db) (w : WF t.work) (hapi : ∀ op ∈ ops, op.apiOk = true) :
    WF (runOps t ops).1.db ∧ WF (runOps t ops).1.work := by
  induction ops generalizing t with
  | nil => exact ⟨wd, w⟩
  | cons op rest ih =>
    rw [runOps_cons]
    refine ih _ ?_ (step_wf t op w (hapi op List.mem_cons_self)) fun o ho => hapi o (List.mem_cons_of_mem _ ho)
    rcases (step_core t op).db with h | ⟨_, _, _, _, h⟩
    · exact h ▸ wd
    · exact h ▸ w

end run

theorem runOps_closed (t : Tx) (ops : List Op) (h : t.closed = true) :
    (runOps t ops).1.work = t.work ∧ (runOps t ops).1.db = t.db ∧ (runOps t ops).1.closed = true :=
  have rc := runOps_core t ops
  ⟨rc.work.resolve_right fun h' => (nomatch h.symm.trans h'.1),
   rc.db.resolve_right fun h' => (nomatch h.symm.trans h'.2.1),
   rc.closed.elim (·.trans h) (·.1)⟩

@[simp] theorem begin_db (k : Kind) (db : DB) : (k.begin db).db = db := rfl
@[simp] theorem begin_work (k : Kind) (db : DB) : (k.begin db).work = db := rfl
@[simp] theorem begin_closed (k : Kind) (db : DB) : (k.begin db).closed = false := rfl
@[simp] theorem begin_pending (k : Kind) (db : DB) : (k.begin db).pending = 0 := rfl
@[simp] theorem begin_fired (k : Kind) (db : DB) : (k.begin db).fired = 0 := rfl
@[simp] theorem begin_writable (k : Kind) (db : DB) : (k.begin db).writable = k.writable := rfl
@[simp] theorem begin_managed (k : Kind) (db : DB) : (k.begin db).managed = (k == .batch) := rfl
@[simp] theorem begin_cursors (k : Kind) (db : DB) : (k.begin db).cursors = [] := rfl

/-! ### Vocabulary of the C11 statements, with the lemmas about each, from here to the end of the file: `Op.isMutator`,
`Op.bucket?`, `Op.readOnlyAnswer`, `callBucket`, `SameUnder`, `Untouched`, `Outside`, `LiveCursor`, `Txn.inert` (`footprint`
stands above, next to `Mutates`). -/

/-- The calls `C11_readonly_refuses` speaks of: the seven bucket mutators (those of `Tx.mutate` and `Op.bucket?`),
`Cursor.Delete` (with them the eight of `Mutates` and `callBucket`) and `Commit`.  A new `Op` lands in the `| _` arm of this
definition and of `Op.bucket?` / `Op.readOnlyAnswer` without any proof noticing (unlike `footprint` and `callBucket`, where
`Mutates.frame` / `footprint_below` fail): extend all three by hand. -/
def Op.isMutator : Op → Bool
  | .put .. | .delete .. | .createBucket .. | .createBucketIfNotExists .. | .deleteBucket ..
  | .setSequence .. | .nextSequence .. | .curDelete _ | .commit => true
  | _ => false

/-- the bucket a mutator is called on (`none`: through a cursor or the transaction handle). -/
def Op.bucket? : Op → Option Path
  | .put p .. | .delete p _ | .createBucket p _ | .createBucketIfNotExists p _ | .deleteBucket p _
  | .setSequence p _ | .nextSequence p => some p
  | _ => none

/-- what a read-only transaction answers to a mutator whose target resolves. -/
def Op.readOnlyAnswer : Op → Reply
  | .setSequence .. | .nextSequence .. => .err .rawTxNotWritable
  | _ => .err .txNotWritable

theorem step_get_open (t : Tx) (p : Path) (k : Bytes) (ho : t.closed = false) (hb : isBucket t.work p = true) :
    (step t (.get p k)).2 = .val (getVal t.work p k) := by
  simp [step, Tx.guardR, ho, hb]

/-- a mutator that answers nil took over `g`'s result, and `Get` on its bucket then reads it.  `hp`: the call does not
rewrite the header of its own bucket (true of the four calls that go through `applyW`), so the bucket still resolves. -/
theorem mutator_ok {t : Tx} {op : Op} {p : Path} {g : DB → Except Err DB}
    (hop : step t op = t.mutate p false fun t => t.applyW p (g t.work)) (hp : ¬ footprint t op p)
    (h : (step t op).2 = .ok) (k : Bytes) :
    g t.work = .ok (step t op).1.work ∧
    (step (step t op).1 (.get p k)).2 = .val (getVal (step t op).1.work p k) := by
  have hf := step_frame t op p hp
  rw [hop] at h hf ⊢
  rcases mutate_cases t p false fun t => t.applyW p (g t.work) with ⟨r, e, hr⟩ | ⟨ho, _, hb, e⟩
  · rw [e] at h; exact absurd h hr
  · rw [e] at h hf ⊢
    rw [noteHandle_work] at h hf ⊢
    unfold Tx.applyW at h hf ⊢
    cases hg : g t.work with
    | error e => rw [hg] at h; cases h
    | ok d =>
      rw [hg] at hf
      exact ⟨rfl, step_get_open _ p k ((noteHandle_closed t p).trans ho) ((isBucket_of_get hf).trans hb)⟩

/-- the bucket a call that may write is made on; unlike `Op.bucket?` it covers `Cursor.Delete` (the cursor's bucket). -/
def callBucket (t : Tx) : Op → Option Path
  | .put p .. | .delete p _ | .createBucket p _ | .createBucketIfNotExists p _ | .deleteBucket p _
  | .setSequence p _ | .nextSequence p => some p
  | .curDelete i => (t.cursors.lookup i).map (·.path)
  | _ => none

theorem footprint_below {t : Tx} {op : Op} {q : Path} (h : footprint t op q) :
    ∃ p, callBucket t op = some p ∧
      ((∃ k, p ++ [k] <+: q) ∨ (q = p ∧ ((∃ n, op = .setSequence p n) ∨ op = .nextSequence p))) := by
  cases op <;> simp only [footprint] at h
  case put | delete | createBucket | createBucketIfNotExists =>
    subst h; exact ⟨_, rfl, .inl ⟨_, List.prefix_refl _⟩⟩
  case deleteBucket p k => exact ⟨p, rfl, .inl ⟨k, h⟩⟩
  case setSequence p n => exact ⟨p, rfl, .inr ⟨h, .inl ⟨n, rfl⟩⟩⟩
  case nextSequence p => exact ⟨p, rfl, .inr ⟨h, .inr rfl⟩⟩
  case curDelete i =>
    obtain ⟨c, k, hc, rfl⟩ := h
    exact ⟨c.path, by simp [callBucket, hc], .inl ⟨k, List.prefix_refl _⟩⟩

theorem step_seq_shown (t : Tx) (op : Op) (p : Path) (hp : p ≠ [])
    (hop : (∃ n, op = .setSequence p n) ∨ op = .nextSequence p) (q : Path) :
    ((step t op).1.work[q]?).map Entry.shown = (t.work[q]?).map Entry.shown := by
  rcases (step_spec t op).wrote with e | hm
  · rw [e]
  · -- either way the call wrote a header over the header `p` already had
    have key : ∀ s, isBucket t.work p = true →
        ((t.work.insert p (.bucket s))[q]?).map Entry.shown = (t.work[q]?).map Entry.shown := by
      intro s hb
      obtain ⟨s', hs'⟩ := (isBucket_iff hp).mp hb
      rw [get_insert]
      split
      · rw [← ‹p = q›, hs']; rfl
      · rfl
    generalize (step t op).1.work = d' at hm
    rcases hop with ⟨n, rfl⟩ | rfl <;> cases hm <;> exact key _ ‹_›

/-- Observations under bucket `Q` that the walletdb API offers. -/
structure SameUnder (Q : Path) (d d' : DB) : Prop where
  get : ∀ k, getVal d' Q k = getVal d Q k
  view : KV.view d' Q = KV.view d Q
  seq : seqOf d' Q = seqOf d Q
  exist : isBucket d' Q = isBucket d Q

theorem SameUnder.refl (Q : Path) (d : DB) : SameUnder Q d d := ⟨fun _ => rfl, rfl, rfl, rfl⟩
theorem SameUnder.trans {Q : Path} {a b c : DB} (h₁ : SameUnder Q a b) (h₂ : SameUnder Q b c) : SameUnder Q a c :=
  ⟨fun k => (h₂.get k).trans (h₁.get k), h₂.view.trans h₁.view, h₂.seq.trans h₁.seq, h₂.exist.trans h₁.exist⟩

theorem step_independent (t : Tx) (op : Op) (Q : Path)
    (h : ∀ p, callBucket t op = some p → ¬ p <+: Q) : SameUnder Q t.work (step t op).1.work := by
  have h1 : (step t op).1.work[Q]? = t.work[Q]? := by
    apply step_frame
    intro hf
    obtain ⟨p, hp, ⟨k, hk⟩ | ⟨rfl, _⟩⟩ := footprint_below hf
    · exact h p hp ((List.prefix_append _ _).trans hk)
    · exact h _ hp (List.prefix_refl _)
  have h2 : ∀ k, ((step t op).1.work[Q ++ [k]]?).map Entry.shown = (t.work[Q ++ [k]]?).map Entry.shown := by
    intro k
    by_cases hf : footprint t op (Q ++ [k])
    · obtain ⟨p, hp, ⟨k', hk'⟩ | ⟨rfl, hop⟩⟩ := footprint_below hf
      · -- a strict descendant of `p` that is a child of `Q` puts `p` on `Q`'s ancestry line
        rcases List.prefix_concat_iff.mp hk' with h' | h'
        · exact absurd ((append_singleton_inj.mp h').1 ▸ List.prefix_refl p) (h p hp)
        · exact absurd ((List.prefix_append _ _).trans h') (h p hp)
      · -- the call is made on the child bucket `Q ++ [k]` itself: a sequence call, which rewrites its header
        exact step_seq_shown t op _ (append_singleton_ne_nil Q k) hop _
    · rw [step_frame t op _ hf]
  exact ⟨(reads_of_shown h2).1, (reads_of_shown h2).2, by unfold seqOf; rw [h1], isBucket_of_get h1⟩

/-- No call of the program touches entry `q` (evaluated along the run: a cursor delete depends on the cursor). -/
def Untouched (q : Path) : Tx → List Op → Prop
  | _, [] => True
  | t, op :: rest => ¬ footprint t op q ∧ Untouched q (step t op).1 rest

theorem runOps_untouched (q : Path) (t : Tx) (ops : List Op) (h : Untouched q t ops) :
    (runOps t ops).1.work[q]? = t.work[q]? := by
  induction ops generalizing t with
  | nil => rfl
  | cons op rest ih =>
    rw [runOps_cons]
    exact (ih _ h.2).trans (step_frame t op q h.1)

/-- Every writing call of the program is made on a bucket that is neither `Q` nor an ancestor of `Q`. -/
def Outside (Q : Path) : Tx → List Op → Prop
  | _, [] => True
  | t, op :: rest => (∀ p, callBucket t op = some p → ¬ p <+: Q) ∧ Outside Q (step t op).1 rest

/-- `pos = none`: opened (or invalidated by a write to its bucket) and not yet repositioned; `First`/`Last`/`Seek` accept such a
cursor, `Next`/`Prev` answer `stale`. -/
structure LiveCursor (t : Tx) (i : Nat) (P : Path) (pos : Option Nat) : Prop where
  opn : t.closed = false
  cur : ∃ c, t.cursors.lookup i = some c ∧ c.path = P ∧ c.dead = false ∧ c.pos = pos

/-- the call with result `x` answered `r`, left cursor `i` live at `np` and the working state as it was. -/
structure Moved (t : Tx) (i : Nat) (P : Path) (x : Tx × Reply) (r : Reply) (np : Nat) : Prop where
  reply : x.2 = r
  live : LiveCursor x.1 i P (some np)
  work : x.1.work = t.work

section moves
variable {t : Tx} {i : Nat} {P : Path} {L : List (Bytes × Option Bytes)}

theorem curMove_live {pos : Option Nat} (h : LiveCursor t i P pos) (hL : view t.work P = L)
    (needPos : Bool) (hpos : needPos = true → pos.isSome = true)
    (f : List (Bytes × Option Bytes) → Nat → Nat × Bool) {np : Nat} {hit : Bool} (hf : f L (pos.getD 0) = (np, hit)) :
    Moved t i P (t.curMove i needPos f) (.entry (if hit then L[np]? else none)) np := by
  subst hL
  obtain ⟨c, hc, rfl, hd, rfl⟩ := h.cur
  have hstale : (c.dead || (needPos && c.pos.isNone)) = false := by
    rw [hd]
    cases needPos with
    | false => rfl
    | true =>
      have := hpos rfl
      cases hp : c.pos with
      | none => rw [hp] at this; cases this
      | some _ => rfl
  unfold Tx.curMove
  simp only [hc, h.opn, hstale, hf]
  exact ⟨rfl, ⟨h.opn, ⟨{ c with pos := some np }, by simp [Tx.setCursor], rfl, hd, rfl⟩⟩, rfl⟩

/-- `min a (n - 1)`: the cursor is on entry `a`, or stays on the last one once `a` is past the end. -/
theorem step_next_live (hL : view t.work P = L) {a : Nat} (h : LiveCursor t i P (some (min a (L.length - 1)))) :
    Moved t i P (step t (.curNext i)) (.entry L[a + 1]?) (min (a + 1) (L.length - 1)) := by
  rw [step_curNext]
  by_cases hlt : a + 1 < L.length
  · rw [Nat.min_eq_left (Nat.le_sub_one_of_lt (Nat.lt_of_succ_lt hlt))] at h
    rw [Nat.min_eq_left (Nat.le_sub_one_of_lt hlt)]
    exact curMove_live h hL true (fun _ => rfl)
      (fun l pos => if pos + 1 < l.length then (pos + 1, true) else (pos, false)) (if_pos hlt)
  · have hle : L.length - 1 ≤ a := Nat.sub_le_of_le_add (Nat.le_of_not_lt hlt)
    rw [Nat.min_eq_right hle] at h
    rw [Nat.min_eq_right (Nat.le_succ_of_le hle), List.getElem?_eq_none (Nat.le_of_not_lt hlt)]
    exact curMove_live h hL true (fun _ => rfl)
      (fun l pos => if pos + 1 < l.length then (pos + 1, true) else (pos, false))
      (if_neg (show ¬ L.length - 1 + 1 < L.length by omega))

/-- `n - 1 - a`: the `a`-th entry from the end, or the first one once `a` is past the beginning. -/
theorem step_prev_live (hL : view t.work P = L) {a : Nat} (h : LiveCursor t i P (some (L.length - 1 - a))) :
    Moved t i P (step t (.curPrev i)) (.entry L.reverse[a + 1]?) (L.length - 1 - (a + 1)) := by
  rw [step_curPrev, Nat.sub_add_eq]
  by_cases hlt : a + 1 < L.length
  · rw [List.getElem?_reverse hlt, Nat.sub_add_eq]
    exact curMove_live h hL true (fun _ => rfl) (fun _ pos => if 0 < pos then (pos - 1, true) else (0, false))
      (if_pos (Nat.sub_pos_of_lt (Nat.lt_sub_of_add_lt hlt)))
  · have hle : L.length ≤ a + 1 := Nat.le_of_not_lt hlt
    have e : L.length - 1 - a = 0 := Nat.sub_eq_zero_of_le (Nat.sub_le_of_le_add hle)
    rw [e] at h ⊢
    rw [List.getElem?_eq_none (by rw [List.length_reverse]; exact hle)]
    exact curMove_live h hL true (fun _ => rfl) (fun _ pos => if 0 < pos then (pos - 1, true) else (0, false))
      (if_neg (Nat.lt_irrefl 0))

/-- a call that puts the cursor on `pos a` and answers `ans a`, then `m` times a move that goes from `pos a` to
`pos (a + 1)` and answers `ans (a + 1)`; the view stays `L`. -/
theorem cursor_iter {op : Op} (pos : Nat → Nat) (ans : Nat → Reply)
    (hstep : ∀ (t : Tx) (a : Nat), view t.work P = L → LiveCursor t i P (some (pos a)) →
      Moved t i P (step t op) (ans (a + 1)) (pos (a + 1)))
    (m : Nat) : ∀ (t : Tx) (op₀ : Op) (a : Nat), view t.work P = L → Moved t i P (step t op₀) (ans a) (pos a) →
      (runOps t (op₀ :: List.replicate m op)).2 = (List.range' a (m + 1)).map ans := by
  induction m with
  | zero => intro t op₀ a _ h; exact congrArg (· :: []) h.reply
  | succ m ih =>
    intro t op₀ a hL h
    rw [runOps_cons, h.reply, List.replicate_succ, ih _ op (a + 1) (h.work ▸ hL) (hstep _ a (h.work ▸ hL) h.live)]
    rfl

end moves

/-- on an ascending list `seekPos` stops at the first entry that is not below `k`, which is therefore the least such;
`none`: it ran past the end (what `C11_cursor_seek` says of `Cursor.Seek`). -/
theorem seekPos_spec (L : List (Bytes × Option Bytes)) (k : Bytes)
    (hs : L.Pairwise (fun a b => compare a.1 b.1 = .lt)) :
    match L[seekPos L k]? with
    | some e => e ∈ L ∧ compare e.1 k ≠ .lt ∧ ∀ e' ∈ L, compare e'.1 k ≠ .lt → e' = e ∨ compare e.1 e'.1 = .lt
    | none => ∀ e' ∈ L, compare e'.1 k = .lt := by
  induction L with
  | nil => simp [seekPos]
  | cons e rest ih =>
    have ⟨hhead, hrest⟩ := List.pairwise_cons.mp hs
    unfold seekPos
    by_cases hlt : compare e.1 k = .lt
    · rw [if_pos hlt, List.getElem?_cons_succ]
      have := ih hrest
      split at this
      · refine ⟨List.mem_cons_of_mem _ this.1, this.2.1, ?_⟩
        intro e' he' hge
        rcases List.mem_cons.mp he' with rfl | he'
        · exact absurd hlt hge
        · exact this.2.2 e' he' hge
      · intro e' he'
        rcases List.mem_cons.mp he' with rfl | he'
        · exact hlt
        · exact this e' he'
    · rw [if_neg hlt]
      refine ⟨List.mem_cons_self, hlt, ?_⟩
      intro e' he' _
      rcases List.mem_cons.mp he' with rfl | he'
      · exact .inl rfl
      · exact .inr (hhead e' he')

theorem runHistory_nil (db : DB) : runHistory db [] = (db, []) := rfl

theorem runHistory_cons (db : DB) (x : Txn) (rest : List Txn) :
    runHistory db (x :: rest) =
      ((runHistory (runTxn db x).1 rest).1, (runTxn db x).2 :: (runHistory (runTxn db x).1 rest).2) := rfl

theorem runHistory_append (db : DB) (a b : List Txn) :
    runHistory db (a ++ b) =
      ((runHistory (runHistory db a).1 b).1, (runHistory db a).2 ++ (runHistory (runHistory db a).1 b).2) := by
  induction a generalizing db with
  | nil => rfl
  | cons x rest ih => simp only [List.cons_append, runHistory_cons, ih]

/-- A transaction that cannot have committed anything: read-only kinds; a `Batch` that failed; an `Update` that
failed and never called `Commit` on the handle; a hand-made read-write transaction dropped without `Commit`. -/
def Txn.inert (x : Txn) : Bool :=
  match x.kind with
  | .view | .manualRO => true
  | .batch => x.outcome != .ok
  | .update => x.outcome != .ok && !x.prog.contains .commit
  | .manualRW => !x.prog.contains .commit

theorem finishUpdate_failed (t : Tx) {o : Outcome} (ho : o ≠ .ok) : (finishUpdate t o).1 = t.db := by
  cases o
  · exact absurd rfl ho
  · rfl
  · rfl

theorem finishView_db (t : Tx) (o : Outcome) : (finishView t o).1 = t.db := by
  cases o
  · unfold finishView; cases t.closed <;> rfl
  · rfl
  · rfl

theorem finish_db_or_work (k : Kind) (t : Tx) (o : Outcome) :
    (finish k t o).1 = t.db ∨ (finish k t o).1 = t.work := by
  cases k
  case view => exact .inl (finishView_db t o)
  case manualRW => exact .inl rfl
  case manualRO => exact .inl rfl
  all_goals
    cases o
    · unfold finish finishUpdate
      cases t.closed
      · exact .inr rfl
      · exact .inl rfl
    · exact .inl rfl
    · exact .inl rfl

/-- what a `Batch` caller is answered, from whether its bucket resolves and what its key holds. -/
def batchAnswer (c : BatchCall) (resolves : Bool) (cur : Option Entry) : Result :=
  if resolves then
    match putErr c.k c.v cur with
    | some e => .err e
    | none =>
      match c.o with
      | .ok => .ok
      | .err => .err .user
      | .panic => .panic
  else .err .user

/-- a `Batch` caller reads two things of the database and writes exactly when it is answered nil. -/
theorem batchCall_eq (db : DB) (c : BatchCall) :
    batchCall db c =
      (if batchAnswer c (isBucket db c.p) db[c.p ++ [c.k]]? = .ok then db.insert (c.p ++ [c.k]) (.val c.v) else db,
        batchAnswer c (isBucket db c.p) db[c.p ++ [c.k]]?) := by
  unfold batchCall batchAnswer
  rw [step_put, mutate_open _ _ _ _ rfl, begin_work]
  cases isBucket db c.p with
  | false => rfl
  | true =>
    unfold Tx.applyW
    dsimp only
    rw [noteHandle_work, begin_work, put_eq]
    cases putErr c.k c.v db[c.p ++ [c.k]]? with
    | some e => rfl
    | none => cases c.o <;> simp [finishUpdate, Kind.writable]

theorem batchCall_fst (db : DB) (c : BatchCall) :
    (batchCall db c).1 = if (batchCall db c).2 = .ok then db.insert (c.p ++ [c.k]) (.val c.v) else db := by
  rw [batchCall_eq]

theorem batchCall_snd_congr {db db' : DB} {c : BatchCall} (hb : isBucket db' c.p = isBucket db c.p)
    (hk : db'[c.p ++ [c.k]]? = db[c.p ++ [c.k]]?) : (batchCall db' c).2 = (batchCall db c).2 := by
  rw [batchCall_eq, batchCall_eq, hb, hk]

theorem batchCall_ok {db : DB} {c : BatchCall} (h : (batchCall db c).2 = .ok) :
    ∀ s, db[c.p ++ [c.k]]? ≠ some (.bucket s) := by
  rw [batchCall_eq] at h
  unfold batchAnswer at h
  split at h
  · split at h
    · cases h
    · exact (putErr_none ‹_›).2
  · cases h

end KV
