import BtcwVerif.Lemmas.Balance
import BtcwVerif.Lemmas.KSorted
/-!
# `WF` — the lookup-level invariant of the mined part of the store, and `WF s → Inv s`

`Inv` (what `Balance` needs) speaks about permutations and sums over a nested enumeration; that is awkward to carry
through updates.  `WF` says the same with lookups and one sum over the credits bucket; every clause is local.  From `WF` the
enumeration facts of `Inv` follow (`inv_of_wf`); `WF.setCredit` is the one way a credit is written under `WF`.
How `WF` is carried across a write: nothing it reads changes (`WF.of_eq`), the block and transaction records change
(`WF.of_view`), a credit is written (`WF.setCredit`).
-/
namespace TxStore
open KMap

/-- the credit `k ↦ cv` belongs to a transaction that is listed in the block record of its block and has its record;
its amount is the value of that output -/
def Listed (s : Store) (k : CredKey) (cv : CreditVal) : Prop :=
  ∃ br rec, s.blocks.find? k.block.height = some br ∧ br.hash = k.block.hash ∧ k.hash ∈ br.txs ∧
    s.txrecs.find? k.txKey = some rec ∧ rec.outs[k.index]? = some cv.amount

/-- total of the credits without a mined spender, over the credits bucket -/
def creditSum (m : KMap CredKey CreditVal) : Int := (m.map fun p => if p.2.spent then 0 else p.2.amount).sum

structure WF (s : Store) : Prop where
  nodupCredits : NodupKeys s.credits
  nodupUnspent : NodupKeys s.unspent
  nodupUC : NodupKeys s.unminedCredits
  sorted : (s.blocks.map (·.1)).Pairwise (· < ·)
  txsNodup : ∀ p ∈ s.blocks, p.2.txs.Nodup
  recorded : ∀ p ∈ s.blocks, ∀ tx ∈ p.2.txs, (s.txrecs.find? ⟨tx, ⟨p.1, p.2.hash⟩⟩).isSome
  /-- every transaction record sits under its own hash and is listed in the block record of its block -/
  recListed : ∀ k rec, s.txrecs.find? k = some rec → rec.hash = k.hash ∧
    ∃ br, s.blocks.find? k.block.height = some br ∧ br.hash = k.block.hash ∧ k.hash ∈ br.txs
  /-- a transaction is recorded in at most one block -/
  oneBlock : ∀ k₁ k₂, (s.txrecs.find? k₁).isSome → (s.txrecs.find? k₂).isSome → k₁.hash = k₂.hash → k₁ = k₂
  listed : ∀ k cv, s.credits.find? k = some cv → Listed s k cv
  /-- the unspent index holds exactly the credits without a mined spender -/
  index : ∀ op blk, s.unspent.find? op = some blk ↔
    ∃ cv, s.credits.find? ⟨op.hash, blk, op.index⟩ = some cv ∧ cv.spent = false
  counter : s.minedBalance = creditSum s.credits

theorem creditInfo_eq_some_iff (s : Store) (c : CInfo) (k : CredKey) :
    creditInfo s k = some c ↔
      c.key = k ∧ s.credits.find? k = some c.val ∧ ∃ rec, s.txrecs.find? k.txKey = some rec ∧ c.cb = rec.isCoinBase := by
  constructor
  · intro h
    obtain ⟨h1, h2, h3⟩ := creditInfo_some h
    exact ⟨h2, h1, h3⟩
  · rintro ⟨h1, h2, rec, h3, h4⟩
    unfold creditInfo
    rw [h2, h3]
    cases c
    simp_all

def LiveUnspent (s : Store) (c : CInfo) : Prop := creditInfo s c.key = some c ∧ c.val.spent = false

theorem mem_unspentInfos_iff (s : Store) (hw : WF s) (c : CInfo) :
    c ∈ (unspentInfos s).filterMap id ↔ LiveUnspent s c := by
  unfold unspentInfos LiveUnspent
  rw [List.filterMap_map, List.mem_filterMap]
  constructor
  · rintro ⟨⟨op, blk⟩, hm, hc⟩
    simp only [Function.comp, id] at hc
    have hk : c.key = ⟨op.hash, blk, op.index⟩ := (creditInfo_some hc).2.1
    have hf := find?_of_mem _ hw.nodupUnspent hm
    obtain ⟨cv, hcv, hsp⟩ := (hw.index op blk).mp hf
    have : c.val = cv := by
      have := (creditInfo_some hc).1
      rw [hcv] at this; cases this; rfl
    rw [hk]; exact ⟨hc, by rw [this]; exact hsp⟩
  · rintro ⟨hc, hsp⟩
    have hcv := (creditInfo_some hc).1
    have hf : s.unspent.find? c.key.outPoint = some c.key.block :=
      (hw.index c.key.outPoint c.key.block).mpr ⟨c.val, hcv, hsp⟩
    exact ⟨(c.key.outPoint, c.key.block), mem_of_find? _ hf, hc⟩

theorem mem_txCredits_iff (s : Store) (blk : Block) (tx : Nat) (c : CInfo) :
    c ∈ txCredits s blk tx ↔
      ∃ rec i, s.txrecs.find? ⟨tx, blk⟩ = some rec ∧ i < rec.outs.length ∧ creditInfo s ⟨tx, blk, i⟩ = some c := by
  unfold txCredits
  cases hr : s.txrecs.find? ⟨tx, blk⟩ with
  | none => simp
  | some rec =>
    simp only [List.mem_filterMap, List.mem_range]
    constructor
    · rintro ⟨i, hi, hc⟩; exact ⟨rec, i, rfl, hi, hc⟩
    · rintro ⟨rec', i, hr', hi, hc⟩; cases hr'; exact ⟨i, hi, hc⟩

theorem mem_minedUnspent_iff (s : Store) (hw : WF s) (c : CInfo) : c ∈ minedUnspent s ↔ LiveUnspent s c := by
  unfold minedUnspent minedCredits blockCredits LiveUnspent
  rw [List.mem_filter, List.mem_flatMap]
  constructor
  · rintro ⟨⟨p, _, hc⟩, hsp⟩
    rw [List.mem_flatMap] at hc
    obtain ⟨tx, _, hc⟩ := hc
    obtain ⟨rec, i, _, _, hci⟩ := (mem_txCredits_iff s _ tx c).mp hc
    have hk := (creditInfo_some hci).2.1
    rw [hk]; exact ⟨hci, by simpa using hsp⟩
  · rintro ⟨hc, hsp⟩
    have hcv := (creditInfo_some hc).1
    obtain ⟨br, rec, hb, hbh, htx, hrec, hout⟩ := hw.listed _ _ hcv
    refine ⟨⟨(c.key.block.height, br), mem_of_find? _ hb, ?_⟩, by simp [hsp]⟩
    rw [List.mem_flatMap]
    refine ⟨c.key.hash, htx, ?_⟩
    have hblk : (⟨c.key.block.height, br.hash⟩ : Block) = c.key.block := by rw [hbh]
    simp only [hblk]
    refine (mem_txCredits_iff s _ _ c).mpr ⟨rec, c.key.index, hrec, ?_, hc⟩
    have := List.getElem?_eq_some_iff.mp hout
    exact this.1

theorem nodup_filterMap_key {α β κ : Type} (key : α → κ) (F : α → Option β) (back : β → κ)
    (hF : ∀ a b, F a = some b → back b = key a) {l : List α} (hl : (l.map key).Nodup) : (l.filterMap F).Nodup := by
  rw [List.Nodup, List.pairwise_map] at hl
  rw [List.Nodup, List.pairwise_filterMap]
  exact hl.imp fun hab c hc d hd hcd => hab (by rw [← hF _ _ hc, ← hF _ _ hd, hcd])

theorem nodup_unspentInfos (s : Store) (hw : WF s) : ((unspentInfos s).filterMap id).Nodup := by
  unfold unspentInfos
  rw [List.filterMap_map]
  exact nodup_filterMap_key (fun p : OutPoint × Block => p.1) _ (fun c : CInfo => c.key.outPoint)
    (fun a c hc => by rw [(creditInfo_some hc).2.1]; rfl) hw.nodupUnspent

theorem txCredits_key {s : Store} {blk : Block} {tx : Nat} {c : CInfo} (h : c ∈ txCredits s blk tx) :
    c.key.hash = tx ∧ c.key.block = blk := by
  obtain ⟨rec, i, _, _, hc⟩ := (mem_txCredits_iff s blk tx c).mp h
  have := (creditInfo_some hc).2.1
  rw [this]; exact ⟨rfl, rfl⟩

theorem nodup_txCredits (s : Store) (blk : Block) (tx : Nat) : (txCredits s blk tx).Nodup := by
  unfold txCredits
  split
  · exact List.nodup_nil
  · exact nodup_filterMap_key id _ (·.key.index) (fun i c hc => by rw [(creditInfo_some hc).2.1]; rfl)
      (by rw [List.map_id]; exact List.nodup_range)

theorem nodup_minedUnspent (s : Store) (hw : WF s) : (minedUnspent s).Nodup := by
  unfold minedUnspent
  apply List.Nodup.sublist List.filter_sublist
  unfold minedCredits
  rw [List.Nodup, List.pairwise_flatMap]
  constructor
  · intro p hp
    unfold blockCredits
    rw [List.pairwise_flatMap]
    constructor
    · intro tx _; exact nodup_txCredits s _ tx
    · have := hw.txsNodup p hp
      refine this.imp ?_
      intro a b hab c hc d hd hcd
      apply hab
      rw [← (txCredits_key hc).1, ← (txCredits_key hd).1, hcd]
  · have hs := hw.sorted
    rw [List.pairwise_map] at hs
    refine hs.imp ?_
    intro a b hab c hc d hd hcd
    unfold blockCredits at hc hd
    rw [List.mem_flatMap] at hc hd
    obtain ⟨t1, _, h1⟩ := hc
    obtain ⟨t2, _, h2⟩ := hd
    have e1 := (txCredits_key h1).2
    have e2 := (txCredits_key h2).2
    rw [hcd] at e1
    rw [e1] at e2
    have : a.1 = b.1 := by injection e2
    omega

/-- the credits without a mined spender, enumerated from the credits bucket -/
def liveFromCredits (s : Store) : List CInfo :=
  s.credits.filterMap fun p => if p.2.spent then none else creditInfo s p.1

theorem mem_liveFromCredits_iff (s : Store) (hw : WF s) (c : CInfo) : c ∈ liveFromCredits s ↔ LiveUnspent s c := by
  unfold liveFromCredits LiveUnspent
  rw [List.mem_filterMap]
  constructor
  · rintro ⟨⟨k, cv⟩, hm, hc⟩
    simp only at hc
    split at hc
    · cases hc
    · rename_i hsp
      have hk := (creditInfo_some hc).2.1
      have hf := find?_of_mem _ hw.nodupCredits hm
      have : c.val = cv := by
        have := (creditInfo_some hc).1
        rw [hf] at this; cases this; rfl
      rw [hk]; exact ⟨hc, by rw [this]; simpa using hsp⟩
  · rintro ⟨hc, hsp⟩
    have hcv := (creditInfo_some hc).1
    exact ⟨(c.key, c.val), mem_of_find? _ hcv, by simp [hsp, hc]⟩

theorem nodup_liveFromCredits (s : Store) (hw : WF s) : (liveFromCredits s).Nodup :=
  nodup_filterMap_key (fun p : CredKey × CreditVal => p.1) _ (fun c : CInfo => c.key) (fun p c hc => by
    split at hc
    · cases hc
    · exact (creditInfo_some hc).2.1) hw.nodupCredits

theorem creditSum_eq (s : Store) (hw : WF s) : creditSum s.credits = sumAmounts (liveFromCredits s) := by
  unfold creditSum sumAmounts liveFromCredits
  apply sum_filterMap_eq
  intro p hp
  obtain ⟨k, cv⟩ := p
  simp only
  by_cases hsp : cv.spent = true
  · simp [hsp]
  · have hsp' : cv.spent = false := by simpa using hsp
    simp only [hsp', Bool.false_eq_true, if_false]
    have hf := find?_of_mem _ hw.nodupCredits hp
    obtain ⟨br, rec, _, _, _, hrec, _⟩ := hw.listed k cv hf
    have : creditInfo s k = some ⟨k, cv, rec.isCoinBase⟩ := by
      unfold creditInfo; rw [hf, hrec]
    rw [this]
    rfl

theorem inv_of_wf (s : Store) (hw : WF s) : Inv s := by
  have hperm1 : ((unspentInfos s).filterMap id).Perm (minedUnspent s) :=
    (List.perm_ext_iff_of_nodup (nodup_unspentInfos s hw) (nodup_minedUnspent s hw)).mpr
      (fun c => (mem_unspentInfos_iff s hw c).trans (mem_minedUnspent_iff s hw c).symm)
  have hperm2 : (liveFromCredits s).Perm (minedUnspent s) :=
    (List.perm_ext_iff_of_nodup (nodup_liveFromCredits s hw) (nodup_minedUnspent s hw)).mpr
      (fun c => (mem_liveFromCredits_iff s hw c).trans (mem_minedUnspent_iff s hw c).symm)
  refine ⟨?_, ?_, hperm1, hw.sorted, hw.recorded⟩
  · rw [hw.counter, creditSum_eq s hw]
    unfold sumAmounts
    exact perm_map_sum _ hperm2
  · intro o ho
    unfold unspentInfos at ho
    obtain ⟨⟨op, blk⟩, hm, rfl⟩ := List.mem_map.mp ho
    have hf := find?_of_mem _ hw.nodupUnspent hm
    obtain ⟨cv, hcv, _⟩ := (hw.index op blk).mp hf
    obtain ⟨br, rec, _, _, _, hrec, _⟩ := hw.listed _ _ hcv
    simp only [creditInfo, hcv]
    have : (⟨op.hash, blk, op.index⟩ : CredKey).txKey = ⟨op.hash, blk⟩ := rfl
    rw [this] at hrec
    simp [CredKey.txKey, hrec]

theorem WF.credit_block {s : Store} (hw : WF s) {k : CredKey} {cv : CreditVal} (h : s.credits.find? k = some cv)
    {b : Block} (hr : (s.txrecs.find? ⟨k.hash, b⟩).isSome) : k.block = b := by
  obtain ⟨_, rec, _, _, _, hrec, _⟩ := hw.listed k cv h
  exact congrArg TxKey.block (hw.oneBlock k.txKey ⟨k.hash, b⟩ (by rw [hrec]; rfl) hr rfl)

/-- what a credit contributes to the counter -/
def liveAmount : Option CreditVal → Int
  | some v => if v.spent then 0 else v.amount
  | none => 0

/-- the entry of the unspent index for the credit `k ↦ o` -/
def indexEntry (k : CredKey) : Option CreditVal → Option Block
  | some v => if v.spent then none else some k.block
  | none => none

theorem WF.index_set {s : Store} (hw : WF s) (k : CredKey) (new : Option CreditVal)
    (hrec : (s.txrecs.find? k.txKey).isSome) (op : OutPoint) (blk : Block) :
    (s.unspent.set k.outPoint (indexEntry k new)).find? op = some blk ↔
      ∃ cv, (s.credits.set k new).find? ⟨op.hash, blk, op.index⟩ = some cv ∧ cv.spent = false := by
  rw [find?_set, find?_set]
  by_cases e : k.outPoint = op
  · subst e
    rw [if_pos rfl]
    by_cases hb : k.block = blk
    · subst hb
      rw [if_pos (show k = ⟨k.outPoint.hash, k.block, k.outPoint.index⟩ from rfl)]
      cases new with
      | none => simp [indexEntry]
      | some v => cases hv : v.spent <;> simp [indexEntry, hv]
    · rw [if_neg (fun e => hb (congrArg CredKey.block e))]
      constructor
      · intro h
        cases new with
        | none => cases h
        | some v =>
          simp only [indexEntry] at h
          split at h
          · cases h
          · exact absurd (Option.some.inj h) hb
      · rintro ⟨cv, hcv, _⟩
        exact absurd (hw.credit_block hcv (b := k.block) hrec).symm hb
  · have hne : k ≠ ⟨op.hash, blk, op.index⟩ := fun e' => e (by rw [e']; rfl)
    rw [if_neg e, if_neg hne]
    exact hw.index op blk

/-- one credit is written (added, rewritten or deleted: `new`), the unspent index and the counter follow -/
theorem WF.setCredit {s s' : Store} (hw : WF s) (k : CredKey) (new : Option CreditVal)
    (hrec : (s.txrecs.find? k.txKey).isSome) (hl : ∀ nv, new = some nv → Listed s k nv)
    (hb : s'.blocks = s.blocks) (ht : s'.txrecs = s.txrecs) (hn : NodupKeys s'.unminedCredits)
    (hc : s'.credits = s.credits.set k new) (hu : s'.unspent = s.unspent.set k.outPoint (indexEntry k new))
    (hm : s'.minedBalance = s.minedBalance - liveAmount (s.credits.find? k) + liveAmount new) : WF s' := by
  refine ⟨hc ▸ nodupKeys_set _ _ _ hw.nodupCredits, hu ▸ nodupKeys_set _ _ _ hw.nodupUnspent, hn,
    hb ▸ hw.sorted, hb ▸ hw.txsNodup, by rw [hb, ht]; exact hw.recorded, by rw [hb, ht]; exact hw.recListed,
    ht ▸ hw.oneBlock, ?_, ?_, ?_⟩
  · intro k' cv h
    unfold Listed
    rw [hb, ht]
    rw [hc, find?_set] at h
    split at h
    · rename_i e; subst e; exact hl cv h
    · exact hw.listed k' cv h
  · rw [hc, hu]; exact hw.index_set k new hrec
  · rw [hm, hc, hw.counter]
    unfold creditSum
    rw [sum_set _ _ _ _ hw.nodupCredits]
    cases s.credits.find? k <;> cases new <;> rfl

theorem WF.block {s : Store} (hw : WF s) {h : Nat} {br : BlockRec} (hf : s.blocks.find? h = some br) :
    br.txs.Nodup ∧ ∀ tx ∈ br.txs, (s.txrecs.find? ⟨tx, ⟨h, br.hash⟩⟩).isSome :=
  ⟨hw.txsNodup _ (mem_of_find? _ hf), hw.recorded _ (mem_of_find? _ hf)⟩

/-- the block and transaction records change, credits, unspent index and counter stay: `WF` is kept if the two buckets
still fit each other and no record that a credit belongs to has gone (the `listed` clause follows from that) -/
theorem WF.of_view {s s' : Store} (hw : WF s)
    (hc : s'.credits = s.credits) (hu : s'.unspent = s.unspent) (hm : s'.minedBalance = s.minedBalance)
    (hn : NodupKeys s'.unminedCredits) (hsorted : (s'.blocks.map (·.1)).Pairwise (· < ·))
    (hblocks : ∀ h br, s'.blocks.find? h = some br →
      br.txs.Nodup ∧ ∀ tx ∈ br.txs, (s'.txrecs.find? ⟨tx, ⟨h, br.hash⟩⟩).isSome)
    (hrecs : ∀ k rec, s'.txrecs.find? k = some rec → rec.hash = k.hash ∧
      ∃ br, s'.blocks.find? k.block.height = some br ∧ br.hash = k.block.hash ∧ k.hash ∈ br.txs)
    (hone : ∀ k₁ k₂, (s'.txrecs.find? k₁).isSome → (s'.txrecs.find? k₂).isSome → k₁.hash = k₂.hash → k₁ = k₂)
    (hkeep : ∀ k cv, s.credits.find? k = some cv → s'.txrecs.find? k.txKey = s.txrecs.find? k.txKey) : WF s' := by
  have hnb := nodupKeys_of_sorted _ hsorted
  refine ⟨hc ▸ hw.nodupCredits, hu ▸ hw.nodupUnspent, hn, hsorted,
    fun p hp => (hblocks p.1 p.2 (find?_of_mem _ hnb hp)).1, fun p hp => (hblocks p.1 p.2 (find?_of_mem _ hnb hp)).2,
    hrecs, hone, ?_, by rw [hu, hc]; exact hw.index, by rw [hm, hc]; exact hw.counter⟩
  intro k cv hk
  rw [hc] at hk
  obtain ⟨_, rec, _, _, _, hrec, hout⟩ := hw.listed k cv hk
  rw [← hkeep k cv hk] at hrec
  obtain ⟨_, br, h1, h2, h3⟩ := hrecs _ _ hrec
  exact ⟨br, rec, h1, h2, h3, hrec, hout⟩

theorem WF.of_eq {s s' : Store} (hw : WF s) (hb : s'.blocks = s.blocks) (ht : s'.txrecs = s.txrecs)
    (hc : s'.credits = s.credits) (hu : s'.unspent = s.unspent) (hm : s'.minedBalance = s.minedBalance)
    (hn : NodupKeys s'.unminedCredits) : WF s' :=
  hw.of_view hc hu hm hn (hb ▸ hw.sorted) (by rw [hb, ht]; exact fun _ _ => hw.block) (by rw [hb, ht]; exact hw.recListed)
    (ht ▸ hw.oneBlock) fun _ _ _ => by rw [ht]

theorem addCredit_mined_result {s s' : Store} {rec : Tx} {bm : BlockMeta} {i : Nat} {chg : Bool}
    (h : addCredit s rec (some bm) i chg = .ok s') :
    s' = s ∨ ∃ amt, rec.outs[i]? = some amt ∧ s.credits.find? ⟨rec.hash, bm.block, i⟩ = none ∧
      s' = { s with credits := s.credits.insert ⟨rec.hash, bm.block, i⟩ ⟨amt, chg, false, none⟩,
                    minedBalance := s.minedBalance + amt,
                    unspent := s.unspent.insert ⟨rec.hash, i⟩ bm.block } := by
  unfold addCredit at h
  split at h
  · cases h
  · rename_i amt hout
    dsimp only at h
    split at h <;> cases h
    · exact .inl rfl
    · rename_i hc
      exact .inr ⟨amt, hout, contains_eq_false.mp (by simpa using hc), rfl⟩

end TxStore
