import BtcwVerif.Lemmas.Util
import BtcwVerif.Model.AddrDeriveOps
/-!
The consistency invariant of the `AddrDerive` model (C03).  `Inv hd s` ties together what the database holds (account rows,
cointype keys, address rows), what the manager caches (account info, derive-on-unlock queue) and the address objects handed
out (the heap): every account key is the seed's child at the scope/account path (or the imported account key), cached
account info mirrors its row, every address object was derived from the key of its account's row, an attached private key
is the key of the object's public key, and an object whose account has a private key either carries its key or is queued
for derive-on-unlock.  Before it: the association lists and the views (`acctRow`, `cacheAt`, `douAt`, `addrRowAt`, `coinAt`,
`lastAt`) through which `Inv` and everything after it read a state, with what each update (`putSD`, `putSM`, `alloc`,
`bindH`) does to each view.  After it: `Inv.extend`, the frame rule for the moves that keep flags, keys and the set of rows
(Lemmas/AddrInvOps.lean instantiates it); a move that changes one of these (lock, unlock, conversion, a new row, a fresh
manager) proves `Inv` clause by clause, with `KeyObjOK.transfer` and `DouObj.mono` for the clauses it leaves alone.
-/
set_option linter.unusedSectionVars false
namespace AddrDerive

variable {K P : Type} [DecidableEq K] [DecidableEq P]

/-- public derivation of a hardened child is impossible (BIP32) -/
def HD.NoHardPub {K P : Type} (hd : HD K P) : Prop := ∀ p i, H ≤ i → hd.pubChild p i = none

section alist
variable {α β γ : Type} [DecidableEq α]

theorem alookup_aset (l : List (α × β)) (a a' : α) (b : β) :
    alookup (aset l a b) a' = if a = a' then some b else alookup l a' := by
  induction l with
  | nil => simp [aset, alookup]
  | cons h t ih =>
    obtain ⟨k, v⟩ := h
    by_cases hk : k = a
    · subst hk
      by_cases ha : k = a' <;> simp [aset, alookup, ha]
    · by_cases ha : a = a'
      · subst ha; simp [aset, alookup, hk, ih]
      · by_cases hk' : k = a'
        · subst hk'; simp [aset, alookup, hk, ha]
        · simp [aset, alookup, hk, hk', ih, ha]

theorem alookup_aset_self (l : List (α × β)) (a : α) (b : β) : alookup (aset l a b) a = some b := by
  simp [alookup_aset]

theorem alookup_aset_ne (l : List (α × β)) (a a' : α) (b : β) (h : a ≠ a') : alookup (aset l a b) a' = alookup l a' := by
  simp [alookup_aset, h]

theorem alookup_map (l : List (α × β)) (f : α → β → γ) (a : α) :
    alookup (l.map fun e => (e.1, f e.1 e.2)) a = (alookup l a).map (f a) := by
  induction l with
  | nil => simp [alookup]
  | cons h t ih =>
    obtain ⟨k, v⟩ := h
    by_cases hk : k = a
    · subst hk; simp [alookup]
    · simp [alookup, hk, ih]

theorem alookup_aset_map {f : β → γ} (l : List (α × β)) {a : α} {b b' : β} (h : alookup l a = some b) (hf : f b' = f b) (a' : α) :
    (alookup (aset l a b') a').map f = (alookup l a').map f := by
  rw [alookup_aset]
  split
  · rename_i e; rw [← e, h, Option.map_some, Option.map_some, hf]
  · rfl

theorem alookup_cons (k a : α) (v : β) (t : List (α × β)) :
    alookup ((k, v) :: t) a = if k = a then some v else alookup t a := rfl

theorem alookup_mem (l : List (α × β)) (a : α) (b : β) (h : alookup l a = some b) : (a, b) ∈ l := by
  induction l with
  | nil => simp [alookup] at h
  | cons hd t ih =>
    obtain ⟨k, v⟩ := hd
    by_cases hk : k = a
    · subst hk; simp [alookup] at h; subst h; exact List.mem_cons_self
    · simp [alookup, hk] at h; exact List.mem_cons_of_mem _ (ih h)

end alist

theorem isSome_of_map_eq {α β γ : Type} {o : Option α} {o' : Option β} {f : α → γ} {g : β → γ} (e : o.map f = o'.map g) :
    o.isSome = o'.isSome := by
  rw [← Option.isSome_map (f := f), e, Option.isSome_map]

theorem getElem?_setAt {α : Type} (l : List α) (n m : Nat) (a : α) :
    (setAt l n a)[m]? = if n = m ∧ n < l.length then some a else l[m]? := by
  induction l generalizing n m with
  | nil => cases n <;> simp [setAt]
  | cons h t ih =>
    cases n with
    | zero => cases m <;> simp [setAt]
    | succ n =>
      cases m with
      | zero => simp [setAt]
      | succ m => simp [setAt, ih]

theorem getElem?_setAt_of_some {α : Type} {l : List α} {n : Nat} {x : α} (h : l[n]? = some x) (m : Nat) (a : α) :
    (setAt l n a)[m]? = if n = m then some a else l[m]? := by
  rw [getElem?_setAt]; simp [(List.getElem?_eq_some_iff.mp h).1]

theorem getElem?_concat_ge {α : Type} {l : List α} {x y : α} {i : Nat} (hge : l.length ≤ i) (h : (l ++ [x])[i]? = some y) :
    i = l.length ∧ y = x := by
  rw [List.getElem?_append_right hge] at h
  cases hi : i - l.length with
  | zero => rw [hi] at h; exact ⟨by omega, by simpa using h.symm⟩
  | succ n => rw [hi] at h; simp at h

theorem length_setAt {α : Type} (l : List α) (n : Nat) (a : α) : (setAt l n a).length = l.length := by
  induction l generalizing n with
  | nil => cases n <;> simp [setAt]
  | cons h t ih => cases n <;> simp [setAt, ih]

@[simp] theorem getSD_putSD (s : State K P) (sc sc' : Scope) (sd : ScopeDisk K P) :
    getSD (putSD s sc sd) sc' = if sc = sc' then some sd else getSD s sc' := by
  simp [getSD, putSD, alookup_aset]
@[simp] theorem getSM_putSM (s : State K P) (sc sc' : Scope) (sm : ScopeMem K P) :
    getSM (putSM s sc sm) sc' = if sc = sc' then some sm else getSM s sc' := by
  simp [getSM, putSM, alookup_aset]
@[simp] theorem getSM_putSD (s : State K P) (sc sc' : Scope) (sd : ScopeDisk K P) : getSM (putSD s sc sd) sc' = getSM s sc' := rfl
@[simp] theorem getSD_putSM (s : State K P) (sc sc' : Scope) (sm : ScopeMem K P) : getSD (putSM s sc sm) sc' = getSD s sc' := rfl
@[simp] theorem mem_putSD (s : State K P) (sc : Scope) (sd : ScopeDisk K P) : (putSD s sc sd).mem = s.mem := rfl
@[simp] theorem root_putSD (s : State K P) (sc : Scope) (sd : ScopeDisk K P) : (putSD s sc sd).root = s.root := rfl
@[simp] theorem imports_putSD (s : State K P) (sc : Scope) (sd : ScopeDisk K P) : (putSD s sc sd).imports = s.imports := rfl
@[simp] theorem dwo_putSD (s : State K P) (sc : Scope) (sd : ScopeDisk K P) : (putSD s sc sd).disk.watchOnly = s.disk.watchOnly := rfl
@[simp] theorem drp_putSD (s : State K P) (sc : Scope) (sd : ScopeDisk K P) : (putSD s sc sd).disk.rootPriv = s.disk.rootPriv := rfl
@[simp] theorem disk_putSM (s : State K P) (sc : Scope) (sm : ScopeMem K P) : (putSM s sc sm).disk = s.disk := rfl
@[simp] theorem root_putSM (s : State K P) (sc : Scope) (sm : ScopeMem K P) : (putSM s sc sm).root = s.root := rfl
@[simp] theorem imports_putSM (s : State K P) (sc : Scope) (sm : ScopeMem K P) : (putSM s sc sm).imports = s.imports := rfl
@[simp] theorem heap_putSM (s : State K P) (sc : Scope) (sm : ScopeMem K P) : (putSM s sc sm).mem.heap = s.mem.heap := rfl
@[simp] theorem locked_putSM (s : State K P) (sc : Scope) (sm : ScopeMem K P) : (putSM s sc sm).mem.locked = s.mem.locked := rfl
@[simp] theorem mwo_putSM (s : State K P) (sc : Scope) (sm : ScopeMem K P) : (putSM s sc sm).mem.watchOnly = s.mem.watchOnly := rfl

@[simp] theorem getSD_alloc (s : State K P) (o : Obj K P) (sc : Scope) : getSD (alloc s o).1 sc = getSD s sc := rfl
@[simp] theorem getSM_alloc (s : State K P) (o : Obj K P) (sc : Scope) : getSM (alloc s o).1 sc = getSM s sc := rfl
@[simp] theorem disk_alloc (s : State K P) (o : Obj K P) : (alloc s o).1.disk = s.disk := rfl
@[simp] theorem root_alloc (s : State K P) (o : Obj K P) : (alloc s o).1.root = s.root := rfl
@[simp] theorem imports_alloc (s : State K P) (o : Obj K P) : (alloc s o).1.imports = s.imports := rfl
@[simp] theorem heap_alloc (s : State K P) (o : Obj K P) : (alloc s o).1.mem.heap = s.mem.heap ++ [o] := rfl
@[simp] theorem idx_alloc (s : State K P) (o : Obj K P) : (alloc s o).2 = s.mem.heap.length := rfl
@[simp] theorem locked_alloc (s : State K P) (o : Obj K P) : (alloc s o).1.mem.locked = s.mem.locked := rfl
@[simp] theorem mwo_alloc (s : State K P) (o : Obj K P) : (alloc s o).1.mem.watchOnly = s.mem.watchOnly := rfl

@[simp] theorem getSD_bindH (s : State K P) (h i : Nat) (sc : Scope) : getSD (bindH s h i) sc = getSD s sc := rfl
@[simp] theorem getSM_bindH (s : State K P) (h i : Nat) (sc : Scope) : getSM (bindH s h i) sc = getSM s sc := rfl
@[simp] theorem disk_bindH (s : State K P) (h i : Nat) : (bindH s h i).disk = s.disk := rfl
@[simp] theorem root_bindH (s : State K P) (h i : Nat) : (bindH s h i).root = s.root := rfl
@[simp] theorem imports_bindH (s : State K P) (h i : Nat) : (bindH s h i).imports = s.imports := rfl
@[simp] theorem heap_bindH (s : State K P) (h i : Nat) : (bindH s h i).mem.heap = s.mem.heap := rfl
@[simp] theorem locked_bindH (s : State K P) (h i : Nat) : (bindH s h i).mem.locked = s.mem.locked := rfl
@[simp] theorem mwo_bindH (s : State K P) (h i : Nat) : (bindH s h i).mem.watchOnly = s.mem.watchOnly := rfl

def rowPub : AcctRow K P → P
  | .dflt p _ _ _ _ => p
  | .wo p _ _ _ _ _ _ => p

def rowPriv : AcctRow K P → Option K
  | .dflt _ k _ _ _ => k
  | .wo _ _ _ _ _ _ _ => none

def rowNext : AcctRow K P → Bool → Nat
  | .dflt _ _ ne ni _, int => if int then ni else ne
  | .wo _ _ ne ni _ _ _, int => if int then ni else ne

def acctRow (s : State K P) (sc : Scope) (a : Nat) : Option (AcctRow K P) := (getSD s sc).bind fun sd => alookup sd.accts a
def cacheAt (s : State K P) (sc : Scope) (a : Nat) : Option (AcctInfo K P) := (getSM s sc).bind fun sm => alookup sm.acctInfo a
def douAt (s : State K P) (sc : Scope) : List (Nat × Nat × Nat) := match getSM s sc with | some sm => sm.dou | none => []
def addrRowAt (s : State K P) (sc : Scope) (id : AddrId P) : Option AddrRow := (getSD s sc).bind fun sd => alookup sd.addrs id

/-- the key of an account row is what it should be: the seed's child `m/purpose'/coin'/a'` (an attached private
    key is that very key), or the account key given to `NewAccountWatchingOnly` -/
def RowKeyOK (hd : HD K P) (s : State K P) (sc : Scope) (a : Nat) : AcctRow K P → Prop
  | .dflt pub priv _ _ _ => ∃ root ak, s.root = some root ∧ acctKeyAt hd root sc a = some ak ∧ hd.neuter ak = pub ∧ ∀ k, priv = some k → k = ak
  | .wo pub _ _ _ _ _ _ => (sc, a, pub) ∈ s.imports

/-- what `Inv` reads of an account row -/
def rowKey : AcctRow K P → Bool × P × Option K
  | .dflt p k _ _ _ => (true, p, k)
  | .wo p _ _ _ _ _ _ => (false, p, none)

def coinAt (s : State K P) (sc : Scope) : Option K := (getSD s sc).bind (·.coinPriv)
def lastAt (s : State K P) (sc : Scope) : Option (Option Nat) := (getSD s sc).map (·.lastAcct)

section views
variable (s : State K P) (sc sc' : Scope) (a : Nat)

@[simp] theorem acctRow_putSM (sm : ScopeMem K P) : acctRow (putSM s sc sm) sc' a = acctRow s sc' a := rfl
@[simp] theorem addrRowAt_putSM (sm : ScopeMem K P) (id : AddrId P) : addrRowAt (putSM s sc sm) sc' id = addrRowAt s sc' id := rfl
@[simp] theorem coinAt_putSM (sm : ScopeMem K P) : coinAt (putSM s sc sm) sc' = coinAt s sc' := rfl
@[simp] theorem lastAt_putSM (sm : ScopeMem K P) : lastAt (putSM s sc sm) sc' = lastAt s sc' := rfl
@[simp] theorem cacheAt_putSM (sm : ScopeMem K P) :
    cacheAt (putSM s sc sm) sc' a = if sc = sc' then alookup sm.acctInfo a else cacheAt s sc' a := by
  unfold cacheAt; rw [getSM_putSM]; by_cases h : sc = sc' <;> simp [h]
@[simp] theorem douAt_putSM (sm : ScopeMem K P) :
    douAt (putSM s sc sm) sc' = if sc = sc' then sm.dou else douAt s sc' := by
  unfold douAt; rw [getSM_putSM]; by_cases h : sc = sc' <;> simp [h]

@[simp] theorem cacheAt_putSD (sd : ScopeDisk K P) : cacheAt (putSD s sc sd) sc' a = cacheAt s sc' a := rfl
@[simp] theorem douAt_putSD (sd : ScopeDisk K P) : douAt (putSD s sc sd) sc' = douAt s sc' := rfl
@[simp] theorem acctRow_putSD (sd : ScopeDisk K P) :
    acctRow (putSD s sc sd) sc' a = if sc = sc' then alookup sd.accts a else acctRow s sc' a := by
  unfold acctRow; rw [getSD_putSD]; by_cases h : sc = sc' <;> simp [h]
@[simp] theorem addrRowAt_putSD (sd : ScopeDisk K P) (id : AddrId P) :
    addrRowAt (putSD s sc sd) sc' id = if sc = sc' then alookup sd.addrs id else addrRowAt s sc' id := by
  unfold addrRowAt; rw [getSD_putSD]; by_cases h : sc = sc' <;> simp [h]
@[simp] theorem coinAt_putSD (sd : ScopeDisk K P) :
    coinAt (putSD s sc sd) sc' = if sc = sc' then sd.coinPriv else coinAt s sc' := by
  unfold coinAt; rw [getSD_putSD]; by_cases h : sc = sc' <;> simp [h]
@[simp] theorem lastAt_putSD (sd : ScopeDisk K P) :
    lastAt (putSD s sc sd) sc' = if sc = sc' then some sd.lastAcct else lastAt s sc' := by
  unfold lastAt; rw [getSD_putSD]; by_cases h : sc = sc' <;> simp [h]

@[simp] theorem acctRow_alloc (o : Obj K P) : acctRow (alloc s o).1 sc a = acctRow s sc a := rfl
@[simp] theorem addrRowAt_alloc (o : Obj K P) (id : AddrId P) : addrRowAt (alloc s o).1 sc id = addrRowAt s sc id := rfl
@[simp] theorem coinAt_alloc (o : Obj K P) : coinAt (alloc s o).1 sc = coinAt s sc := rfl
@[simp] theorem lastAt_alloc (o : Obj K P) : lastAt (alloc s o).1 sc = lastAt s sc := rfl
@[simp] theorem cacheAt_alloc (o : Obj K P) : cacheAt (alloc s o).1 sc a = cacheAt s sc a := rfl
@[simp] theorem douAt_alloc (o : Obj K P) : douAt (alloc s o).1 sc = douAt s sc := rfl

@[simp] theorem acctRow_bindH (h i : Nat) : acctRow (bindH s h i) sc a = acctRow s sc a := rfl
@[simp] theorem addrRowAt_bindH (h i : Nat) (id : AddrId P) : addrRowAt (bindH s h i) sc id = addrRowAt s sc id := rfl
@[simp] theorem coinAt_bindH (h i : Nat) : coinAt (bindH s h i) sc = coinAt s sc := rfl
@[simp] theorem lastAt_bindH (h i : Nat) : lastAt (bindH s h i) sc = lastAt s sc := rfl
@[simp] theorem cacheAt_bindH (h i : Nat) : cacheAt (bindH s h i) sc a = cacheAt s sc a := rfl
@[simp] theorem douAt_bindH (h i : Nat) : douAt (bindH s h i) sc = douAt s sc := rfl

theorem acctRow_of_getSD {s : State K P} {sc : Scope} {sd : ScopeDisk K P} (h : getSD s sc = some sd) (a : Nat) :
    acctRow s sc a = alookup sd.accts a := by simp [acctRow, h]
theorem addrRowAt_of_getSD {s : State K P} {sc : Scope} {sd : ScopeDisk K P} (h : getSD s sc = some sd) (id : AddrId P) :
    addrRowAt s sc id = alookup sd.addrs id := by simp [addrRowAt, h]
theorem coinAt_of_getSD {s : State K P} {sc : Scope} {sd : ScopeDisk K P} (h : getSD s sc = some sd) :
    coinAt s sc = sd.coinPriv := by simp [coinAt, h]
theorem lastAt_of_getSD {s : State K P} {sc : Scope} {sd : ScopeDisk K P} (h : getSD s sc = some sd) :
    lastAt s sc = some sd.lastAcct := by simp [lastAt, h]
theorem cacheAt_of_getSM {s : State K P} {sc : Scope} {sm : ScopeMem K P} (h : getSM s sc = some sm) (a : Nat) :
    cacheAt s sc a = alookup sm.acctInfo a := by simp [cacheAt, h]
theorem douAt_of_getSM {s : State K P} {sc : Scope} {sm : ScopeMem K P} (h : getSM s sc = some sm) :
    douAt s sc = sm.dou := by simp [douAt, h]

theorem douAt_putSM_same {s : State K P} {sc : Scope} {sm : ScopeMem K P} (h : getSM s sc = some sm) (sm' : ScopeMem K P)
    (hd : sm'.dou = sm.dou) (sc' : Scope) : douAt (putSM s sc sm') sc' = douAt s sc' := by
  rw [douAt_putSM]
  split
  · rename_i e; rw [← e, hd, douAt_of_getSM h]
  · rfl

theorem cacheAt_putSM_same {s : State K P} {sc : Scope} {sm : ScopeMem K P} (h : getSM s sc = some sm) (sm' : ScopeMem K P)
    (hi : sm'.acctInfo = sm.acctInfo) (sc' : Scope) (a : Nat) : cacheAt (putSM s sc sm') sc' a = cacheAt s sc' a := by
  rw [cacheAt_putSM]
  split
  · rename_i e; rw [← e, hi, cacheAt_of_getSM h]
  · rfl

theorem cacheAt_putSM_upd {s : State K P} {sc : Scope} {sm : ScopeMem K P} (h : getSM s sc = some sm) (sm' : ScopeMem K P)
    {acct : Nat} {ai : AcctInfo K P}
    (hi : ∀ a, alookup sm'.acctInfo a = if acct = a then some ai else alookup sm.acctInfo a) (sc' : Scope) (a : Nat) :
    cacheAt (putSM s sc sm') sc' a = if sc = sc' ∧ acct = a then some ai else cacheAt s sc' a := by
  rw [cacheAt_putSM]
  by_cases e : sc = sc'
  · rw [if_pos e, hi, ← e, cacheAt_of_getSM h]; simp
  · rw [if_neg e, if_neg (fun x => e x.1)]

theorem acctRow_putSD_upd {s : State K P} {sc : Scope} {sd : ScopeDisk K P} (h : getSD s sc = some sd) (sd' : ScopeDisk K P)
    {acct : Nat} {row : AcctRow K P}
    (hi : ∀ a, alookup sd'.accts a = if acct = a then some row else alookup sd.accts a) (sc' : Scope) (a : Nat) :
    acctRow (putSD s sc sd') sc' a = if sc = sc' ∧ acct = a then some row else acctRow s sc' a := by
  rw [acctRow_putSD]
  by_cases e : sc = sc'
  · rw [if_pos e, hi, ← e, acctRow_of_getSD h]; simp
  · rw [if_neg e, if_neg (fun x => e x.1)]

end views

structure DiskOK (hd : HD K P) (s : State K P) : Prop where
  root : ∀ r, s.disk.rootPriv = some r → s.root = some r
  coin : ∀ sc ck, coinAt s sc = some ck → ∃ root, s.root = some root ∧ coinKeyAt hd root sc = some ck
  /-- every scope has its `lastaccount` row, and it bounds the account numbers in use: `NewAccount` never hands out a number
      twice (what defect `l1` broke) -/
  last : ∀ sc lo, lastAt s sc = some lo → ∃ l, lo = some l ∧ ∀ a, (acctRow s sc a).isSome → a ≤ l
  row : ∀ sc a row, acctRow s sc a = some row → RowKeyOK hd s sc a row
  addr : ∀ sc id a b i, addrRowAt s sc id = some (.chain a b i) →
    ∃ row p cls, acctRow s sc a = some row ∧ derive2pub hd (rowPub row) b i = some p ∧ id = .key (.hd p) cls true

structure KeyObjOK (hd : HD K P) (s : State K P) (o : KeyObj K P) : Prop where
  priv : ∀ k, o.privEnc = some k → pubOf hd k = o.pub
  chained : o.imported = false → ∃ row, acctRow s o.scope o.acct = some row ∧ o.acctPub = some (rowPub row) ∧
    o.internal = (o.branch == 1) ∧
    (o.branch < H → o.index < H → ∃ p, derive2pub hd (rowPub row) o.branch o.index = some p ∧ o.pub = .hd p) ∧
    (s.disk.watchOnly = false → o.hasPrivAcct = (rowPriv row).isSome)
  imported : o.imported = true → ∃ id, o.pub = .imp id

structure DouObj (hd : HD K P) (s : State K P) (sc : Scope) (e : Nat × Nat × Nat) (o : KeyObj K P) : Prop where
  notImp : o.imported = false
  scope : o.scope = sc
  branch : o.branch = e.2.1
  index : o.index = e.2.2
  cached : (cacheAt s sc o.acct).isSome
  pub : ∃ ap p, o.acctPub = some ap ∧ derive2pub hd ap o.branch o.index = some p ∧ o.pub = .hd p

structure CacheOK (s : State K P) (ai : AcctInfo K P) (row : AcctRow K P) : Prop where
  pub : ai.keyPub = rowPub row
  enc : ai.keyEnc = rowPriv row
  locked : s.mem.locked = true → ai.keyPriv = none
  unlocked : s.mem.locked = false → ai.keyPriv = ai.keyEnc

structure Inv (hd : HD K P) (s : State K P) : Prop where
  woEq : s.mem.watchOnly = s.disk.watchOnly
  woLocked : s.mem.watchOnly = true → s.mem.locked = true
  disk : DiskOK hd s
  cache : ∀ sc a ai, cacheAt s sc a = some ai → ∃ row, acctRow s sc a = some row ∧ CacheOK s ai row
  heap : ∀ o, Obj.key o ∈ s.mem.heap → KeyObjOK hd s o
  dou : ∀ sc e, e ∈ douAt s sc → ∃ o, s.mem.heap[e.1]? = some (.key o) ∧ DouObj hd s sc e o
  /-- an object of an account with a private key carries its key, or the manager is locked and the object is queued for
      derive-on-unlock: after `Unlock` every such object can sign -/
  sign : ∀ idx o, s.mem.heap[idx]? = some (.key o) → o.imported = false → o.hasPrivAcct = true → s.mem.watchOnly = false →
    o.privEnc.isSome ∨ (s.mem.locked = true ∧ ∃ e ∈ douAt s o.scope, e.1 = idx)

theorem RowKeyOK.neuter {hd : HD K P} {s : State K P} {sc : Scope} {a : Nat} {row : AcctRow K P} (h : RowKeyOK hd s sc a row)
    {ak : K} (hp : rowPriv row = some ak) : hd.neuter ak = rowPub row := by
  cases row with
  | dflt pub priv ne ni name =>
    obtain ⟨root, ak', _, _, hn, hq⟩ := h
    rw [hq ak hp]; exact hn
  | wo pub fp ne ni name schema ci => cases hp

theorem rowKey_pub (r r' : AcctRow K P) (h : rowKey r = rowKey r') : rowPub r = rowPub r' := by
  cases r <;> cases r' <;> simp_all [rowKey, rowPub]

theorem rowKey_priv (r r' : AcctRow K P) (h : rowKey r = rowKey r') : rowPriv r = rowPriv r' := by
  cases r <;> cases r' <;> simp_all [rowKey, rowPriv]

theorem RowKeyOK.congr {hd : HD K P} {s s' : State K P} {sc : Scope} {a : Nat} {r r' : AcctRow K P}
    (hk : rowKey r = rowKey r') (hroot : s'.root = s.root) (himp : s'.imports = s.imports)
    (h : RowKeyOK hd s sc a r) : RowKeyOK hd s' sc a r' := by
  cases r <;> cases r' <;> cases hk
  · rw [RowKeyOK, hroot]; exact h
  · rw [RowKeyOK, himp]; exact h

theorem acctRow_of_key {s s' : State K P} {sc : Scope} {a : Nat}
    (hkey : (acctRow s' sc a).map rowKey = (acctRow s sc a).map rowKey) {row : AcctRow K P} (h : acctRow s sc a = some row) :
    ∃ row', acctRow s' sc a = some row' ∧ rowKey row' = rowKey row := by
  exact Option.map_eq_some_iff.mp (by rw [hkey, h]; rfl)

/-- `KeyObjOK` reads the state through the object's account row only: its public key and, unless the database is
    watching-only, whether it holds a private key -/
theorem KeyObjOK.transfer {hd : HD K P} {s s' : State K P} {o : KeyObj K P} (h : KeyObjOK hd s o)
    (hrow : ∀ row, acctRow s o.scope o.acct = some row → ∃ row', acctRow s' o.scope o.acct = some row' ∧
      rowPub row' = rowPub row ∧ (s'.disk.watchOnly = false → s.disk.watchOnly = false ∧ rowPriv row' = rowPriv row)) :
    KeyObjOK hd s' o := by
  refine ⟨h.priv, fun hni => ?_, h.imported⟩
  obtain ⟨row, h1, h2, h3, h4, h5⟩ := h.chained hni
  obtain ⟨row', hr', hp, hq⟩ := hrow row h1
  exact ⟨row', hr', by rw [hp]; exact h2, h3, by rw [hp]; exact h4, fun hw => by rw [(hq hw).2]; exact h5 (hq hw).1⟩

theorem KeyObjOK.congr {hd : HD K P} {s s' : State K P} {o : KeyObj K P}
    (hkey : ∀ sc a, (acctRow s' sc a).map rowKey = (acctRow s sc a).map rowKey)
    (hdw : s'.disk.watchOnly = s.disk.watchOnly) (h : KeyObjOK hd s o) : KeyObjOK hd s' o :=
  h.transfer fun _ h1 =>
    let ⟨row', hr', hk⟩ := acctRow_of_key (hkey _ _) h1
    ⟨row', hr', rowKey_pub _ _ hk, fun hw => ⟨hdw ▸ hw, rowKey_priv _ _ hk⟩⟩

/-- a derive-on-unlock entry depends on the state only through which accounts are cached -/
theorem DouObj.mono {hd : HD K P} {s s' : State K P} {sc : Scope} {e : Nat × Nat × Nat} {o : KeyObj K P}
    (x : DouObj hd s sc e o) (hc : (cacheAt s sc o.acct).isSome → (cacheAt s' sc o.acct).isSome) : DouObj hd s' sc e o :=
  ⟨x.notImp, x.scope, x.branch, x.index, hc x.cached, x.pub⟩

/-- The frame rule for `Inv`: flags, root and ghosts stay, every account row keeps its `rowKey`, and address rows, cache,
    heap and queue only grow, by entries that are right on their own. -/
theorem Inv.extend {hd : HD K P} {s s' : State K P} (h : Inv hd s)
    (hl : s'.mem.locked = s.mem.locked) (hmw : s'.mem.watchOnly = s.mem.watchOnly) (hdw : s'.disk.watchOnly = s.disk.watchOnly)
    (hrp : s'.disk.rootPriv = s.disk.rootPriv) (hroot : s'.root = s.root) (himp : s'.imports = s.imports)
    (hcoin : ∀ sc, coinAt s' sc = coinAt s sc) (hlast : ∀ sc, lastAt s' sc = lastAt s sc)
    (hkey : ∀ sc a, (acctRow s' sc a).map rowKey = (acctRow s sc a).map rowKey)
    (haddr : ∀ sc id a b i, addrRowAt s' sc id = some (.chain a b i) → addrRowAt s sc id = some (.chain a b i) ∨
        ∃ row p cls, acctRow s' sc a = some row ∧ derive2pub hd (rowPub row) b i = some p ∧ id = .key (.hd p) cls true)
    (hcache : ∀ sc a ai, cacheAt s' sc a = some ai →
        (∃ ai0, cacheAt s sc a = some ai0 ∧ ai.keyPub = ai0.keyPub ∧ ai.keyEnc = ai0.keyEnc ∧ ai.keyPriv = ai0.keyPriv) ∨
        (∃ row, acctRow s' sc a = some row ∧ CacheOK s' ai row))
    (hcmono : ∀ sc a, (cacheAt s sc a).isSome → (cacheAt s' sc a).isSome)
    (new : List (Obj K P)) (hheap : s'.mem.heap = s.mem.heap ++ new)
    (hnew : ∀ o, Obj.key o ∈ new → KeyObjOK hd s' o)
    (hdou : ∀ sc e, e ∈ douAt s' sc → e ∈ douAt s sc ∨ ∃ o, s'.mem.heap[e.1]? = some (.key o) ∧ DouObj hd s' sc e o)
    (hdmono : ∀ sc e, e ∈ douAt s sc → e ∈ douAt s' sc)
    (hsign : ∀ idx o, s.mem.heap.length ≤ idx → s'.mem.heap[idx]? = some (.key o) → o.imported = false → o.hasPrivAcct = true →
        s'.mem.watchOnly = false → o.privEnc.isSome ∨ (s'.mem.locked = true ∧ ∃ e ∈ douAt s' o.scope, e.1 = idx)) :
    Inv hd s' := by
  have hold : ∀ (idx : Nat) (o : Obj K P), s.mem.heap[idx]? = some o → s'.mem.heap[idx]? = some o := by
    intro idx o ho
    rw [hheap, List.getElem?_append_left (List.getElem?_eq_some_iff.mp ho).1]; exact ho
  refine ⟨by rw [hmw, hdw]; exact h.woEq, by rw [hmw, hl]; exact h.woLocked, ?_, ?_, ?_, ?_, ?_⟩
  · refine ⟨by rw [hrp, hroot]; exact h.disk.root, ?_, ?_, ?_, ?_⟩
    · intro sc ck hc; rw [hcoin] at hc; rw [hroot]; exact h.disk.coin sc ck hc
    · intro sc lo hlo
      rw [hlast] at hlo
      obtain ⟨l, hl1, hl2⟩ := h.disk.last sc lo hlo
      exact ⟨l, hl1, fun a ha => hl2 a (isSome_of_map_eq (hkey sc a) ▸ ha)⟩
    · intro sc a row hr
      obtain ⟨row0, hr0, hk⟩ := acctRow_of_key (hkey sc a).symm hr
      exact RowKeyOK.congr hk hroot himp (h.disk.row sc a row0 hr0)
    · intro sc id a b i hr
      rcases haddr sc id a b i hr with h0 | h0
      · obtain ⟨row, p, cls, h1, h2, h3⟩ := h.disk.addr sc id a b i h0
        obtain ⟨row', hr', hk⟩ := acctRow_of_key (hkey sc a) h1
        exact ⟨row', p, cls, hr', by rw [rowKey_pub _ _ hk]; exact h2, h3⟩
      · exact h0
  · intro sc a ai hc
    rcases hcache sc a ai hc with ⟨ai0, h0, e1, e2, e3⟩ | h0
    · obtain ⟨row, hr, hok⟩ := h.cache sc a ai0 h0
      obtain ⟨row', hr', hk⟩ := acctRow_of_key (hkey sc a) hr
      refine ⟨row', hr', ?_, ?_, ?_, ?_⟩
      · rw [e1, rowKey_pub _ _ hk]; exact hok.pub
      · rw [e2, rowKey_priv _ _ hk]; exact hok.enc
      · rw [hl, e3]; exact hok.locked
      · rw [hl, e3, e2]; exact hok.unlocked
    · exact h0
  · intro o ho
    rw [hheap] at ho
    rcases List.mem_append.mp ho with ho | ho
    · exact KeyObjOK.congr hkey hdw (h.heap o ho)
    · exact hnew o ho
  · intro sc e he
    rcases hdou sc e he with h0 | h0
    · obtain ⟨o, ho, hd0⟩ := h.dou sc e h0
      exact ⟨o, hold _ _ ho, hd0.mono (hcmono _ _)⟩
    · exact h0
  · intro idx o ho hni hpa hw
    rcases Nat.lt_or_ge idx s.mem.heap.length with hlt | hge
    · have ho' : s.mem.heap[idx]? = some (.key o) := by
        rw [hheap, List.getElem?_append_left hlt] at ho; exact ho
      rcases h.sign idx o ho' hni hpa (by rw [← hmw]; exact hw) with h1 | ⟨h1, e, he, hei⟩
      · exact Or.inl h1
      · exact Or.inr ⟨by rw [hl]; exact h1, e, hdmono _ _ he, hei⟩
    · exact hsign idx o hge ho hni hpa hw

variable {hd : HD K P} {s s' : State K P}
theorem DiskOK.of_eq (h : DiskOK hd s) (hdisk : s'.disk = s.disk) (hroot : s'.root = s.root)
    (himp : s'.imports = s.imports) : DiskOK hd s' := by
  obtain ⟨c, p, r, d, m, i⟩ := s
  obtain ⟨c', p', r', d', m', i'⟩ := s'
  cases hdisk; cases hroot; cases himp
  exact ⟨h.root, h.coin, h.last, h.row, h.addr⟩

end AddrDerive
