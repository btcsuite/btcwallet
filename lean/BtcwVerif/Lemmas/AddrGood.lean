/-
`Good d m`: coherence of the caches with the database plus the well-formedness facts needed to carry it through
operations (heap ids in range, shape of address rows, watch-only flag in sync, private keys present).
Preservation lemmas for the cache-filling primitives.
-/
import BtcwVerif.Lemmas.AddrCoherent
namespace AddrLock

def AKey.isChain : AKey → Bool
  | .chain .. => true
  | _ => false

structure Good (d : Disk) (m : Mem) : Prop where
  coh    : Coherent d m
  hAddrs : ∀ sc k id, aget (m.scopes sc).addrs k = some id → id < m.heapN
  hLast  : ∀ sc a ai, aget (m.scopes sc).acctInfo a = some ai → ai.lastExt < m.heapN ∧ ai.lastInt < m.heapN
  wo     : m.watchOnly = d.watchOnly
  dpriv  : d.watchOnly = false → ∀ sc a row, acctAns d sc a = .ok row → row.wo = false → row.hasPriv = true
  shape  : ∀ sc k row, aget (d.scopes sc).addrs k = some row → (k.isChain = true ↔ row = .chain)

theorem privOK_of {d : Disk} {m : Mem} (hwo : m.watchOnly = d.watchOnly)
    (hd : d.watchOnly = false → ∀ sc a row, acctAns d sc a = .ok row → row.wo = false → row.hasPriv = true) :
    PrivOK d m := by
  by_cases h : m.watchOnly = true
  · exact Or.inr (Or.inl h)
  · exact Or.inr (Or.inr (hd (by rw [← hwo]; simpa using h)))

/-- the heap frame of the C08 strand: no object re-allocated, old objects keep key and account, sync state and watch-only
flag kept.  It says nothing about the caches: `good_ext` / `good_congr` take what happens to their entries separately. -/
structure Ext (m m' : Mem) : Prop where
  heapN  : m.heapN ≤ m'.heapN
  heap   : ∀ id, id < m.heapN → (m'.heap id).key = (m.heap id).key ∧ (m'.heap id).acct = (m.heap id).acct
  synced : m'.syncedTo = m.syncedTo
  wo     : m'.watchOnly = m.watchOnly

variable {d : Disk} {m : Mem}

theorem Ext.refl (m : Mem) : Ext m m := ⟨Nat.le_refl _, fun _ _ => ⟨rfl, rfl⟩, rfl, rfl⟩

theorem Ext.trans {a b c : Mem} (h1 : Ext a b) (h2 : Ext b c) : Ext a c :=
  ⟨Nat.le_trans h1.heapN h2.heapN,
   fun id hid =>
     have e2 := h2.heap id (Nat.lt_of_lt_of_le hid h1.heapN)
     have e1 := h1.heap id hid
     ⟨e2.1.trans e1.1, e2.2.trans e1.2⟩,
   h2.synced.trans h1.synced, h2.wo.trans h1.wo⟩

theorem infoOK_ext {m' : Mem} (hH : ∀ id, id < m.heapN → (m'.heap id).key = (m.heap id).key ∧ (m'.heap id).acct = (m.heap id).acct)
    {a : Nat} {ai : AcctInfo} {row : AcctRow}
    (h : InfoOK m a ai row) (h1 : ai.lastExt < m.heapN) (h2 : ai.lastInt < m.heapN) : InfoOK m' a ai row := by
  obtain ⟨k1, k2, k3, k4, k5, k6, k7⟩ := h
  have e1 := hH _ h1
  have e2 := hH _ h2
  exact ⟨k1, k2, k3, e1.1.trans k4, e1.2.trans k5, e2.1.trans k6, e2.2.trans k7⟩

/-- the part of a cached account info the queries look at -/
def infoView (ai : AcctInfo) : String × Nat × Nat × Nat × Nat := (ai.name, ai.nextExt, ai.nextInt, ai.lastExt, ai.lastInt)

theorem infoOK_view {a : Nat} {ai ai' : AcctInfo} {row : AcctRow} (hv : infoView ai = infoView ai')
    (h : InfoOK m a ai row) : InfoOK m a ai' row := by
  simp only [infoView, Prod.mk.injEq] at hv
  obtain ⟨v1, v2, v3, v4, v5⟩ := hv
  unfold InfoOK at *
  rw [← v1, ← v2, ← v3, ← v4, ← v5]; exact h

def AcctOK (d : Disk) (m : Mem) (sc a : Nat) (ai : AcctInfo) : Prop :=
  (∃ row, acctAns d sc a = .ok row ∧ InfoOK m a ai row) ∧ ai.lastExt < m.heapN ∧ ai.lastInt < m.heapN

def AddrOK (d : Disk) (m : Mem) (sc : Nat) (k : AKey) (id : Nat) : Prop :=
  addrAns d sc k = .addr k (keyAcct k) ∧ id < m.heapN ∧ (m.heap id).key = k ∧ (m.heap id).acct = keyAcct k

theorem Good.acctOK (hg : Good d m) {sc a : Nat} {ai : AcctInfo}
    (h : aget (m.scopes sc).acctInfo a = some ai) : AcctOK d m sc a ai :=
  ⟨hg.coh.acct sc a ai h, hg.hLast sc a ai h⟩

theorem Good.addrOK (hg : Good d m) {sc : Nat} {k : AKey} {id : Nat}
    (h : aget (m.scopes sc).addrs k = some id) : AddrOK d m sc k id :=
  ⟨(hg.coh.addr sc k id h).1, hg.hAddrs sc k id h, (hg.coh.addr sc k id h).2⟩

theorem good_of_entries
    (hd : d.watchOnly = false → ∀ sc a row, acctAns d sc a = .ok row → row.wo = false → row.hasPriv = true)
    (hs : ∀ sc k row, aget (d.scopes sc).addrs k = some row → (k.isChain = true ↔ row = .chain))
    (hwo : m.watchOnly = d.watchOnly) (hsy : m.syncedTo = d.syncedTo)
    (hacct : ∀ sc a ai, aget (m.scopes sc).acctInfo a = some ai → AcctOK d m sc a ai)
    (haddr : ∀ sc k id, aget (m.scopes sc).addrs k = some id → AddrOK d m sc k id) : Good d m :=
  ⟨⟨fun sc a ai h => (hacct sc a ai h).1, fun sc k id h => ⟨(haddr sc k id h).1, (haddr sc k id h).2.2⟩,
    privOK_of hwo hd, hsy⟩,
   fun sc k id h => (haddr sc k id h).2.1, fun sc a ai h => (hacct sc a ai h).2, hwo, hd, hs⟩

theorem AcctOK.mono {d' : Disk} {m' : Mem} {sc a : Nat} {ai : AcctInfo} (h : AcctOK d m sc a ai)
    (hN : m.heapN ≤ m'.heapN)
    (hH : ∀ id, id < m.heapN → (m'.heap id).key = (m.heap id).key ∧ (m'.heap id).acct = (m.heap id).acct)
    (hd : acctAns d' sc a = acctAns d sc a) : AcctOK d' m' sc a ai := by
  obtain ⟨⟨row, hr, hok⟩, h1, h2⟩ := h
  exact ⟨⟨row, hd.trans hr, infoOK_ext hH hok h1 h2⟩, Nat.lt_of_lt_of_le h1 hN, Nat.lt_of_lt_of_le h2 hN⟩

theorem AcctOK.view {sc a : Nat} {ai ai' : AcctInfo} (h : AcctOK d m sc a ai)
    (hv : infoView ai = infoView ai') : AcctOK d m sc a ai' := by
  obtain ⟨⟨row, hr, hok⟩, h1, h2⟩ := h
  have hv' := hv
  simp only [infoView, Prod.mk.injEq] at hv'
  exact ⟨⟨row, hr, infoOK_view hv hok⟩, hv'.2.2.2.1 ▸ h1, hv'.2.2.2.2 ▸ h2⟩

theorem AddrOK.mono {d' : Disk} {m' : Mem} {sc : Nat} {k : AKey} {id : Nat} (h : AddrOK d m sc k id)
    (hN : m.heapN ≤ m'.heapN)
    (hH : ∀ id, id < m.heapN → (m'.heap id).key = (m.heap id).key ∧ (m'.heap id).acct = (m.heap id).acct)
    (hd : addrAns d' sc k = .addr k (keyAcct k)) : AddrOK d' m' sc k id :=
  ⟨hd, Nat.lt_of_lt_of_le h.2.1 hN, (hH id h.2.1).1.trans h.2.2.1, (hH id h.2.1).2.trans h.2.2.2⟩

/-- memory changes, database fixed: every entry is an old one (up to fields the queries do not look at) or right -/
theorem good_ext {m' : Mem} (hg : Good d m) (he : Ext m m')
    (haddr : ∀ sc k id, aget (m'.scopes sc).addrs k = some id →
       aget (m.scopes sc).addrs k = some id ∨ AddrOK d m' sc k id)
    (hacct : ∀ sc a ai, aget (m'.scopes sc).acctInfo a = some ai →
       (∃ ai0, aget (m.scopes sc).acctInfo a = some ai0 ∧ infoView ai0 = infoView ai) ∨ AcctOK d m' sc a ai) :
    Good d m' :=
  good_of_entries hg.dpriv hg.shape (he.wo.trans hg.wo) (he.synced.trans hg.coh.synced)
    (fun sc a ai h => (hacct sc a ai h).elim
      (fun ⟨_, h0, hv⟩ => ((hg.acctOK h0).mono he.heapN he.heap rfl).view hv) fun h1 => h1)
    (fun sc k i h => (haddr sc k i h).elim (fun h0 => (hg.addrOK h0).mono he.heapN he.heap (hg.addrOK h0).1) fun h1 => h1)

/-- `Good` sees the caches through `aget` only -/
theorem good_congr {m' : Mem} (hg : Good d m) (he : Ext m m')
    (hacct : ∀ sc a, aget (m'.scopes sc).acctInfo a = aget (m.scopes sc).acctInfo a)
    (haddr : ∀ sc k, aget (m'.scopes sc).addrs k = aget (m.scopes sc).addrs k) : Good d m' :=
  good_ext hg he (fun sc k _ hk => Or.inl (haddr sc k ▸ hk)) (fun sc a ai ha => Or.inl ⟨ai, hacct sc a ▸ ha, rfl⟩)

theorem ext_same {m' : Mem} (hN : m'.heapN = m.heapN) (hh : m'.heap = m.heap) (hs : m'.syncedTo = m.syncedTo)
    (hw : m'.watchOnly = m.watchOnly) : Ext m m' :=
  ⟨Nat.le_of_eq hN.symm, fun id _ => by rw [hh]; exact ⟨rfl, rfl⟩, hs, hw⟩

structure LoadFacts (d : Disk) (m m1 : Mem) (sc a : Nat) : Prop where
  ext    : Ext m m1
  addrs  : ∀ sc', (m1.scopes sc').addrs = (m.scopes sc').addrs
  scal   : Scal m1 = Scal m
  cached : ∃ ai row, aget (m1.scopes sc).acctInfo a = some ai ∧ acctAns d sc a = .ok row ∧ InfoOK m1 a ai row
  good   : Good d m1

theorem loadAcct_good {m1 : Mem} {sc a : Nat} (hg : Good d m) (hl : loadAcct d m sc a = .ok m1) :
    LoadFacts d m m1 sc a := by
  cases hc : aget (m.scopes sc).acctInfo a with
  | some ai =>
    rw [loadAcct_cached hc] at hl
    cases hl
    obtain ⟨row, hr, hok⟩ := hg.coh.acct sc a ai hc
    exact ⟨Ext.refl m, fun _ => rfl, rfl, ⟨ai, row, hc, hr, hok⟩, hg⟩
  | none =>
    rw [loadAcct_uncached hc hg.coh.priv] at hl
    cases hr : acctAns d sc a with
    | error e => rw [hr] at hl; cases hl
    | ok row =>
      rw [hr] at hl
      cases hl
      have hs := loadAcctRow_spec m sc a row
      have hext : Ext m (loadAcctRow m sc a row) :=
        ⟨by rw [hs.heapN]; omega, fun id hid => by rw [hs.heap id hid]; exact ⟨rfl, rfl⟩, hs.synced, congrArg (·.2.1) hs.scal⟩
      have hcached : aget ((loadAcctRow m sc a row).scopes sc).acctInfo a = some (rowInfo m row) := by
        rw [hs.entry, aget_aset_self]
      refine ⟨hext, hs.addrs, hs.scal, ⟨_, row, hcached, hr, hs.info⟩, ?_⟩
      refine good_ext hg hext (fun sc' k id h => Or.inl (hs.addrs sc' ▸ h)) fun sc' a' ai' h => ?_
      by_cases hsc : sc' = sc
      · subst hsc
        rw [hs.entry] at h
        rcases aget_aset_some h with ⟨rfl, rfl⟩ | ⟨_, h⟩
        · refine Or.inr ⟨⟨row, hr, hs.info⟩, ?_⟩
          rw [hs.heapN]; exact ⟨Nat.lt_add_of_pos_right (by decide), Nat.lt_succ_self _⟩
        · exact Or.inl ⟨ai', h, rfl⟩
      · rw [hs.others sc' hsc] at h; exact Or.inl ⟨ai', h, rfl⟩

theorem ext_alloc (m : Mem) (o : Obj) : Ext m (m.alloc o).1 :=
  ⟨Nat.le_succ _, fun id hid => by
     have : id ≠ m.heapN := Nat.ne_of_lt hid
     simp [Mem.alloc, this], rfl, rfl⟩

theorem ext_ktm (m : Mem) (sc a b i : Nat) (p : Bool) : Ext m (keyToManaged m sc a b i p).1 :=
  ⟨by rw [ktm_heapN]; omega, fun id hid => by
     have : id ≠ m.heapN := Nat.ne_of_lt hid
     simp [ktm_heap, this], ktm_synced .., congrArg (·.2.1) (scal_keyToManaged ..)⟩

theorem ext_updScope (m : Mem) (sc : Nat) (f : ScopeMem → ScopeMem) : Ext m (m.updScope sc f) :=
  ⟨Nat.le_refl _, fun _ _ => ⟨rfl, rfl⟩, rfl, rfl⟩

theorem good_alloc (hg : Good d m) (o : Obj) : Good d (m.alloc o).1 :=
  good_congr hg (ext_alloc m o) (fun _ _ => rfl) fun _ _ => rfl

theorem good_ktm (hg : Good d m) (sc a b i : Nat) (p : Bool) :
    Good d (keyToManaged m sc a b i p).1 :=
  good_congr hg (ext_ktm ..) (fun _ _ => by rw [ktm_acctInfo]) fun _ _ => by rw [ktm_addrs]

theorem good_addAddr (hg : Good d m) {sc : Nat} {k : AKey} {id : Nat} (h : AddrOK d m sc k id) :
    Good d (m.cacheAddr sc k id) :=
  good_ext hg (ext_updScope ..)
    (fun sc' k' id' h' => by
      rw [aget_cacheAddr] at h'; split at h'
      · rename_i hc; cases h'; rw [hc.1, hc.2]; exact Or.inr h
      · exact Or.inl h')
    (fun sc' _ ai h' => Or.inl ⟨ai, cacheAddr_acctInfo m sc k id sc' ▸ h', rfl⟩)

theorem keyAcct_not_chain {k : AKey} (h : k.isChain = false) : keyAcct k = IMPORTED := by
  cases k <;> first | rfl | cases h

theorem chainRow_good {sc a b i : Nat} {r : Mem × Nat} (hg : Good d m)
    (h : chainRowToManaged d m sc a b i = .ok r) :
    Good d r.1 ∧ r.2 < r.1.heapN ∧ (r.1.heap r.2).key = .chain a b i ∧ (r.1.heap r.2).acct = a ∧
      ∃ row, acctAns d sc a = .ok row := by
  unfold chainRowToManaged at h
  cases hl : loadAcct d m sc a with
  | error e => rw [hl] at h; cases h
  | ok m1 =>
    have hf := loadAcct_good hg hl
    obtain ⟨ai, row, hc, hr, _⟩ := hf.cached
    have hai : acctInfoOf m1 sc a = some ai := hc
    simp only [hl, hai] at h
    cases h
    refine ⟨good_ktm hf.good .., ?_, ?_, ?_, row, hr⟩
    · rw [ktm_snd, ktm_heapN]; exact Nat.lt_succ_self _
    · rw [ktm_snd, ktm_heap, if_pos rfl]
    · rw [ktm_snd, ktm_heap, if_pos rfl]

theorem loadAndCache_good {sc : Nat} {k : AKey} {r : Mem × Nat} (hg : Good d m)
    (hl : loadAndCache d m sc k = .ok r) : Good d r.1 := by
  cases hrow : aget (d.scopes sc).addrs k with
  | none => unfold loadAndCache at hl; rw [hrow] at hl; cases hl
  | some row =>
    by_cases hne : row = .chain
    · subst hne
      unfold loadAndCache at hl; rw [hrow] at hl
      cases k with
      | chain a b i =>
        dsimp only at hl
        cases hcr : chainRowToManaged d m sc a b i with
        | error e => rw [hcr] at hl; cases hl
        | ok r' =>
          rw [hcr] at hl; cases hl
          obtain ⟨g1, h1, h2, h3, row, hr⟩ := chainRow_good hg hcr
          refine good_addAddr g1 ⟨?_, h1, h2, h3⟩
          unfold addrAns; rw [hrow]; simp only [hr, keyAcct]
      | imp _ => cases hl
      | scr _ _ => cases hl
    · obtain ⟨o, hk, ha, he⟩ := loadAndCache_imported m hrow hne
      rw [he] at hl; cases hl
      have hka : keyAcct k = IMPORTED :=
        keyAcct_not_chain (Bool.eq_false_iff.mpr fun hc => hne ((hg.shape sc k row hrow).mp hc))
      have hobj : (m.alloc o).1.heap (m.alloc o).2 = o := if_pos rfl
      exact good_addAddr (good_alloc hg o)
        ⟨hka ▸ addrAns_nonchain hrow hne, Nat.lt_succ_self _, by rw [hobj, hk], by rw [hobj, ha, hka]⟩

theorem addressOf_good {sc : Nat} {k : AKey} {r : Mem × Nat} (hg : Good d m)
    (hl : addressOf d m sc k = .ok r) : Good d r.1 := by
  unfold addressOf at hl
  cases hc : aget (m.scopes sc).addrs k with
  | some id => rw [hc] at hl; cases hl; exact hg
  | none => rw [hc] at hl; exact loadAndCache_good hg hl

end AddrLock
