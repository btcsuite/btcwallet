/-
C05 support: the frame relations every operation of the AddrLock model satisfies, in every lock state.

`DouOK`: every queued derive-on-unlock entry belongs to a cached account.  `DouExt m m'`: the set of cached account numbers
only grows (the model has no InvalidateAccountCache; a restart builds a fresh, empty memory), and every derive-on-unlock
entry of `m'` is an old entry or belongs to an account cached in `m'`.  `WExt m m'`: object ids below `heapN` are never
re-allocated and an object never changes its kind; from it, the invariant that every address object a pending OnCommit
closure of `nextAddresses` is going to cache is a live `*managedAddress`.  (Needed by the "stays wiped while locked"
invariant: the F13 fix wipes exactly the `*managedAddress` objects of the closure.)  `CExt` = `DouExt` and `WExt`: what every
operation does to the caches and the heap.

In the file, in this order: `cachedA`, `DouOK`, `DouExt`, `QueuedFor` (what `keyToManaged` queues), `PendOK`, `StDou` (the
statement form of `C05_douOK_invariant`); then `LiveM`, `LastOK` / `LastKind` (the last-address slots hold live
`*managedAddress` objects), `WExt` (named after its field `kind`, as is the file), `CExt`, `PendGood`.
-/
import BtcwVerif.Lemmas.AddrLock
namespace AddrLock

def cachedA (m : Mem) (sc a : Nat) : Bool := (aget (m.scopes sc).acctInfo a).isSome

def DouOK (m : Mem) : Prop :=
  ∀ sc, ∀ e ∈ (m.scopes sc).dou, (aget (m.scopes sc).acctInfo e.acct).isSome = true

structure DouExt (m m' : Mem) : Prop where
  keys : ∀ sc a, cachedA m sc a = true → cachedA m' sc a = true
  dou  : ∀ sc e, e ∈ (m'.scopes sc).dou → e ∈ (m.scopes sc).dou ∨ cachedA m' sc e.acct = true

theorem DouExt.refl (m : Mem) : DouExt m m := ⟨fun _ _ h => h, fun _ _ h => Or.inl h⟩

theorem DouExt.trans {a b c : Mem} (h1 : DouExt a b) (h2 : DouExt b c) : DouExt a c :=
  ⟨fun sc x h => h2.keys sc x (h1.keys sc x h),
   fun sc e he => (h2.dou sc e he).elim (fun h => (h1.dou sc e h).imp_right (h2.keys sc _)) Or.inr⟩

theorem DouExt.ok {m m' : Mem} (h : DouExt m m') (hd : DouOK m) : DouOK m' :=
  fun sc e he => (h.dou sc e he).elim (fun h1 => h.keys sc _ (hd sc e h1)) id

theorem douExt_scopes {m m' : Mem} (h : m'.scopes = m.scopes) : DouExt m m' :=
  ⟨fun sc a hc => by simpa [cachedA, h] using hc, fun sc e he => Or.inl (by simpa [h] using he)⟩

theorem douExt_updScope (m : Mem) (sc : Nat) (f : ScopeMem → ScopeMem)
    (hk : ∀ a, (aget (m.scopes sc).acctInfo a).isSome = true → (aget (f (m.scopes sc)).acctInfo a).isSome = true)
    (hd : ∀ e ∈ (f (m.scopes sc)).dou, e ∈ (m.scopes sc).dou ∨ (aget (f (m.scopes sc)).acctInfo e.acct).isSome = true) :
    DouExt m (m.updScope sc f) :=
  ⟨fun sc' a => updScope_rel (R := fun _ s s' => (aget s.acctInfo a).isSome = true → (aget s'.acctInfo a).isSome = true)
      m sc f (fun _ _ h => h) (hk a) sc',
   fun sc' e => updScope_rel (R := fun _ s s' => e ∈ s'.dou → e ∈ s.dou ∨ (aget s'.acctInfo e.acct).isSome = true)
      m sc f (fun _ _ h => Or.inl h) (hd e) sc'⟩

theorem douExt_pkc (m : Mem) (sc : Nat) (g : List Path → List Path) :
    DouExt m (m.updScope sc fun s => { s with pkc := g s.pkc }) :=
  douExt_updScope m sc _ (fun _ h => h) (fun _ h => Or.inl h)

def QueuedFor (sc a : Nat) (m m' : Mem) : Prop :=
  ∀ sc', (m'.scopes sc').acctInfo = (m.scopes sc').acctInfo ∧
    ∀ e ∈ (m'.scopes sc').dou, e ∈ (m.scopes sc').dou ∨ (sc' = sc ∧ e.acct = a)

theorem queuedFor_keyToManaged (m : Mem) (sc a b i : Nat) (p : Bool) : QueuedFor sc a m (keyToManaged m sc a b i p).1 := by
  intro sc'
  unfold keyToManaged
  split
  · exact ⟨rfl, fun _ h => Or.inl h⟩
  · dsimp only
    apply updScope_rel (R := fun sc' s s' => s'.acctInfo = s.acctInfo ∧ ∀ e ∈ s'.dou, e ∈ s.dou ∨ (sc' = sc ∧ e.acct = a))
    · exact fun _ _ => ⟨rfl, fun _ h => Or.inl h⟩
    · refine ⟨rfl, fun e he => ?_⟩
      rcases List.mem_append.mp he with h | h
      · exact Or.inl h
      · rw [List.mem_singleton.mp h]; exact Or.inr ⟨rfl, rfl⟩

theorem QueuedFor.douExt {sc a : Nat} {m m' : Mem} (h : QueuedFor sc a m m') (hc : cachedA m sc a = true) : DouExt m m' :=
  ⟨fun sc' x hx => by simpa only [cachedA, (h sc').1] using hx,
   fun sc' e he => ((h sc').2 e he).imp_right fun ⟨h1, h2⟩ => by
     subst h1; rw [h2]; simpa only [cachedA, (h sc').1] using hc⟩

theorem douExt_cacheAcct {m m2 : Mem} {sc a : Nat} (h : QueuedFor sc a m m2) (ai : AcctInfo) :
    DouExt m (m2.setAcct sc a ai) ∧
    cachedA (m2.setAcct sc a ai) sc a = true := by
  have hc : cachedA (m2.setAcct sc a ai) sc a = true := by
    simp [cachedA, Mem.updScope, aget_aset_self]
  refine ⟨⟨fun sc' x hx => ?_, fun sc' e he => ?_⟩, hc⟩
  · exact updScope_rel (R := fun _ s s' => (aget s.acctInfo x).isSome = true → (aget s'.acctInfo x).isSome = true)
      m2 sc _ (fun _ _ h => h) (aget_aset_isSome _ _ _ _) sc' (by rw [(h sc').1]; exact hx)
  · have he' : e ∈ (m2.scopes sc').dou :=
      updScope_rel (R := fun _ s s' => e ∈ s'.dou → e ∈ s.dou) m2 sc _ (fun _ _ h => h) id sc' he
    rcases (h sc').2 e he' with h1 | ⟨rfl, h1⟩
    · exact Or.inl h1
    · exact Or.inr (h1 ▸ hc)

theorem douExt_loadAcctRow (m : Mem) (sc acct : Nat) (row : AcctRow) :
    DouExt m (loadAcctRow m sc acct row) ∧ cachedA (loadAcctRow m sc acct row) sc acct = true :=
  douExt_cacheAcct (fun sc' =>
    have k1 := queuedFor_keyToManaged m sc acct 0 (row.nextExt - 1) (!m.locked && !m.watchOnly && !row.wo) sc'
    have k2 := queuedFor_keyToManaged _ sc acct 1 (row.nextInt - 1) (!m.locked && !m.watchOnly && !row.wo) sc'
    ⟨k2.1.trans k1.1, fun e he => (k2.2 e he).elim (k1.2 e) Or.inr⟩) _

/-- what `DouOK` needs of a pending OnCommit closure (one half of `PendGood`; on its own in `StDou`) -/
def PendOK (m : Mem) (p : Pend) : Prop :=
  cachedA m p.scope p.acct = true ∧ ∀ e ∈ p.infos, e.acct = p.acct

theorem PendOK.ext {m m' : Mem} {p : Pend} (h : PendOK m p) (he : DouExt m m') : PendOK m' p :=
  ⟨he.keys _ _ h.1, h.2⟩

theorem douOK_openMem (d : Disk) : DouOK (openMem d) := by
  intro sc e he; simp [openMem] at he

/-- the state-level invariant: `DouOK`, every pending OnCommit closure is `PendOK`, and closures are pending only
inside a bracket.  This is the `DouOK` part of the invariant of the histories `StOK` (Lemmas/AddrWipedStep.lean),
spelled out for the statement of `C05_douOK_invariant`. -/
structure StDou (s : State) : Prop where
  mem  : ∀ m, s.mem = some m → DouOK m ∧ ∀ p ∈ s.pend, PendOK m p
  pend : s.snap = none → s.pend = []

/-- a live `*managedAddress` object -/
def LiveM (m : Mem) (id : Nat) : Prop := id < m.heapN ∧ (m.heap id).kind = .managed

def LastOK (m : Mem) (ai : AcctInfo) : Prop := LiveM m ai.lastExt ∧ LiveM m ai.lastInt

def LastKind (m : Mem) : Prop := ∀ sc, ∀ p ∈ (m.scopes sc).acctInfo, LastOK m p.2

structure WExt (m m' : Mem) : Prop where
  heapN : m.heapN ≤ m'.heapN
  kind  : ∀ id, id < m.heapN → (m'.heap id).kind = (m.heap id).kind
  last  : LastKind m → LastKind m'

theorem LiveM.mono {m m' : Mem} (hN : m.heapN ≤ m'.heapN) (hk : ∀ id, id < m.heapN → (m'.heap id).kind = (m.heap id).kind)
    {id : Nat} (h : LiveM m id) : LiveM m' id :=
  ⟨Nat.lt_of_lt_of_le h.1 hN, by rw [hk _ h.1]; exact h.2⟩

theorem LiveM.ext {m m' : Mem} {id : Nat} (h : LiveM m id) (he : WExt m m') : LiveM m' id := h.mono he.heapN he.kind

def SameLasts (ai q : AcctInfo) : Prop := ai.lastExt = q.lastExt ∧ ai.lastInt = q.lastInt

/-- the way every `WExt` is built: every account entry of `m'` has the last-address slots of an old entry, or is
shown to be `LastOK` directly -/
theorem wExt_mk {m m' : Mem} (hN : m.heapN ≤ m'.heapN) (hk : ∀ id, id < m.heapN → (m'.heap id).kind = (m.heap id).kind)
    (h3 : ∀ sc, ∀ p ∈ (m'.scopes sc).acctInfo,
      (∃ q ∈ (m.scopes sc).acctInfo, SameLasts p.2 q.2) ∨ (LastKind m → LastOK m' p.2)) : WExt m m' :=
  ⟨hN, hk, fun hl sc p hp => by
    rcases h3 sc p hp with ⟨q, hq, e1, e2⟩ | h
    · unfold LastOK; rw [e1, e2]; exact ⟨(hl sc q hq).1.mono hN hk, (hl sc q hq).2.mono hN hk⟩
    · exact h hl⟩

theorem WExt.refl (m : Mem) : WExt m m := ⟨Nat.le_refl _, fun _ _ => rfl, id⟩

theorem WExt.trans {a b c : Mem} (h1 : WExt a b) (h2 : WExt b c) : WExt a c :=
  ⟨Nat.le_trans h1.heapN h2.heapN,
   fun id hid => by rw [h2.kind id (Nat.lt_of_lt_of_le hid h1.heapN), h1.kind id hid],
   fun h => h2.last (h1.last h)⟩

theorem wExt_heapMap (m m' : Mem) (h1 : ∀ id, (m'.heap id).kind = (m.heap id).kind) (h2 : m'.heapN = m.heapN)
    (h3 : ∀ sc, ∀ p ∈ (m'.scopes sc).acctInfo, ∃ q ∈ (m.scopes sc).acctInfo, SameLasts p.2 q.2) :
    WExt m m' := wExt_mk (by rw [h2]; exact Nat.le_refl _) (fun id _ => h1 id) (fun sc p hp => Or.inl (h3 sc p hp))

theorem same_lasts {m m' : Mem} (h : m'.scopes = m.scopes) : ∀ sc, ∀ p ∈ (m'.scopes sc).acctInfo,
    ∃ q ∈ (m.scopes sc).acctInfo, SameLasts p.2 q.2 :=
  fun sc p hp => ⟨p, by rw [← h]; exact hp, rfl, rfl⟩

theorem wExt_updScope (m : Mem) (sc : Nat) (f : ScopeMem → ScopeMem)
    (h : ∀ p ∈ (f (m.scopes sc)).acctInfo,
      (∃ q ∈ (m.scopes sc).acctInfo, SameLasts p.2 q.2) ∨ (LastKind m → LastOK m p.2)) : WExt m (m.updScope sc f) :=
  wExt_mk (Nat.le_refl _) (fun _ _ => rfl) fun sc' =>
    updScope_rel (R := fun _ s s' => ∀ p ∈ s'.acctInfo, (∃ q ∈ s.acctInfo, SameLasts p.2 q.2) ∨ (LastKind m → LastOK m p.2))
      m sc f (fun _ _ p hp => Or.inl ⟨p, hp, rfl, rfl⟩) h sc'

theorem wExt_alloc (m : Mem) (o : Obj) : WExt m (m.alloc o).1 :=
  wExt_mk (Nat.le_succ _) (fun id hid => by simp [Mem.alloc, Nat.ne_of_lt hid]) (fun sc p hp => Or.inl ⟨p, hp, rfl, rfl⟩)

theorem lastKind_openMem (d : Disk) : LastKind (openMem d) := by
  intro sc p hp; simp [openMem] at hp

structure CExt (m m' : Mem) : Prop where
  dou  : DouExt m m'
  kind : WExt m m'

theorem CExt.refl (m : Mem) : CExt m m := ⟨.refl m, .refl m⟩

theorem CExt.trans {a b c : Mem} (h1 : CExt a b) (h2 : CExt b c) : CExt a c :=
  ⟨h1.dou.trans h2.dou, h1.kind.trans h2.kind⟩

def PendGood (m : Mem) (p : Pend) : Prop := PendOK m p ∧ ∀ e ∈ p.infos, LiveM m e.obj

theorem PendGood.ext {m m' : Mem} {p : Pend} (h : PendGood m p) (he : CExt m m') : PendGood m' p :=
  ⟨h.1.ext he.dou, fun e hi => (h.2 e hi).ext he.kind⟩

theorem cExt_same {m m' : Mem} (h1 : m'.heap = m.heap) (h2 : m'.heapN = m.heapN) (h3 : m'.scopes = m.scopes) : CExt m m' :=
  ⟨douExt_scopes h3, wExt_heapMap _ _ (fun id => by rw [h1]) h2 (same_lasts h3)⟩

theorem cExt_setObj (m : Mem) (i : Nat) (f : Obj → Obj) (hf : ∀ o, (f o).kind = o.kind) : CExt m (m.setObj i f) :=
  ⟨douExt_scopes rfl, wExt_heapMap _ _ (fun id => by
    simp only [Mem.setObj]; split
    · rename_i h; rw [hf, h]
    · rfl) rfl (same_lasts rfl)⟩

theorem cExt_updScope (m : Mem) (sc : Nat) (f : ScopeMem → ScopeMem)
    (hi : (f (m.scopes sc)).acctInfo = (m.scopes sc).acctInfo) (hd : ∀ e ∈ (f (m.scopes sc)).dou, e ∈ (m.scopes sc).dou) :
    CExt m (m.updScope sc f) :=
  ⟨douExt_updScope m sc f (fun _ h => hi ▸ h) (fun e he => Or.inl (hd e he)),
   wExt_updScope m sc f fun p hp => Or.inl ⟨p, hi ▸ hp, rfl, rfl⟩⟩

theorem cExt_mapInfo {m m' : Mem} (g : Nat × AcctInfo → AcctInfo) (hg : ∀ q, SameLasts (g q) q.2)
    (hs : ∀ sc, (m'.scopes sc).acctInfo = (m.scopes sc).acctInfo.map (fun p => (p.1, g p)) ∧
      (m'.scopes sc).dou = (m.scopes sc).dou)
    (hk : ∀ id, (m'.heap id).kind = (m.heap id).kind) (hN : m'.heapN = m.heapN) : CExt m m' :=
  ⟨⟨fun sc a hc => by simpa only [cachedA, (hs sc).1, aget_map, Option.isSome_map] using hc,
    fun sc e he => Or.inl ((hs sc).2 ▸ he)⟩,
   wExt_heapMap m m' hk hN fun sc p hp => by
    rw [(hs sc).1, List.mem_map] at hp
    obtain ⟨q, hq, rfl⟩ := hp
    exact ⟨q, hq, hg q⟩⟩

theorem wExt_keyToManaged (m : Mem) (sc a b i : Nat) (p : Bool) : WExt m (keyToManaged m sc a b i p).1 := by
  unfold keyToManaged
  split
  · exact wExt_alloc ..
  · dsimp only; exact (wExt_alloc _ _).trans (wExt_updScope _ _ _ fun p hp => Or.inl ⟨p, hp, rfl, rfl⟩)

theorem liveM_keyToManaged (m : Mem) (sc a b i : Nat) (p : Bool) :
    LiveM (keyToManaged m sc a b i p).1 (keyToManaged m sc a b i p).2 :=
  ⟨by rw [ktm_snd, ktm_heapN]; exact Nat.lt_succ_self _, by rw [ktm_heap, ktm_snd, if_pos rfl]⟩

theorem cExt_loadAcctRow (m : Mem) (sc acct : Nat) (row : AcctRow) : CExt m (loadAcctRow m sc acct row) := by
  refine ⟨(douExt_loadAcctRow m sc acct row).1, ?_⟩
  have h1 := wExt_keyToManaged m sc acct 0 (row.nextExt - 1) (!m.locked && !m.watchOnly && !row.wo)
  have h2 := wExt_keyToManaged (keyToManaged m sc acct 0 (row.nextExt - 1) (!m.locked && !m.watchOnly && !row.wo)).1
    sc acct 1 (row.nextInt - 1) (!m.locked && !m.watchOnly && !row.wo)
  unfold loadAcctRow
  refine (h1.trans h2).trans (wExt_updScope _ _ _ fun p hp => ?_)
  rcases mem_aset hp with rfl | hp
  · exact Or.inr fun _ => ⟨(liveM_keyToManaged ..).ext h2, liveM_keyToManaged ..⟩
  · exact Or.inl ⟨p, hp, rfl, rfl⟩

end AddrLock
