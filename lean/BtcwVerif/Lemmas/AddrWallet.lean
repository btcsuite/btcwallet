import BtcwVerif.Model.AddrWallet
import BtcwVerif.Lemmas.AddrStep
/-!
`Wallet.InitAccounts` (model `opInitAccounts`): creating the missing accounts neither touches the watching-only flag nor
any address row; a successful call with `watchOnly = true` ends with `ConvertToWatchingOnly` — whether or not an
account had to be created.  Then what the manager-level `C04_watch_only` needs of the conversion itself: what it leaves on
disk (`opConvertWO_disk`, `stripAddrRow_privless`) and that a watching-only manager refuses (`watchOnly_refuses`).
-/
set_option linter.unusedSectionVars false
namespace AddrDerive
open AddrSym

variable {K P : Type} [DecidableEq K] [DecidableEq P]

/-- the address ids stored per scope (what "the wallet knows every address" is about) -/
def addrIds (s : State K P) : List (Scope × List (AddrId P)) := s.disk.scopes.map fun e => (e.1, e.2.addrs.map (·.1))

theorem aset_map_same {α β γ : Type} [DecidableEq α] (g : β → γ) (l : List (α × β)) (a : α) (b b0 : β)
    (h0 : alookup l a = some b0) (hg : g b = g b0) :
    (aset l a b).map (fun e => (e.1, g e.2)) = l.map (fun e => (e.1, g e.2)) := by
  induction l with
  | nil => cases h0
  | cons e t ih =>
    unfold alookup at h0
    unfold aset
    split at h0
    · cases h0
      simp_all
    · simp_all

theorem addrIds_putSD {s : State K P} {sc : Scope} {sd sd' : ScopeDisk K P} (h : getSD s sc = some sd)
    (ha : sd'.addrs = sd.addrs) : addrIds (putSD s sc sd') = addrIds s :=
  aset_map_same (fun sd : ScopeDisk K P => sd.addrs.map Prod.fst) _ sc _ sd h (by rw [ha])

structure SameIds (s s' : State K P) : Prop where
  watchOnly : s'.mem.watchOnly = s.mem.watchOnly
  ids : addrIds s' = addrIds s

theorem SameIds.ite {s : State K P} {β : Type} {c : Prop} [Decidable c] {a b : State K P × β}
    (ha : SameIds s a.1) (hb : SameIds s b.1) : SameIds s (if c then a else b).1 := by
  split <;> assumption

theorem opNewAccount_frame (hd : HD K P) (s : State K P) (sc : Scope) (name : Nat) :
    SameIds s (opNewAccount hd s sc name).1 := by
  unfold opNewAccount
  refine .ite ⟨rfl, rfl⟩ ?_
  rcases hsd : getSD s sc with _ | sd
  · exact ⟨rfl, rfl⟩
  refine .ite ⟨rfl, rfl⟩ (.ite ⟨rfl, rfl⟩ (.ite ⟨rfl, rfl⟩ ?_))
  rcases sd.coinPriv with _ | ck
  · exact ⟨rfl, rfl⟩
  refine .ite ⟨rfl, rfl⟩ ?_
  rcases hd.child ck _ with _ | ak
  · exact ⟨rfl, rfl⟩
  · exact ⟨rfl, addrIds_putSD hsd rfl⟩

theorem createMissing_frame (cfg : Cfg) (hd : HD K P) (sc : Scope) (l : List Nat) (s : State K P) (rows : List Row) :
    SameIds s (createMissing cfg hd sc l s rows).1 := by
  induction l generalizing s rows with
  | nil => exact ⟨rfl, rfl⟩
  | cons a t ih =>
    unfold createMissing
    have hf : SameIds s (step cfg hd s (.newAccount sc (rawName a))).1 :=
      step_lift (Q := fun r => SameIds s r.1) (fun _ => ⟨rfl, rfl⟩) (opNewAccount_frame hd s sc _)
    dsimp only
    split
    · exact ⟨(ih _ _).1.trans hf.1, (ih _ _).2.trans hf.2⟩
    · exact hf

theorem step_convertWO_ok {cfg : Cfg} {hd : HD K P} {s : State K P} (h : (step cfg hd s .convertWO).2.1 = .ok) :
    step cfg hd s .convertWO = opConvertWO cfg s := by
  revert h
  exact step_lift (Q := fun r => r.2.1 = .ok → r = opConvertWO cfg s) (fun _ => nofun) fun _ => rfl

/-- **A successful `InitAccounts(watchOnly = true)` always converts**: its final state is `ConvertToWatchingOnly`
    applied to the state the account walk left (which has the same watching-only flag and the same address rows as the
    state before the call) — there is no way to return `nil` around the conversion, even when no account was missing. -/
theorem opInitAccounts_converts (cfg : Cfg) (hd : HD K P) (s : State K P) (sc : Scope) (num : Nat)
    (hok : (opInitAccounts cfg hd s sc true num).2.1 = .ok) :
    ∃ sMid : State K P, sMid.mem.watchOnly = s.mem.watchOnly ∧ addrIds sMid = addrIds s ∧
      (opInitAccounts cfg hd s sc true num).1 = (opConvertWO cfg sMid).1 := by
  unfold opInitAccounts at hok ⊢
  have hf := createMissing_frame cfg hd sc (missingAccts s sc num 1) s []
  generalize createMissing cfg hd sc (missingAccts s sc num 1) s [] = r at hok hf ⊢
  cases hr : r.2.1 with
  | ok =>
    simp only [hr, if_true] at hok ⊢
    exact ⟨r.1, hf.1, hf.2, congrArg Prod.fst (step_convertWO_ok hok)⟩
  | _ => simp only [hr] at hok; cases hok

theorem opInitAccounts_false (cfg : Cfg) (hd : HD K P) (s : State K P) (sc : Scope) (num : Nat) :
    opInitAccounts cfg hd s sc false num = createMissing cfg hd sc (missingAccts s sc num 1) s [] := by
  unfold opInitAccounts
  simp only [Bool.false_eq_true, if_false]
  split <;> rfl

theorem opInitAccounts_plain (cfg : Cfg) (hd : HD K P) (s : State K P) (sc : Scope) (num : Nat) :
    (opInitAccounts cfg hd s sc false num).1.mem.watchOnly = s.mem.watchOnly := by
  rw [opInitAccounts_false]
  exact (createMissing_frame cfg hd sc _ s []).1

theorem stripAddrRow_privless (cfg : Cfg) (ht : cfg.t1 = false) (r : AddrRow) :
    (∀ k c hp, stripAddrRow cfg r = AddrRow.imp k c hp → hp = false) ∧
    (∀ k kind e', stripAddrRow cfg r = AddrRow.scr k kind true e' → e' = none) := by
  rcases r with ⟨a, b, i⟩ | ⟨k, c, hp⟩ | ⟨k, _ | _ | n, _ | _, e⟩
  case scr.succ.succ.true =>
    -- the one row whose fate depends on the configuration: a secret taproot script
    have : stripAddrRow cfg (.scr k (n + 1 + 1) true e) = .scr k (n + 1 + 1) true none := by simp [stripAddrRow, ht]
    rw [this]
    exact ⟨nofun, fun _ _ _ h => by cases h; rfl⟩
  all_goals exact ⟨fun _ _ _ h => by cases h <;> rfl, fun _ _ _ h => by cases h <;> rfl⟩

theorem watchOnly_refuses (cfg : Cfg) (hd : HD K P) {s : State K P} (h : s.mem.watchOnly = true) :
    (∀ p, (opUnlock cfg hd s p).2.1 = .err .watchOnly) ∧ (∀ o : KeyObj K P, privKeyOf s o = .error .watchOnly) ∧
    (∀ o : ScrObj, (o.kind = 0 ∨ o.secret = true) → scriptOf cfg s o = .error .watchOnly) := by
  refine ⟨fun p => by simp [opUnlock, h], fun o => by simp [privKeyOf, h], fun o ho => ?_⟩
  simp only [scriptOf, h]
  rcases ho with h | h <;> simp [h]

theorem opConvertWO_disk (cfg : Cfg) {s : State K P} (hw : s.mem.watchOnly = false) :
    (opConvertWO cfg s).1.disk =
      { s.disk with watchOnly := true, rootPriv := none, privPass := none,
                    scopes := s.disk.scopes.map fun e => (e.1, (stripScope cfg e.1 e.2).1) } := by
  simp [opConvertWO, hw, List.map_map, Function.comp_def]

end AddrDerive
