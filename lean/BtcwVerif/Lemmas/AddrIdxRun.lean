import BtcwVerif.Lemmas.AddrIdxIssue
import BtcwVerif.Lemmas.AddrReach
/-!
The issue log of a history; every step takes `IdxInv` to the extended log (`step_idx`); `Inv`, `Nodups` and `IdxInv` after every
history (`runLog_inv`, the one induction over histories; `run_inv`, what every C03 theorem starts from, is its first half).
-/
set_option linter.unusedSectionVars false
namespace AddrDerive

variable {K P : Type} [DecidableEq K] [DecidableEq P]

def issuedBy (hd : HD K P) (s : State K P) (op : Op K P) : List (KeyObj K P) :=
  match op with
  | .next .. => newObjs s (step Cfg.fixed hd s op).1
  | .extend .. => newObjs s (step Cfg.fixed hd s op).1
  | _ => []

/-- state and issue log after a history; `Create` starts a new wallet, hence a new log -/
def runLog (hd : HD K P) (ops : List (Op K P)) : State K P × List (KeyObj K P) :=
  ops.foldl (fun acc op => ((step Cfg.fixed hd acc.1 op).1,
    match op with | .create _ => [] | _ => acc.2 ++ issuedBy hd acc.1 op)) (emptyState, [])

theorem runLog_fst (hd : HD K P) (ops : List (Op K P)) : (runLog hd ops).1 = (run Cfg.fixed hd ops).1 :=
  (foldl_fst _ _ (fun _ _ => rfl) ops (emptyState, [])).trans (run_fst_eq hd ops).symm

theorem issueLog_of_not_issues (hd : HD K P) (s : State K P) (log : List (KeyObj K P)) (op : Op K P) :
    op.issues = false → (match op with | .create _ => [] | _ => log ++ issuedBy hd s op) = log := by
  intro hg
  cases op <;> first | exact List.append_nil _ | cases hg

theorem step_idx {hd : HD K P} (hlaw : hd.Lawful) (hn : hd.NoHardPub) {s : State K P} {log : List (KeyObj K P)} (h : Inv hd s)
    (x : IdxInv hd s log) (op : Op K P) :
    IdxInv hd (step Cfg.fixed hd s op).1 (match op with | .create _ => [] | _ => log ++ issuedBy hd s op) := by
  cases hg : op.issues with
  | false => rw [issueLog_of_not_issues hd s log op hg]; exact (step_ok hlaw hn h op hg).1.idx log x
  | true =>
    cases op <;> first | cases hg | skip
    · exact (opCreate_spec hd _).2.2
    · exact (step_next_outcome h ..).idx h x
    · exact (step_extend_outcome h ..).idx h x

theorem foldl_step_idxInv {hd : HD K P} (hlaw : hd.Lawful) (hn : hd.NoHardPub) : ∀ (ops : List (Op K P)) (s : State K P)
    (log : List (KeyObj K P)), Inv hd s → Nodups s → IdxInv hd s log →
    let r := ops.foldl (fun acc op => ((step Cfg.fixed hd acc.1 op).1,
      match op with | .create _ => [] | _ => acc.2 ++ issuedBy hd acc.1 op)) (s, log)
    Inv hd r.1 ∧ Nodups r.1 ∧ IdxInv hd r.1 r.2 := by
  intro ops
  induction ops with
  | nil => intro s log h hnd x; exact ⟨h, hnd, x⟩
  | cons op t ih =>
    intro s log h hnd x
    simp only [List.foldl_cons]
    exact ih _ _ (step_inv_nodups hlaw hn h hnd op).1 (step_inv_nodups hlaw hn h hnd op).2 (step_idx hlaw hn h x op)

theorem runLog_inv {hd : HD K P} (hlaw : hd.Lawful) (hn : hd.NoHardPub) (ops : List (Op K P)) :
    Inv hd (runLog hd ops).1 ∧ Nodups (runLog hd ops).1 ∧ IdxInv hd (runLog hd ops).1 (runLog hd ops).2 :=
  foldl_step_idxInv hlaw hn ops emptyState [] (Inv_empty hd) ⟨List.nodup_nil, List.nodup_nil⟩ (IdxInv_empty hd)

theorem run_inv {hd : HD K P} (hlaw : hd.Lawful) (hn : hd.NoHardPub) (ops : List (Op K P)) :
    Inv hd (run Cfg.fixed hd ops).1 ∧ Nodups (run Cfg.fixed hd ops).1 := by
  rw [← runLog_fst]
  exact ⟨(runLog_inv hlaw hn ops).1, (runLog_inv hlaw hn ops).2.1⟩

theorem opNext_reports {hd : HD K P} {s : State K P} (h : Inv hd s) (sc : Scope) (acct n : Nat) (internal : Bool) (hbase : Nat)
    (infos : List Info) (hres : (opNext hd s sc acct n internal hbase).2.1 = .addrs infos) :
    infos = (newObjs s (opNext hd s sc acct n internal hbase).1).map infoOfKey := by
  rcases opNext_outcome h sc acct n internal hbase with ⟨_, _, q⟩ | ⟨objs, y, e⟩
  · exact absurd hres (q _)
  · rw [newObjs_keys objs (y.heap h)]; exact e _ hres

end AddrDerive
