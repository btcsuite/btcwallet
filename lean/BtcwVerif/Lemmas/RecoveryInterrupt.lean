/-
C16, what the interrupted-run theorems of Props/C16.lean are assembled from: the hypotheses are closed under prefixes of
the chain (`ChainWF.prefix`, `LookAhead(From).prefix`); `recoverInterrupted`, `startupRecover` are `recover` over a prefix
by definition; `recoverChain` does not depend on surplus fuel nor, without resume points, on the batch counter, so a run
that ends with a failed batch left what a run over the earlier batches leaves (`recoverChainFail_spec`).
-/
import BtcwVerif.Lemmas.RecoveryComplete

namespace Recovery

theorem ChainWF.prefix {scopes : List Nat} {invalid : BranchId → List Nat} {p q : Chain}
    (h : ChainWF scopes invalid (p ++ q)) : ChainWF scopes invalid p := by
  have e : ∀ pre tx post, allTxs p = pre ++ tx :: post → allTxs (p ++ q) = pre ++ tx :: (post ++ allTxs q) := by
    intro pre tx post hp
    rw [allTxs_append, hp]; simp
  refine ⟨?_, ?_, ?_, ?_⟩
  · intro pre tx post hp t ht
    exact h.ids pre tx _ (e pre tx post hp) t ht
  · intro pre tx post hp op hop t ht
    apply h.order pre tx _ (e pre tx post hp) op hop t
    rcases List.mem_cons.mp ht with ht | ht
    · exact List.mem_cons.mpr (Or.inl ht)
    · exact List.mem_cons.mpr (Or.inr (List.mem_append_left _ ht))
  · intro pre tx post hp op hop hw t ht
    apply h.nodbl pre tx _ (e pre tx post hp) op hop _ t ht
    rw [allTxs_append, wops_append]
    exact List.mem_append_left _ hw
  · intro k hk hs
    apply h.valid k _ hs
    rw [allTxs_append, paidKeys_append]
    exact List.mem_append_left _ hk

theorem LookAheadFrom.prefix {W : Nat} {scopes : List Nat} {n : Nat} {p q : Chain}
    (h : LookAheadFrom W scopes n (p ++ q)) : LookAheadFrom W scopes n p := by
  intro pre hh blk post e hn k hk hs
  exact h pre hh blk (post ++ q) (by rw [e]; simp) hn k hk hs

theorem LookAhead.prefix {W : Nat} {scopes : List Nat} {p q : Chain}
    (h : LookAhead W scopes (p ++ q)) : LookAhead W scopes p := by
  intro pre hh blk post e k hk hs
  exact h pre hh blk (post ++ q) (by rw [e]; simp) k hk hs

theorem recoverInterrupted_eq_recover (invalid : BranchId → List Nat) (W batchSize : Nat) (scopes : List Nat) (c : Chain)
    (cuts : Nat → Bool) (k : Nat) :
    recoverInterrupted invalid batchSize (resurrect invalid (State.init W scopes)) c cuts k =
      recover invalid W batchSize scopes (c.take (committedAt batchSize k)) cuts := rfl

theorem startupRecover_waitFirst (invalid : BranchId → List Nat) (W batchSize : Nat) (scopes : List Nat) (download : Nat)
    (c : Chain) (cuts : Nat → Bool) :
    startupRecover invalid W batchSize scopes true download c cuts = recover invalid W batchSize scopes c cuts := rfl

theorem startupRecover_recoverFirst (invalid : BranchId → List Nat) (W batchSize : Nat) (scopes : List Nat)
    (download : Nat) (c : Chain) (cuts : Nat → Bool) :
    startupRecover invalid W batchSize scopes false download c cuts =
      recover invalid W batchSize scopes (c.take download) cuts := rfl

theorem recoverChain_fuel (invalid : BranchId → List Nat) (batchSize : Nat) (cuts : Nat → Bool) :
    ∀ (f1 f2 : Nat) (st : State) (blocks : Chain) (n : Nat), blocks.length < f1 → blocks.length < f2 →
    recoverChain invalid batchSize f1 st blocks cuts n = recoverChain invalid batchSize f2 st blocks cuts n := by
  intro f1
  induction f1 with
  | zero => intro _ _ _ _ h1; exact absurd h1 (Nat.not_lt_zero _)
  | succ f1 ih =>
    intro f2 st blocks n h1 h2
    cases f2 with
    | zero => exact absurd h2 (Nat.not_lt_zero _)
    | succ f2 =>
      by_cases hbe : blocks = []
      · subst hbe; rw [recoverChain_nil, recoverChain_nil]
      · have hl : (blocks.drop (max batchSize 1)).length < blocks.length := List.length_drop ▸
          Nat.sub_lt (List.length_pos_iff.mpr hbe) (Nat.lt_of_lt_of_le Nat.zero_lt_one (Nat.le_max_right _ _))
        rw [recoverChain_succ _ _ _ _ hbe, recoverChain_succ _ _ _ _ hbe]
        exact ih f2 _ _ _ (Nat.lt_of_lt_of_le hl (Nat.le_of_lt_succ h1)) (Nat.lt_of_lt_of_le hl (Nat.le_of_lt_succ h2))

theorem recoverChain_nocut_index (invalid : BranchId → List Nat) (batchSize : Nat) :
    ∀ (fuel : Nat) (st : State) (blocks : Chain) (i j : Nat),
    recoverChain invalid batchSize fuel st blocks (fun _ => false) i =
    recoverChain invalid batchSize fuel st blocks (fun _ => false) j := by
  intro fuel
  induction fuel with
  | zero => intro st blocks i j; rfl
  | succ fuel ih =>
    intro st blocks i j
    by_cases hbe : blocks = []
    · subst hbe; rfl
    · rw [recoverChain_succ _ _ _ _ hbe, recoverChain_succ _ _ _ _ hbe]
      exact ih _ _ (i + 1) (j + 1)

theorem recoverChainFail_nil (invalid : BranchId → List Nat) (batchSize target fuel : Nat) (st : State) (d : Nat) :
    recoverChainFail invalid batchSize target fuel st [] d = none := by cases fuel <;> rfl

theorem recoverChainFail_spec (invalid : BranchId → List Nat) (batchSize target : Nat) :
    ∀ (fuel : Nat) (st : State) (blocks : Chain) (d : Nat) (st' : State) (n : Nat),
    recoverChainFail invalid batchSize target fuel st blocks d = some (st', n) →
    ∃ m, n = d + m ∧ m ≤ blocks.length ∧
      st' = recoverChain invalid batchSize (m + 1) st (blocks.take m) (fun _ => false) 0 := by
  intro fuel
  induction fuel with
  | zero => intro _ _ _ _ _ h; exact nomatch h
  | succ fuel ih =>
    intro st blocks d st' n h
    by_cases hbe : blocks = []
    · rw [hbe, recoverChainFail_nil] at h; exact nomatch h
    · rw [recoverChainFail, if_neg (mt List.isEmpty_iff.mp hbe)] at h
      generalize hbs : max batchSize 1 = bs at h
      have hbs1 : 1 ≤ bs := hbs ▸ Nat.le_max_right _ _
      by_cases ht : target ≤ (recoverBatch invalid st (blocks.take bs)).calls
      · rw [if_pos ht] at h
        cases h
        exact ⟨0, rfl, Nat.zero_le _, (recoverChain_nil ..).symm⟩
      · rw [if_neg ht] at h
        obtain ⟨m', hn, hm', hst⟩ := ih _ _ _ _ _ h
        -- the recursive call returned `some`, so blocks remain after the first batch
        have hlen : bs < blocks.length := by
          have : blocks.drop bs ≠ [] := fun he => by rw [he, recoverChainFail_nil] at h; exact nomatch h
          exact Nat.lt_of_sub_pos (List.length_drop ▸ List.length_pos_iff.mpr this)
        rw [List.length_drop] at hm'
        have hle : bs + m' ≤ blocks.length := Nat.add_comm bs m' ▸ Nat.add_le_of_le_sub (Nat.le_of_lt hlen) hm'
        have hne : blocks.take (bs + m') ≠ [] := List.ne_nil_of_length_pos
          (by rw [List.length_take_of_le hle]; exact Nat.lt_of_lt_of_le hbs1 (Nat.le_add_right _ _))
        refine ⟨bs + m', hn.trans (Nat.add_assoc d bs m'), hle, ?_⟩
        rw [hst, recoverChain_succ _ _ _ _ hne, hbs, List.take_take, Nat.min_eq_left (Nat.le_add_right _ _),
          List.drop_take, Nat.add_sub_cancel_left, recoverChain_nocut_index invalid batchSize _ _ _ (0 + 1) 0]
        exact recoverChain_fuel _ _ _ _ _ _ _ _ (Nat.lt_succ_of_le (List.length_take_le _ _))
          (Nat.lt_of_le_of_lt (List.length_take_le _ _) (Nat.lt_add_of_pos_left hbs1))

end Recovery
