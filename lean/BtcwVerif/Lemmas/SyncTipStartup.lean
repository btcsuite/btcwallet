/-
C15, start-up path: the rollback loop of `syncWithChain` finds the last block the wallet's chain and the backend's
chain have in common, and the surrounding database transaction moves the wallet (synced-to stamp, remembered hashes,
transaction records) back to it — or fails without writing anything.
-/
import BtcwVerif.Lemmas.SyncTipEvolve
namespace SyncTip

theorem isLastCommon_unique {a b : BlockId} {c c' : Nat} (h : IsLastCommon a b c) (h' : IsLastCommon a b c') : c = c' := by
  obtain ⟨a1, a2, a3, a4⟩ := h
  obtain ⟨b1, b2, b3, b4⟩ := h'
  rcases Nat.lt_trichotomy c c' with hlt | heq | hgt
  · exact absurd b3 (a4 c' hlt b1 b2)
  · exact heq
  · exact absurd a3 (b4 c hgt a1 a2)

/-- The fourth conjunct of `IsLastCommon old tip h`, on its own: the invariant of the rollback loop on its way down. -/
def DifferAbove (old tip : BlockId) (h : Nat) : Prop :=
  ∀ k, h < k → k ≤ old.length → k ≤ tip.length → ancestorAt old k ≠ ancestorAt tip k

/-- One iteration, for height `0` and height `h' + 1` alike. -/
theorem rollbackLoop_eq (C : Content) (w : Wallet) (tip : BlockId) (h : Nat) (rb : Bool) :
    rollbackLoop C w tip h rb =
      match w.hashes h with
      | none => .error .blockNotFound
      | some hash =>
        match getBlockHash tip h with
        | none => .error .backend
        | some ch =>
          if hash = some ch then .ok (⟨h, some ch, C.time ch⟩, rb)
          else match h with
            | 0 => .error .blockNotFound
            | h' + 1 => rollbackLoop C w tip h' true := by
  cases h <;> rfl

section
variable {C : Content} {w : Wallet} {old tip : BlockId} {h : Nat}

theorem rollbackLoop_hit (rb : Bool) (hk : h ≤ tip.length) (hh : w.hashes h = some (some (ancestorAt tip h))) :
    rollbackLoop C w tip h rb = .ok (stampOf C (ancestorAt tip h), rb) := by
  rw [rollbackLoop_eq, hh, getBlockHash_of_le hk, stampOf_ancestorAt C hk]
  exact if_pos rfl

theorem rollbackLoop_miss (rb : Bool) {x : Hash} (hk : h + 1 ≤ tip.length) (hh : w.hashes (h + 1) = some x)
    (hx : x ≠ some (ancestorAt tip (h + 1))) :
    rollbackLoop C w tip (h + 1) rb = rollbackLoop C w tip h true := by
  rw [rollbackLoop_eq, hh, getBlockHash_of_le hk]
  exact if_neg hx

/-- `DifferAbove old tip h` is the loop invariant (every height above `h` was compared and differed); in the result
    `rb || decide (c < h)` says whether a height was skipped, i.e. whether there is something to roll back. -/
theorem rollbackLoop_sound (hc : ∀ h x, h ≤ old.length → w.hashes h = some x → x = some (ancestorAt old h)) :
    ∀ (h : Nat) (rb : Bool) (r : Stamp × Bool), h ≤ old.length → DifferAbove old tip h →
      rollbackLoop C w tip h rb = .ok r →
      h ≤ tip.length ∧ ∃ c, c ≤ h ∧ r = (stampOf C (ancestorAt tip c), rb || decide (c < h)) ∧
        ancestorAt old c = ancestorAt tip c ∧ DifferAbove old tip c := by
  intro h
  induction h using Nat.strongRecOn with
  | ind h ih =>
    intro rb r hle hd e
    rw [rollbackLoop_eq] at e
    split at e
    · cases e
    · rename_i x hx
      have hxo := hc h x hle hx
      split at e
      · cases e
      · rename_i ch hch
        obtain ⟨hk, rfl⟩ := getBlockHash_some hch
        refine ⟨hk, ?_⟩
        split at e
        · rename_i heq
          cases e
          exact ⟨h, Nat.le_refl _, by rw [stampOf_ancestorAt C hk, decide_eq_false (Nat.lt_irrefl h), Bool.or_false],
            Option.some.inj (hxo.symm.trans heq), hd⟩
        · rename_i hne
          cases h with
          | zero => cases e
          | succ h' =>
            have hd' : DifferAbove old tip h' := by
              intro k hk1 hk2 hk3 heq
              rcases Nat.eq_or_lt_of_le hk1 with hkn | hkn
              · subst hkn; exact hne (hxo.trans (congrArg some heq))
              · exact hd k hkn hk2 hk3 heq
            obtain ⟨_, c, c1, c2, c3, c4⟩ := ih h' (Nat.lt_succ_self _) true r (Nat.le_of_succ_le hle) hd' e
            refine ⟨c, Nat.le_succ_of_le c1, ?_, c3, c4⟩
            rw [c2, decide_eq_true (Nat.lt_succ_of_le c1), Bool.or_true, Bool.true_or]

/-- When does it succeed?  The backend must have every height the loop asks for, the common block must still be
    remembered. -/
theorem rollbackLoop_succeeds {lo c : Nat}
    (hrem : ∀ h, lo ≤ h → h ≤ old.length → w.hashes h = some (some (ancestorAt old h)))
    (hlen : old.length ≤ tip.length) (hcm : IsLastCommon old tip c) (hlo : lo ≤ c) :
    ∀ (h : Nat) (rb : Bool), c ≤ h → h ≤ old.length → ∃ res, rollbackLoop C w tip h rb = .ok res := by
  have hit : ∀ rb, ∃ res, rollbackLoop C w tip c rb = .ok res := fun rb =>
    ⟨_, rollbackLoop_hit rb hcm.2.1 (by rw [hrem c hlo hcm.1, hcm.2.2.1])⟩
  intro h
  induction h with
  | zero => intro rb hc _; cases Nat.le_zero.mp hc; exact hit rb
  | succ n ih =>
    intro rb hc hle
    by_cases heq : c = n + 1
    · exact heq ▸ hit rb
    · rw [rollbackLoop_miss rb (by omega) (hrem (n + 1) (by omega) hle)
        (fun e => hcm.2.2.2 (n + 1) (by omega) hle (by omega) (Option.some.inj e))]
      exact ih true (by omega) (by omega)

end

theorem rollbackMined_all (mined : List Mined) (n : Nat) (h : ∀ r ∈ mined, r.height < n) : rollbackMined mined n = mined := by
  unfold rollbackMined
  apply List.filter_eq_self.mpr
  intro r hr
  simpa using h r hr

/-- The birthday adjustment of the rollback transaction touches neither the sync state nor the records. -/
theorem birthdayFix (w1 : Wallet) (s : Stamp) :
    ∃ w2, (if s.height ≤ w1.birthday.1 ∧ s.hash ≠ w1.birthday.2 then { w1 with birthday := (s.height, s.hash) }
        else w1) = w2 ∧ SameSync w1 w2 ∧ w2.mined = w1.mined ∧ w2.unmined = w1.unmined :=
  ⟨_, rfl, by split <;> exact ⟨⟨rfl, rfl, rfl, rfl⟩, rfl, rfl⟩⟩

section
variable {cfg : Cfg} {w : Wallet} {old tip : BlockId} {lo : Nat}

/-- Total outcome, with the two ways the transaction can fail: the loop fails, or blocks have to be rolled back and the
    block below the common one is not remembered. -/
theorem startupRollback_total (hS : StoppedInv cfg w old lo) (tip : BlockId) :
    (∃ e, startupRollback cfg w tip = .error e ∧
      (rollbackLoop cfg.C w tip old.length false = .error e ∨
        ∃ c, IsLastCommon old tip c ∧ c < old.length ∧ 0 < c ∧ w.hashes (c - 1) = none)) ∨
    (∃ w' c, startupRollback cfg w tip = .ok w' ∧ IsLastCommon old tip c ∧ old.length ≤ tip.length ∧
        CatchInv cfg w' (ancestorAt tip c) (min lo c) ∧
        w'.mined = rollbackMined w.mined (c + 1) ∧
        w'.unmined = (if c < old.length then rollbackUnmined w.mined w.unmined (c + 1) else w.unmined) ∧
        w'.chainSynced = w.chainSynced) := by
  generalize hres : startupRollback cfg w tip = res
  unfold startupRollback at hres
  rw [hS.catch.height] at hres
  cases hloop : rollbackLoop cfg.C w tip old.length false with
  | error e => rw [hloop] at hres; exact Or.inl ⟨e, hres.symm, Or.inl rfl⟩
  | ok r =>
    obtain ⟨hlen, c, c1, rfl, c4, c5⟩ := rollbackLoop_sound hS.correct _ _ _ (Nat.le_refl _)
      (fun k hk hk1 _ => absurd hk1 (Nat.not_le_of_lt hk)) hloop
    have hc2 : c ≤ tip.length := Nat.le_trans c1 hlen
    have hcm : IsLastCommon old tip c := ⟨c1, hc2, c4, c5⟩
    have hl : (stampOf cfg.C (ancestorAt tip c)).height = c := ancestorAt_length tip c hc2
    simp only [hloop, Bool.false_or, decide_eq_false_iff_not] at hres
    by_cases hlt : c < old.length
    · rw [if_neg (not_not_intro hlt)] at hres
      rcases putSyncedTo_cases cfg.W w (stampOf cfg.C (ancestorAt tip c)) with e | ⟨e, h1, h2⟩
      · obtain ⟨w2, e2, s1, s2, s3⟩ := birthdayFix (putOk cfg.W w (stampOf cfg.C (ancestorAt tip c)))
          (stampOf cfg.C (ancestorAt tip c))
        rw [e] at hres
        simp only [e2] at hres
        rw [hl] at hres
        exact Or.inr ⟨_, c, hres.symm, hcm, hlen,
          (hS.catch.rollbackTo hlt hc2 c4).congr (s1.trans (rollbackTxs_sameSync _ _)),
          congrArg (rollbackMined · (c + 1)) s2,
          by rw [if_pos hlt]; show rollbackUnmined w2.mined w2.unmined _ = _; rw [s2, s3]; rfl, s1.2.2.2⟩
      · rw [e] at hres
        exact Or.inl ⟨_, hres.symm, Or.inr ⟨c, hcm, hlt, hl ▸ h1, hl ▸ h2⟩⟩
    · cases Nat.le_antisymm c1 (Nat.le_of_not_lt hlt)
      rw [if_pos (Nat.lt_irrefl _)] at hres
      refine Or.inr ⟨w, _, hres.symm, hcm, hlen, ?_, ?_, (if_neg hlt).symm, rfl⟩
      · rw [← c4, ancestorAt_self, Nat.min_eq_left hS.lo_le]; exact hS.catch
      · exact (rollbackMined_all _ _ fun r hr => Nat.lt_succ_of_le (hS.mined r hr).1).symm

theorem CatchInv.on_tip {c : Nat} (h : CatchInv cfg w (ancestorAt tip c) lo) (hc : c ≤ tip.length) :
    w.syncedTo.height = c ∧
    (∀ k, lo ≤ k → k ≤ c → w.hashes k = some (some (ancestorAt tip k))) ∧
    (∀ k x, k ≤ c → w.hashes k = some x → x = some (ancestorAt tip k)) := by
  have hl := ancestorAt_length tip c hc
  refine ⟨h.height.trans hl, fun k k1 k2 => ?_, fun k x k2 => ?_⟩
  · rw [← ancestorAt_ancestorAt tip c k k2 hc]; exact h.remembered k k1 (hl.symm ▸ k2)
  · rw [← ancestorAt_ancestorAt tip c k k2 hc]; exact h.correct k x (hl.symm ▸ k2)

/-- The condition on `c` is the `ValidStep` condition of an online reorg. -/
theorem startupRollback_succeeds (hS : StoppedInv cfg w old lo) (tip : BlockId) (c : Nat)
    (hlen : old.length ≤ tip.length) (hcm : IsLastCommon old tip c) (hlo : lo ≤ c)
    (hpred : c = old.length ∨ c = 0 ∨ lo + 1 ≤ c) : ∃ w1, startupRollback cfg w tip = .ok w1 := by
  rcases startupRollback_total hS tip with ⟨e, _, hl | ⟨c', hc', h1, h2, h3⟩⟩ | ⟨w1, _, h, _⟩
  · obtain ⟨r, hr⟩ := rollbackLoop_succeeds (C := cfg.C) hS.remembered hlen hcm hlo old.length false hcm.1
      (Nat.le_refl _)
    rw [hr] at hl; cases hl
  · cases isLastCommon_unique hc' hcm
    rw [hS.remembered (c - 1) (by omega) (by omega)] at h3
    cases h3
  · exact ⟨w1, h⟩

theorem startupRollback_same (hS : StoppedInv cfg w old lo) : startupRollback cfg w old = .ok w := by
  unfold startupRollback
  rw [hS.catch.height, rollbackLoop_hit false (Nat.le_refl _) (hS.remembered _ hS.lo_le (Nat.le_refl _))]
  rfl

end

end SyncTip
