/-
`Good` is kept by the operations that do not write to the database: each only sets flags of heap objects, fills the
caches through `loadAcct` / `addressOf`, or moves lock state that `Good` does not look at.
-/
import BtcwVerif.Lemmas.AddrGood
namespace AddrLock

variable {d : Disk} {m : Mem}

theorem good_setObj (hg : Good d m) (id : Nat) (f : Obj → Obj)
    (hf : ∀ o, (f o).key = o.key ∧ (f o).acct = o.acct) : Good d (m.setObj id f) :=
  good_congr hg ⟨Nat.le_refl _, fun i _ => by
      simp only [Mem.setObj]; split
      · exact hf _
      · exact ⟨rfl, rfl⟩, rfl, rfl⟩
    (fun _ _ => rfl) fun _ _ => rfl

theorem good_updScope_other (hg : Good d m) (sc : Nat) (f : ScopeMem → ScopeMem)
    (hf : ∀ s, (f s).acctInfo = s.acctInfo ∧ (f s).addrs = s.addrs) : Good d (m.updScope sc f) :=
  good_congr hg (ext_updScope m sc f) (fun sc' _ => by rw [memUpd_field (·.acctInfo) m sc f sc' fun s => (hf s).1])
    fun sc' _ => by rw [memUpd_field (·.addrs) m sc f sc' fun s => (hf s).2]

theorem good_lockMem (cfg : Cfg) (hg : Good d m) : Good d (lockMem cfg m) :=
  good_ext hg
    ⟨Nat.le_refl _, fun id _ => by simp only [lockMem]; split <;> exact ⟨rfl, rfl⟩, rfl, rfl⟩
    (fun _ _ _ h => Or.inl h)
    (fun sc a ai h => by
      have h : aget ((m.scopes sc).acctInfo.map fun p => (p.1, { p.2 with keyPriv := false })) a = some ai := h
      obtain ⟨ai0, h0, rfl⟩ := aget_map_some (f := fun p : Nat × AcctInfo => { p.2 with keyPriv := false }) h
      exact Or.inl ⟨ai0, h0, rfl⟩)

theorem good_setCT (hg : Good d m) (id : Nat) :
    Good d (m.setObj id (fun o => { o with ct := true })) :=
  good_setObj hg id _ ((by intro; exact ⟨rfl, rfl⟩))

theorem good_ite {α} {c : Prop} [Decidable c] {x y : Mem × α} (hx : Good d x.1) (hy : Good d y.1) :
    Good d (if c then x else y).1 :=
  ite_ind (P := fun r : Mem × α => Good d r.1) (fun _ => hx) (fun _ => hy)

theorem good_privKeyObj (hg : Good d m) (id : Nat) : Good d (privKeyObj m id).1 :=
  good_ite hg (good_ite hg (good_ite hg (good_ite hg (good_setCT hg id))))

theorem good_scriptObj (hg : Good d m) (id : Nat) : Good d (scriptObj m id).1 := by
  have go : ∀ k : OKind, (m.heap id).kind = k → k ≠ .managed → Good d (scriptObj m id).1 := by
    intro k hk hne
    unfold scriptObj; dsimp only; rw [hk]
    cases k with
    | managed => exact absurd rfl hne
    | _ => exact good_ite hg (good_ite hg (good_ite hg (good_ite hg (good_setCT hg id))))
  cases hk : (m.heap id).kind with
  | managed => unfold scriptObj; dsimp only; rw [hk]; exact hg
  | script => exact go _ hk (by simp)
  | wscript s => exact go _ hk (by simp)
  | tscript s => exact go _ hk (by simp)

theorem good_deriveCache (cfg : Cfg) (hg : Good d m) (sc : Nat) (p : Path) :
    Good d (deriveCache cfg m sc p).1 := by
  have touch : ∀ f : List Path → List Path, Good d (m.updScope sc fun s => { s with pkc := f s.pkc }) :=
    fun f => good_updScope_other hg sc _ fun _ => ⟨rfl, rfl⟩
  unfold deriveCache
  refine good_ite hg (good_ite hg (good_ite (touch fun l => pkcTouch l p) ?_))
  cases aget (m.scopes sc).acctInfo p.acct with
  | none => exact hg
  | some info => exact good_ite hg (good_ite hg (touch fun l => (pkcTouch l p).take cfg.cap))

theorem good_derivePath (hg : Good d m) (sc a b i : Nat) : Good d (derivePath d m sc a b i).1 := by
  unfold derivePath
  cases hr : chainRowToManaged d m sc a b i with
  | error e => exact hg
  | ok r => exact good_privKeyObj (chainRow_good hg hr).1 _

theorem good_query (hg : Good d m) (q : Query) : Good d (query d m q).1 := by
  have load : ∀ sc a {α} (f : Mem → Mem × α) (g : Err → α), (∀ m1, (f m1).1 = m1) →
      Good d (match loadAcct d m sc a with | .error e => (m, g e) | .ok m1 => f m1).1 := by
    intro sc a α f g hf
    cases hl : loadAcct d m sc a with
    | error e => exact hg
    | ok m1 => dsimp only; rw [hf]; exact (loadAcct_good hg hl).good
  cases q with
  | address sc k =>
    simp only [query]
    cases hr : addressOf d m sc k with
    | error e => exact hg
    | ok r => exact addressOf_good hg hr
  | props sc a =>
    simp only [query]
    exact good_ite hg (load sc a _ _ fun m1 => by cases acctInfoOf m1 sc a <;> rfl)
  | lastAddr sc a i =>
    simp only [query]
    refine load sc a _ _ fun m1 => ?_
    cases acctInfoOf m1 sc a with
    | none => rfl
    | some ai => dsimp only; split <;> rfl
  | lookup sc n => simp only [query]; cases lookupName (d.scopes sc) n <;> exact hg
  | acctName sc a => simp only [query]; cases aget (d.scopes sc).accts a <;> exact hg
  | used sc k =>
    simp only [query]
    cases hr : addressOf d m sc k with
    | error e => exact hg
    | ok r => exact addressOf_good hg hr
  | syncedTo => exact hg
  | blockHash h => simp only [query]; cases aget d.hashes h <;> exact hg

theorem good_unlockDou (cfg : Cfg) (sc : Nat) (es : List Dou) (hg : Good d m) :
    Good d (unlockDou cfg d sc es m).1 := by
  induction es generalizing m with
  | nil => exact hg
  | cons e es ih =>
    simp only [unlockDou]
    cases hl : loadAcct d m sc e.acct with
    | error err => exact hg
    | ok m1 =>
      have g1 := (loadAcct_good hg hl).good
      dsimp only
      split
      · split
        · exact ih (good_updScope_other g1 sc _ (by intro; exact ⟨rfl, rfl⟩))
        · exact g1
      · refine ih (good_updScope_other (good_setObj g1 _ _ fun o => ?_) sc _ (by intro; exact ⟨rfl, rfl⟩))
        split <;> exact ⟨rfl, rfl⟩

theorem good_unlockScopes (cfg : Cfg) (scs : List Nat) (hg : Good d m) :
    Good d (unlockScopes cfg d scs m).1 := by
  induction scs generalizing m with
  | nil => exact hg
  | cons sc rest ih =>
    simp only [unlockScopes]
    cases hai : unlockAccts cfg (m.scopes sc).acctInfo with
    | none => exact hg
    | some ai =>
      have g1 : Good d (m.updScope sc fun s => { s with acctInfo := ai }) := by
        refine good_ext hg (ext_updScope _ _ _)
          (fun sc' k id h => Or.inl (by rwa [memUpd_field (·.addrs) m sc fun s => { s with acctInfo := ai }] at h)) fun sc' a ai' h => Or.inl ?_
        rw [memUpd_scopes] at h
        by_cases hsc : sc' = sc
        · subst hsc
          rw [if_pos rfl, unlockAccts_some hai] at h
          obtain ⟨ai0, h0, rfl⟩ := aget_map_some h
          exact ⟨ai0, h0, by unfold unlockAcct infoView; split <;> rfl⟩
        · rw [if_neg hsc] at h; exact ⟨ai', h, rfl⟩
      have g2 := good_unlockDou cfg sc ((m.updScope sc fun s => { s with acctInfo := ai }).scopes sc).dou g1
      dsimp only
      split
      · rename_i m2 e heq; rw [heq] at g2; exact g2
      · rename_i m2 heq; rw [heq] at g2; exact ih g2

theorem good_unlock (cfg : Cfg) (hg : Good d m) (p : Nat) : Good d (unlock cfg d m p).1 :=
  have g0 : Good d { m with saltZero := saltAfter cfg m p } :=
    good_congr hg (ext_same rfl rfl rfl rfl) (fun _ _ => rfl) fun _ _ => rfl
  unlock_cases (P := fun r => Good d r.1) (L := fun r => Good d r.1) cfg d m p
    (good_unlockScopes cfg _
      (good_congr (m' := unlockStart cfg m) hg (ext_same rfl rfl rfl rfl) (fun _ _ => rfl) fun _ _ => rfl))
    (fun _ => hg) (fun _ _ _ => g0) (fun _ _ _ => good_lockMem cfg g0) (fun _ _ _ => good_lockMem cfg hg)
    (fun _ _ _ _ h => h) (fun _ _ _ _ _ h => good_lockMem cfg h)
    fun _ _ _ _ h => good_congr h (ext_same rfl rfl rfl rfl) (fun _ _ => rfl) fun _ _ => rfl

theorem good_lockOp (cfg : Cfg) (hg : Good d m) : Good d (lockOp cfg m).1 :=
  good_ite hg (good_ite hg (good_lockMem cfg hg))

end AddrLock
