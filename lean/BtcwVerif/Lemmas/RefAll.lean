import BtcwVerif.Lemmas.RefConfirmed
import BtcwVerif.Lemmas.RefLease
import BtcwVerif.Lemmas.RefDisconnected
/-!
# The refinement theorem: along every chain-consistent history of events the store calls succeed and the store
refines the ledger
-/
namespace TxStore
open Ledger

theorem refines_empty : Refines Store.empty {} := by
  refine ⟨rfl, ?_, ?_, ?_, ?_, ?_, ?_, ?_, ?_, List.nodup_nil, List.nodup_nil, List.nodup_nil, List.nodup_nil⟩
  · intro k v; constructor <;> intro h <;> cases h
  · intro k v; constructor <;> intro h <;> cases h
  · intro k v; constructor <;> intro h <;> cases h
  · intro k v
    constructor
    · intro h; cases h
    · rintro ⟨cv, h, _⟩; cases h
  · intro k v; constructor <;> intro h <;> cases h
  · intro op h; constructor <;> intro h' <;> cases h'
  · intro op h; cases h
  · intro op; rfl

theorem good_empty : Good Store.empty {} := ⟨wf2_empty, lwf_empty, refines_empty⟩

theorem noConflict_empty : NoConflict {} := by intro t ht; cases ht

/-- every event but a block disconnection, by the theorem of its file; `good_step` adds `good_disconnected`.  `Event.noReorg` is
what the statement of `good_history_noReorg` speaks of -/
theorem good_step_noReorg {s : Store} {L : Ledger} (hg : Good s L) (e : Event) (hc : Consistent L e)
    (hn : Event.noReorg e) :
    ∃ s', stepEvent s L.now e = .ok s' ∧ Good s' (Ledger.apply L e) ∧ (NoConflict L → NoConflict (Ledger.apply L e)) := by
  cases e with
  | seen t cr => exact good_seen hg L.now hc
  | confirmed bm t cr => exact good_confirmed hg L.now hc
  | disconnected h => exact absurd hn (by simp [Event.noReorg])
  | abandoned t => exact good_abandoned hg L.now hc
  | lease id op d => exact good_lease hg id op d
  | release id op => exact good_release hg id op
  | sweep => exact good_sweep hg
  | clock t => exact good_clock hg t

/-- **one event**: on a good pair, for a chain-consistent event, the store calls succeed and the new pair is good -/
theorem good_step {s : Store} {L : Ledger} (hg : Good s L) (e : Event) (hc : Consistent L e) :
    ∃ s', stepEvent s L.now e = .ok s' ∧ Good s' (Ledger.apply L e) ∧ (NoConflict L → NoConflict (Ledger.apply L e)) := by
  cases e with
  | disconnected h => exact good_disconnected hg L.now h
  | _ => exact good_step_noReorg hg _ hc trivial

theorem good_history : ∀ (es : List Event) (s : Store) (L : Ledger), Good s L → NoConflict L →
    ConsistentHistory L es →
    ∃ s', storeAfter s L es = .ok s' ∧ Good s' (ledgerAfter L es) ∧ NoConflict (ledgerAfter L es) := by
  intro es
  induction es with
  | nil => intro s L hg hn _; exact ⟨s, rfl, hg, hn⟩
  | cons e es ih =>
    intro s L hg hn hc
    obtain ⟨s1, h1, hg1, hn1⟩ := good_step hg e hc.1
    obtain ⟨s', h2, hg2, hn2⟩ := ih s1 (Ledger.apply L e) hg1 (hn1 hn) hc.2
    refine ⟨s', ?_, hg2, hn2⟩
    show (stepEvent s L.now e >>= fun s' => storeAfter s' (Ledger.apply L e) es) = _
    rw [h1, bind_ok, h2]

theorem good_history_noReorg : ∀ (es : List Event) (s : Store) (L : Ledger), Good s L → NoConflict L →
    ConsistentHistory L es → (∀ e ∈ es, Event.noReorg e) →
    ∃ s', storeAfter s L es = .ok s' ∧ Good s' (ledgerAfter L es) ∧ NoConflict (ledgerAfter L es) :=
  fun es s L hg hn hc _ => good_history es s L hg hn hc

theorem good_reachable (es : List Event) (hc : ConsistentHistory {} es) :
    ∃ s, storeAfter Store.empty {} es = .ok s ∧ Good s (ledgerAfter {} es) ∧ NoConflict (ledgerAfter {} es) :=
  good_history es Store.empty {} good_empty noConflict_empty hc

end TxStore
