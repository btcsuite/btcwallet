import BtcwVerif.Model.AddrTx
import BtcwVerif.Lemmas.AddrStep
/-!
Every row any operation of the `AddrDerive` model hands to the database is `Good` (C04 helper lemmas).  The values
`waddrmgr/db.go` writes are concatenations of plain fields, hashed ids and data sealed under a crypto key; the `SymGood`
rules say when each is good, and as simp rules they read the goodness of a row constructor off its definition.
-/
set_option linter.unusedSectionVars false
namespace AddrDerive
open AddrSym

variable {K P : Type} [DecidableEq K] [DecidableEq P]

/-- what C04 demands of one written row.  `o1` is the "script key is the all-zero key" quirk: with it, secret
    scripts are readable, so the secret / key-class clauses are only claimed without it. -/
def Good (o1 : Bool) (w : Row) : Prop :=
  w.exposesPublic = false ∧ (o1 = false → w.exposesSecret = false ∧ w.rightClass = true)

def AllGood (o1 : Bool) (rows : List Row) : Prop := ∀ w ∈ rows, Good o1 w

theorem AllGood.nil {o1 : Bool} : AllGood o1 [] := List.forall_mem_nil _

theorem AllGood.append {o1 : Bool} {a b : List Row} (ha : AllGood o1 a) (hb : AllGood o1 b) : AllGood o1 (a ++ b) :=
  List.forall_mem_append.mpr ⟨ha, hb⟩

theorem AllGood.cons {o1 : Bool} {a : Row} {b : List Row} (ha : Good o1 a) (hb : AllGood o1 b) : AllGood o1 (a :: b) :=
  List.forall_mem_cons.mpr ⟨ha, hb⟩

theorem AllGood.map {o1 : Bool} {α : Type} {f : α → Row} {l : List α} (h : ∀ e ∈ l, Good o1 (f e)) : AllGood o1 (l.map f) :=
  List.forall_mem_map.mpr h

theorem AllGood.flatten_map {o1 : Bool} {α : Type} {f : α → List Row} {l : List α}
    (h : ∀ e ∈ l, AllGood o1 (f e)) : AllGood o1 (l.map f).flatten :=
  List.forall_mem_flatten.mpr (List.forall_mem_map.mpr h)

theorem AllGood.either {o1 : Bool} {c : Prop} [Decidable c] {a b : List Row} (ha : AllGood o1 a) (hb : AllGood o1 b) :
    AllGood o1 (if c then a else b) := by
  split <;> assumption

theorem AllGood.ite {o1 : Bool} {α β : Type} {c : Prop} [Decidable c] {a b : α × β × List Row}
    (ha : AllGood o1 a.2.2) (hb : AllGood o1 b.2.2) : AllGood o1 (if c then a else b).2.2 := by
  split <;> assumption

section
variable {o1 : Bool}

def SymGood (o1 : Bool) (v : Sym) : Prop :=
  exposesPublic v = false ∧ (o1 = false → exposesSecret v = false ∧ rightClass v = true)

theorem good_put {p : String} {k v : Sym} : Good o1 { path := p, key := k, val := v } ↔ SymGood o1 k ∧ SymGood o1 v := by
  simp only [Good, SymGood, Row.exposesPublic, Row.exposesSecret, Row.rightClass, Bool.or_eq_false_iff, Bool.and_eq_true]
  constructor <;> intro h <;> simp_all

theorem good_del {p : String} {k : Sym} : Good o1 { del := true, path := p, key := k } ↔ SymGood o1 k := by
  simp [Good, SymGood, Row.exposesPublic, Row.exposesSecret, Row.rightClass]

theorem SymGood.plain (d : String) : SymGood o1 (.plain d) := by simp [SymGood, exposesPublic, exposesSecret, rightClass]

/-- address ids are stored hashed -/
theorem SymGood.hashed (d : String) : SymGood o1 (.sha (.pubdata d)) := by
  simp [SymGood, exposesPublic, exposesSecret, rightClass]

theorem SymGood.cat {a b : Sym} : SymGood o1 (.cat a b) ↔ SymGood o1 a ∧ SymGood o1 b := by
  simp only [SymGood, exposesPublic, exposesSecret, rightClass, Bool.or_eq_false_iff, Bool.and_eq_true]
  constructor <;> intro h <;> simp_all

theorem exposesPublic_enc (kc : KeyClass) (v : Sym) :
    exposesPublic (.enc kc v) = (decide (kc = .zero) && exposesPublic v) := by
  cases kc <;> rfl

theorem exposesSecret_enc (kc : KeyClass) (v : Sym) :
    exposesSecret (.enc kc v) = (decide (kc = .zero) && exposesSecret v) := by
  cases kc <;> rfl

theorem SymGood.sealedPub {kc : KeyClass} {d : String} : SymGood o1 (.enc kc (.pubdata d)) ↔ kc ≠ .zero := by
  simp [SymGood, exposesPublic_enc, exposesSecret_enc, exposesPublic, exposesSecret, rightClass, containsSecret]

theorem SymGood.sealed {kc : KeyClass} {c : SecClass} {d : String} :
    SymGood o1 (.enc kc (.secret c d)) ↔ (o1 = false → kc ≠ .zero ∧ allowedKey c kc = true) := by
  cases c <;> simp [SymGood, exposesPublic_enc, exposesSecret_enc, exposesPublic, exposesSecret, rightClass, containsSecret]

end

attribute [local simp] good_put good_del SymGood.plain SymGood.hashed SymGood.cat SymGood.sealedPub SymGood.sealed
  allowedKey mainPut mainDel

section
variable {o1 : Bool}

theorem good_acctRowPut (sc : Scope) (a : Nat) (r : AcctRow K P) : Good o1 (acctRowPut sc a r) := by
  rcases r with ⟨pub, _ | priv, ne, ni, name⟩ | ⟨pub, fp, ne, ni, name, schema, ci⟩ <;>
    simp [acctRowPut, acctRowSym, xpubSym, xprvSym]

theorem addrKeySym_good (sc : Scope) (id : AddrId P) (r : AddrRow) : SymGood o1 (addrKeySym sc id r) := by
  cases r <;> exact .hashed _

/-- the row seals no script under the all-zero key (a secret one: under the script key, unless `o1`) -/
def RowSafe (o1 : Bool) : AddrRow → Prop
  | .scr _ _ true (some kc) => o1 = false → kc = .script
  | .scr _ _ false (some kc) => kc ≠ .zero
  | _ => True

theorem addrRowSym_good {r : AddrRow} (hr : RowSafe o1 r) : SymGood o1 (addrRowSym r) := by
  rcases r with ⟨a, b, i⟩ | ⟨id, c, _ | _⟩ | ⟨id, kind, _ | _, _ | kc⟩ <;> simp [addrRowSym, scriptSym]
  · exact hr
  · exact fun h => by simp [hr h]

theorem good_addrRowPuts (sc : Scope) (id : AddrId P) {r : AddrRow} (hr : RowSafe o1 r) : AllGood o1 (addrRowPuts sc id r) := by
  simp [AllGood, addrRowPuts, addrKeySym_good, addrRowSym_good hr]

theorem good_cryptoKeyRows (a b c : Bool) : AllGood o1 (cryptoKeyRows a b c) := by
  refine .append (.append ?_ ?_) ?_ <;> exact .either (.cons (by simp) .nil) .nil

theorem good_paramRows (a b : Option Nat) : AllGood o1 (paramRows a b) := by
  cases a <;> cases b <;> simp [AllGood, paramRows]

theorem good_scopeRows (sc : Scope) (sd : ScopeDisk K P) : AllGood o1 (scopeRows sc sd) := by
  unfold scopeRows
  split
  · simp [AllGood, keyScopeRows, good_acctRowPut]
  · exact .nil

-- explicit: a lemma below takes, in this order and before its own arguments, those of `cfg s sc` that its statement mentions
variable (cfg : Cfg) (s : State K P) (sc : Scope)

theorem issueAll_good (toDou : Bool) (objs : List (KeyObj K P)) :
    ∀ (s : State K P) (rows : List Row) (idxs : List Nat), AllGood o1 rows →
      AllGood o1 (issueAll sc toDou objs s rows idxs).2.1 := by
  induction objs with
  | nil => exact fun _ _ _ h => h
  | cons o rest ih =>
    intro s rows idxs h
    unfold issueAll
    split
    · refine ih _ _ _ ((h.append (good_addrRowPuts _ _ (r := .chain ..) trivial)).append ?_)
      split
      · exact .cons (good_acctRowPut _ _ _) .nil
      · exact .nil
    · exact h

theorem commitIssue_good (acct : Nat) (internal toDou : Bool) (objs : List (KeyObj K P)) (nn : Nat) :
    AllGood o1 (commitIssue s sc acct internal toDou objs nn).2.1 := by
  unfold commitIssue
  have h : AllGood o1 (issueAll sc toDou objs s [] []).2.1 := issueAll_good sc toDou objs s [] [] .nil
  revert h
  rcases issueAll sc toDou objs s [] [] with ⟨s1, rows, idxs⟩
  intro h
  dsimp only
  split
  · split <;> exact h
  · exact h

theorem importKey_good (k : Nat) (c wp : Bool) (h : Nat) : AllGood o1 (importKey s sc k c wp h).2.2 := by
  unfold importKey
  rcases getSM s sc with _ | sm
  · exact .nil
  rcases getSD s sc with _ | sd
  · exact .nil
  refine .ite .nil ?_
  dsimp only [alloc]
  split
  · exact .nil
  · exact good_addrRowPuts _ _ (r := .imp ..) trivial

/-- `deletePrivateKeys` re-writes a script row only without its sealed script -/
theorem stripAddrRow_safe {r : AddrRow} (hemit : emitted cfg r = true) : RowSafe o1 (stripAddrRow cfg r) := by
  rcases r with ⟨a, b, i⟩ | ⟨k, c, hp⟩ | ⟨k, _ | _ | n, _ | _, e⟩
  all_goals first | trivial | simp [emitted, stripAddrRow] at hemit
  simp [stripAddrRow, hemit, RowSafe]

theorem stripScope_good (sd : ScopeDisk K P) : AllGood o1 (stripScope cfg sc sd).2 :=
  .append (.append (.cons (by simp) .nil) (.map fun _ _ => good_acctRowPut _ _ _))
    (.map fun _ he => good_put.2 ⟨addrKeySym_good _ _ _, addrRowSym_good (stripAddrRow_safe cfg (List.mem_filter.mp he).2)⟩)

end

/-- each case walks the exits of its operation; all but the last return no rows -/
theorem step_good (cfg : Cfg) (hd : HD K P) (s : State K P) (op : Op K P) : AllGood cfg.o1 (step cfg hd s op).2.2 := by
  have guard (r : State K P × Res K × List Row) (h : AllGood cfg.o1 r.2.2) : AllGood cfg.o1
      (if !s.created then (s, .err .notCreated, []) else if s.poisoned then (s, .err .poisoned, []) else r).2.2 :=
    step_lift (Q := fun r => AllGood cfg.o1 r.2.2) (fun _ => .nil) h
  cases op with
  | create root =>
    show AllGood _ (opCreate hd root).2.2
    unfold opCreate
    rcases mkScopes hd root defaultScopes with _ | scs
    · exact .nil
    · exact ((((AllGood.flatten_map fun e _ => good_scopeRows e.1 e.2).append (by simp [AllGood])).append
        (good_paramRows _ _)).append (good_cryptoKeyRows _ _ _)).append (by simp [AllGood])
  | changePass priv o n =>
    exact guard _ (.ite (.ite .nil (.ite .nil ((good_cryptoKeyRows _ _ _).append (good_paramRows _ _))))
      (.ite .nil ((good_cryptoKeyRows _ _ _).append (good_paramRows _ _))))
  | newScope sc sch =>
    refine guard _ (.ite .nil (.ite .nil ?_))
    rcases s.disk.rootPriv with _ | root
    · exact .nil
    refine .ite .nil ?_
    rcases mkKeyScope hd root sc sch with _ | sd0
    · exact .nil
    · exact good_scopeRows _ _
  | newAccount sc name =>
    refine guard _ (.ite .nil ?_)
    rcases getSD s sc with _ | sd
    · exact .nil
    refine .ite .nil (.ite .nil (.ite .nil ?_))
    rcases sd.coinPriv with _ | ck
    · exact .nil
    refine .ite .nil ?_
    rcases hd.child ck _ with _ | ak
    · exact .nil
    · exact .cons (good_acctRowPut _ _ _) .nil
  | newAccountWO sc name x ci fp sch =>
    refine guard (opNewAccountWO s sc name x ci fp sch) ?_
    unfold opNewAccountWO
    rcases getSD s sc with _ | sd
    · exact .nil
    · exact .ite .nil (.ite .nil (.cons (good_acctRowPut _ _ _) .nil))
  | rename sc acct name =>
    refine guard _ (.ite .nil ?_)
    rcases getSD s sc with _ | sd
    · exact .nil
    refine .ite .nil (.ite .nil ?_)
    rcases alookup sd.accts acct with _ | row
    · exact .nil
    · exact .cons (good_acctRowPut _ _ _) .nil
  | next sc acct n internal hb =>
    refine guard _ (.ite .nil ?_)
    rcases loadAcct hd s sc acct with e | ⟨s1, ai⟩
    · exact .nil
    dsimp only
    rcases getSM s1 sc with _ | sm
    · exact .nil
    refine .ite .nil (.ite .nil (.ite .nil ?_))
    rcases nextIdxs _ _ _ with _ | idxs
    · exact .nil
    dsimp only
    rcases mkAll hd sc acct ai _ _ _ _ _ idxs with _ | objs
    · exact .nil
    · exact commitIssue_good _ _ _ _ _ _ _
  | extend sc acct last internal =>
    refine guard _ (.ite .nil ?_)
    rcases loadAcct hd s sc acct with e | ⟨s1, ai⟩
    · exact .nil
    dsimp only
    rcases getSM s1 sc with _ | sm
    · exact .nil
    refine .ite .nil (.ite .nil (.ite .nil (.ite .nil ?_)))
    rcases extendIdxs _ _ _ _ with _ | idxs
    · exact .nil
    dsimp only
    rcases mkAll hd sc acct ai _ _ _ _ _ idxs with _ | objs
    · exact .nil
    · exact commitIssue_good _ _ _ _ _ _ _
  | markUsed sc id d =>
    refine guard (opMarkUsed s sc id d) ?_
    unfold opMarkUsed
    rcases getSM s sc with _ | sm
    · exact .nil
    rcases getSD s sc with _ | sd
    · exact .nil
    refine .either .nil (.cons (good_put.2 ⟨?_, .plain _⟩) .nil)
    unfold markKeySym
    split
    · exact addrKeySym_good _ _ _
    · exact .hashed _
  | importPriv sc k c h => exact guard _ (.ite .nil (importKey_good s sc k c _ h))
  | importPub sc k h => exact guard _ (importKey_good s sc k true false h)
  | importScript sc k kind sec h =>
    refine guard _ (.ite .nil (.ite .nil ?_))
    rcases getSM s sc with _ | sm
    · exact .nil
    rcases getSD s sc with _ | sd
    · exact .nil
    refine .ite .nil ?_
    dsimp only [alloc]
    split
    · exact .nil
    · refine good_addrRowPuts _ _ ?_
      -- sealed under the script key in memory (the zero key only with `o1`) if secret, else under `pub`
      cases sec <;> simp [RowSafe, memScriptKey]
  | convertWO =>
    refine guard _ (.ite .nil (.append (.append (by simp [AllGood]) (.flatten_map fun e he => ?_)) (by simp [AllGood])))
    obtain ⟨e0, _, rfl⟩ := List.mem_map.mp he
    exact stripScope_good cfg _ _
  | unlock p =>
    refine guard _ (.ite .nil (.ite (.ite .nil .nil) (.ite .nil (.ite .nil (.ite .nil ?_)))))
    rcases unlockScopes hd s.mem.scopes s.mem.heap with _ | ⟨scs, heap⟩ <;> exact .nil
  | _ =>
    -- the remaining operations write nothing
    refine guard _ ?_
    dsimp only [opLock, opLookup, opDerive, opPrivKey, opScript, opInfo, opProps, opRestart, opDeriveCache]
    repeat' split
    all_goals exact .nil

theorem foldl_rows {σ ι β ρ : Type} (f : σ → ι → σ × β × List ρ) (p : ρ → Prop) (ops : List ι) (acc : σ × List ρ)
    (hf : ∀ o ∈ ops, ∀ s, ∀ w ∈ (f s o).2.2, p w) (h : ∀ w ∈ acc.2, p w) :
    ∀ w ∈ (ops.foldl (fun acc o => let r := f acc.1 o; (r.1, acc.2 ++ r.2.2)) acc).2, p w :=
  List.foldlRecOn (motive := fun acc : σ × List ρ => ∀ w ∈ acc.2, p w) ops _ h
    fun acc h o ho => List.forall_mem_append.mpr ⟨h, hf o ho acc.1⟩

theorem run_good (cfg : Cfg) (hd : HD K P) (ops : List (Op K P)) : AllGood cfg.o1 (run cfg hd ops).2 := by
  rw [run_eq_foldl]
  exact foldl_rows (step cfg hd) (Good cfg.o1) ops _ (fun op _ s => step_good cfg hd s op) AllGood.nil

theorem wrun_rows (cfg : Cfg) (hd : HD K P) (ops : List (WOp K P)) : ∀ w ∈ (wrun cfg hd ops).2,
    (w.1 = Ns.waddrmgr ∧ Good cfg.o1 w.2) ∨
    (w.1 = Ns.wtxmgr ∧ w.2.exposesSecret = false ∧ ops.all (fun op => !op.isTx) = false) := by
  refine foldl_rows (wstep cfg hd) _ ops _ (fun op ho s w hw => ?_) (List.forall_mem_nil _)
  cases op with
  | mgr op =>
    obtain ⟨r, hr, rfl⟩ := List.mem_map.mp hw
    exact .inl ⟨rfl, step_good cfg hd s op r hr⟩
  | recordTx desc =>
    simp only [wstep] at hw
    split at hw
    · cases hw
    · obtain ⟨r, hr, rfl⟩ := List.mem_map.mp hw
      refine .inr ⟨rfl, ?_, List.all_eq_false.mpr ⟨_, ho, by simp [WOp.isTx]⟩⟩
      simp only [txRows, List.mem_cons, List.mem_nil_iff, or_false] at hr
      rcases hr with rfl | rfl <;> simp [Row.exposesSecret, exposesSecret]

end AddrDerive
