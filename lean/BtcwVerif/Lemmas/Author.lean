/-
Helper definitions and lemmas for C07 (core Lean only).

`AuthorSpec` holds closed forms of the size / fee / dust arithmetic, written with literal numbers, independent of the
generated `SizesGen`.  Everything in this file is proved for an arbitrary arithmetic `cfg : Author.Cfg` that agrees
with the closed forms (`EstOK`, `FeeOK`, `DustOK`, `SumOK`); `Props/C07.lean` proves that the arithmetic generated from
the CURRENT working tree (`Author.genCfg`) does.  `cfgFee_eq` / `maxReq_eq` are where that agreement is used.

The estimate and the byte-accurate signed size are both compared as weights (`estWeight`, `realWeight_eq`), term by term;
a successful run returns `settle` of its last fetch (`Facts`).

Names: the model is namespace `Author`, this file `AuthorSpec`, the property theorems `C07` (`Props/C07.lean`).
`txauthor.NewUnsignedTransaction` / `makeInputSource` are modelled a second time, as `CoinSelect.author` / `fetch`, for C06
(which inputs are chosen); the two models are not connected by any theorem.  A change of author.go, size.go or rules.go
goes into `Model/Author.lean` and shows here: only this model's arithmetic is tied to the Go source (`C07_gen_*`).
-/
import BtcwVerif.Model.Author

namespace AuthorSpec
open SizesExt Author

local notation "varint" => wire_VarIntSerializeSize

def maxSatoshi : Int := 2100000000000000

/-- Closed form of txsizes.EstimateVirtualSize.  `useOutputCount = true`: the var-int of the output count is sized from
    `outputCount` (requested outputs + change output); `false`: from `len(txOuts)` (the code before fix-C07-F4). -/
def est (useOutputCount : Bool) (p t w n : Int) (outs : List TxOut) (cs : Int) : Int :=
  8 + varint (p + t + w + n)
    + varint (if useOutputCount ∧ cs > 0 then (outs.length : Int) + 1 else (outs.length : Int))
    + p * 149 + w * 41 + t * 41 + n * 64 + sumOutSizes outs
    + (if cs > 0 then 8 + varint cs + cs else 0)
    + (if w + n + t > 0 then (2 + varint (w + n + t) + w * 109 + t * 67 + n * 109 + 3) / 4 else 0)

/-- Closed form of txrules.FeeForSerializeSize (for non-negative arguments). -/
def feeFor (rate size : Int) : Int :=
  let fee := rate * size / 1000
  let fee := if fee = 0 ∧ rate > 0 then rate else fee
  if fee < 0 ∨ fee > maxSatoshi then maxSatoshi else fee

/-- txrules.IsDustOutput(o, 1000): null-data scripts are never dust, otherwise mempool.IsDust. -/
def isDust (o : TxOut) : Bool :=
  if o.PkScript.isNullData then false else mempool_IsDust o 1000

/-- mempool.GetDustThreshold, closed form -/
def dustThreshold (s : Script) : Int :=
  3 * (8 + varint s.len + s.len + 41 + (if s.isWitness then 26 else 107))

structure EstOK (cfg : Cfg) (useOutputCount : Bool) : Prop where
  est_eq : ∀ p t w n outs cs, 0 ≤ p → 0 ≤ t → 0 ≤ w → 0 ≤ n →
    cfg.est p t w n outs cs = est useOutputCount p t w n outs cs

structure FeeOK (cfg : Cfg) : Prop where
  fee_eq : ∀ rate size, 0 ≤ rate → 0 ≤ size → cfg.feeFor rate size = feeFor rate size

structure DustOK (cfg : Cfg) : Prop where
  dust_eq : ∀ o, cfg.isDust o = isDust o

structure SumOK (cfg : Cfg) : Prop where
  sum_eq : ∀ outs, cfg.sumValues outs = sumOuts outs

/-- The closed forms as an arithmetic for the loop (used for counter-examples on historical variants). -/
def specCfg (useOutputCount : Bool) (init : Int × Int × Int × Int) : Cfg where
  est := est useOutputCount
  feeFor := feeFor
  isDust := isDust
  init := init
  sumValues := sumOuts

theorem varint_bounds (v : Int) : 1 ≤ varint v ∧ varint v ≤ 9 := by
  unfold wire_VarIntSerializeSize
  omega

theorem varint_mono {a b : Int} (ha : 0 ≤ a) (h : a ≤ b) : varint a ≤ varint b := by
  unfold wire_VarIntSerializeSize
  omega

theorem outSize_mono {a b : Nat} (h : a ≤ b) : 8 + varint (a : Int) + a ≤ 8 + varint (b : Int) + b := by
  have := varint_mono (a := (a : Int)) (b := (b : Int)) (by omega) (by omega)
  omega

theorem sumOutSizes_append (a b : List TxOut) : sumOutSizes (a ++ b) = sumOutSizes a + sumOutSizes b := by
  induction a with
  | nil => simp [sumOutSizes]
  | cons x xs ih => simp [sumOutSizes, ih]; omega

theorem sumOuts_append (a b : List TxOut) : sumOuts (a ++ b) = sumOuts a + sumOuts b := by
  induction a with
  | nil => simp [sumOuts]
  | cons x xs ih => simp [sumOuts, ih]; omega

theorem sumCoins_append (a b : List Coin) : sumCoins (a ++ b) = sumCoins a + sumCoins b := by
  induction a with
  | nil => simp [sumCoins]
  | cons x xs ih => simp [sumCoins, ih]; omega

theorem sumOutSizes_nonneg (a : List TxOut) : 0 ≤ sumOutSizes a := by
  induction a with
  | nil => simp [sumOutSizes]
  | cons x xs ih =>
    have := varint_bounds (x.PkScript.len : Int)
    simp only [sumOutSizes, TxOut.SerializeSize]; omega

theorem count_nonneg (k : Kind) (cs : List Coin) : 0 ≤ count k cs := by
  induction cs with
  | nil => simp [count]
  | cons x xs ih => simp only [count]; split <;> omega

theorem count_append (k : Kind) (a b : List Coin) : count k (a ++ b) = count k a + count k b := by
  induction a with
  | nil => simp [count]
  | cons x xs ih => simp only [List.cons_append, count, ih]; omega

theorem count_total (cs : List Coin) :
    count .p2pkh cs + count .p2tr cs + count .p2wpkh cs + count .nested cs = cs.length := by
  induction cs with
  | nil => simp [count]
  | cons x xs ih =>
    simp only [count, List.length_cons]
    cases h : classify x.script <;> simp <;> omega

theorem feeFor_nonneg {rate size : Int} (hr : 0 ≤ rate) (hs : 0 ≤ size) : 0 ≤ feeFor rate size := by
  have h0 : 0 ≤ rate * size := Int.mul_nonneg hr hs
  have h1 : 0 ≤ rate * size / 1000 := Int.ediv_nonneg h0 (by decide)
  unfold feeFor maxSatoshi
  simp only []
  omega

/-- From the relay floor upward and for sizes ≥ 1 neither quirk of FeeForSerializeSize applies (the quotient is not 0,
    nothing is negative): only the clamp is left. -/
theorem feeFor_eq_min {rate size : Int} (hr : 1000 ≤ rate) (hs : 1 ≤ size) :
    feeFor rate size = min (rate * size / 1000) maxSatoshi := by
  have hb : rate * 1 ≤ rate * size := Int.mul_le_mul_of_nonneg_left hs (by omega)
  have h3 : 1 ≤ rate * size / 1000 := (Int.le_ediv_iff_mul_le (by decide)).2 (by omega)
  unfold feeFor maxSatoshi
  simp only []
  omega

theorem feeFor_mono {rate s1 s2 : Int} (hr : 1000 ≤ rate) (h1 : 1 ≤ s1) (h : s1 ≤ s2) :
    feeFor rate s1 ≤ feeFor rate s2 := by
  have hm : rate * s1 ≤ rate * s2 := Int.mul_le_mul_of_nonneg_left h (by omega)
  have hd : rate * s1 / 1000 ≤ rate * s2 / 1000 := Int.ediv_le_ediv (by decide) hm
  rw [feeFor_eq_min hr h1, feeFor_eq_min hr (Int.le_trans h1 h)]
  omega

theorem feeFor_pos {rate size : Int} (hr : 0 < rate) (hs : 0 ≤ size) : 0 < feeFor rate size := by
  have h0 : 0 ≤ rate * size := Int.mul_nonneg (by omega) hs
  have h1 : 0 ≤ rate * size / 1000 := Int.ediv_nonneg h0 (by decide)
  unfold feeFor maxSatoshi
  simp only []
  omega

/-! ### the estimate as a weight

`est` is a weight (4 × non-witness bytes + witness bytes) rounded up to virtual bytes.  In that form the input counts
enter through three terms only, each monotone: the var-int of their sum, the linear form `inW`, and `witHdr` of the
number of witness inputs; comparisons of estimates, and of the signed size with the estimate, go term by term. -/

/-- weight txsizes assumes for one input of class `k`, 4 · Redeem…InputSize + Redeem…InputWitnessWeight of size.go:
    4·149, 4·41 + 67, 4·41 + 109, 4·64 + 109 (the same constants as in `est`) -/
def kindW : Kind → Int
  | .p2pkh => 596 | .p2tr => 231 | .p2wpkh => 273 | .nested => 365

def inW (p t w n : Int) : Int := 596 * p + 231 * t + 273 * w + 365 * n

/-- marker, flag and the var-int txsizes adds for the number of witness inputs -/
def witHdr (c : Int) : Int := if c > 0 then 2 + varint c else 0

/-- the part of the estimate that does not depend on the inputs: output count, outputs, change output -/
def outsV (b : Bool) (outs : List TxOut) (cs : Int) : Int :=
  varint (if b ∧ cs > 0 then (outs.length : Int) + 1 else (outs.length : Int)) + sumOutSizes outs
    + (if cs > 0 then 8 + varint cs + cs else 0)

def estWeight (b : Bool) (p t w n : Int) (outs : List TxOut) (cs : Int) : Int :=
  4 * (8 + varint (p + t + w + n) + outsV b outs cs) + inW p t w n + witHdr (w + n + t)

theorem witHdr_mono {c c' : Int} (h0 : 0 ≤ c) (h : c ≤ c') : witHdr c ≤ witHdr c' := by
  have h1 := varint_mono h0 h
  have h2 := varint_bounds c'
  unfold witHdr
  omega

theorem witHdr_ge {c : Int} (h : 1 ≤ c) : 3 ≤ witHdr c := by
  have := varint_bounds c
  unfold witHdr
  omega

theorem outsV_pos (b : Bool) (outs : List TxOut) (cs : Int) : 1 ≤ outsV b outs cs := by
  have h1 := varint_bounds (if b ∧ cs > 0 then (outs.length : Int) + 1 else (outs.length : Int))
  have h2 := sumOutSizes_nonneg outs
  have h3 := varint_bounds cs
  unfold outsV
  omega

theorem ceil4_mono {a b : Int} (h : a ≤ b) : (a + 3) / 4 ≤ (b + 3) / 4 := by omega

section
variable (b : Bool) {p t w n : Int} (outs : List TxOut) (cs : Int) (hp : 0 ≤ p) (ht : 0 ≤ t) (hw : 0 ≤ w) (hn : 0 ≤ n)
-- every theorem of this section takes `b outs cs`, then the sign hypotheses: `est_eq_ceil b outs cs ht hw hn` (no `hp`),
-- all later ones `… b outs cs hp ht hw hn`, then their own arguments
include ht hw hn

theorem est_eq_ceil : est b p t w n outs cs = (estWeight b p t w n outs cs + 3) / 4 := by
  unfold est estWeight outsV inW witHdr
  -- with the five non-linear subterms named, what is left says `B + ⌈W/4⌉ = ⌈(4B + W)/4⌉`, and `W = 0` without witness inputs
  generalize varint (p + t + w + n) = v1
  generalize varint (if b = true ∧ cs > 0 then (outs.length : Int) + 1 else (outs.length : Int)) = v2
  generalize sumOutSizes outs = so
  generalize (if cs > 0 then 8 + varint cs + cs else 0) = ch
  generalize varint (w + n + t) = v3
  omega

include hp

theorem ten_le_est : 10 ≤ est b p t w n outs cs := by
  rw [est_eq_ceil b outs cs ht hw hn]
  have h1 := varint_bounds (p + t + w + n)
  have h2 := outsV_pos b outs cs
  have h3 := witHdr_mono (c := 0) (c' := w + n + t) (by omega) (by omega)
  have h4 : witHdr 0 = 0 := rfl
  unfold estWeight inW
  omega

theorem estWeight_mono {p' t' w' n' : Int} (hp' : p ≤ p') (ht' : t ≤ t') (hw' : w ≤ w') (hn' : n ≤ n') :
    estWeight b p t w n outs cs ≤ estWeight b p' t' w' n' outs cs := by
  have h1 := varint_mono (a := p + t + w + n) (b := p' + t' + w' + n') (by omega) (by omega)
  have h2 := witHdr_mono (c := w + n + t) (c' := w' + n' + t') (by omega) (by omega)
  unfold estWeight inW
  omega

theorem estWeight_p2wpkh_le (h1 : 1 ≤ p + t + w + n) (hx : ¬ (t = 1 ∧ p = 0 ∧ w = 0 ∧ n = 0)) :
    estWeight b 0 0 1 0 outs cs ≤ estWeight b p t w n outs cs := by
  have h2 := varint_mono (a := 1) (b := p + t + w + n) (by omega) (by omega)
  have h3 : witHdr 1 = 3 := rfl
  have h4 : 0 ≤ witHdr (w + n + t) := witHdr_mono (c := 0) (by omega) (by omega)
  have h5 : 1 ≤ w + n + t → 3 ≤ witHdr (w + n + t) := witHdr_ge
  unfold estWeight inW
  simp only [Int.add_zero, Int.zero_add, Int.mul_zero, Int.mul_one]
  rw [h3]
  omega

theorem fee_le_of_weight {rate p' t' w' n' : Int} (hr : 1000 ≤ rate) (ht' : 0 ≤ t') (hw' : 0 ≤ w') (hn' : 0 ≤ n')
    (h : estWeight b p t w n outs cs ≤ estWeight b p' t' w' n' outs cs) :
    feeFor rate (est b p t w n outs cs) ≤ feeFor rate (est b p' t' w' n' outs cs) := by
  have := ten_le_est b outs cs hp ht hw hn
  refine feeFor_mono hr (by omega) ?_
  rw [est_eq_ceil b outs cs ht hw hn, est_eq_ceil b outs cs ht' hw' hn']
  exact ceil4_mono h

theorem cfgFee_eq {cfg : Cfg} (hE : EstOK cfg b) (hF : FeeOK cfg) {rate : Int} (hr : 0 ≤ rate) :
    cfg.feeFor rate (cfg.est p t w n outs cs) = feeFor rate (est b p t w n outs cs) := by
  have := ten_le_est b outs cs hp ht hw hn
  rw [hE.est_eq _ _ _ _ _ _ hp ht hw hn, hF.fee_eq _ _ hr (by omega)]

end

def kcount (k : Kind) : List (Kind × Int) → Int
  | [] => 0
  | (k', _) :: r => (if k' = k then 1 else 0) + kcount k r

/-- Admissible signature length of one input.  `mixed` = the transaction has at least one witness input.
    ECDSA classes: DER length 8…72 (the sighash byte is added by the size model); a P2PKH input inside a transaction
    that also has witness inputs: at most 71 (low-S signatures, the only ones btcec produces and BIP-146 relays; a
    72-byte DER signature needs a high S).  Taproot key spend: 64, or 65 with an explicit sighash byte. -/
def sigOK (mixed : Bool) (x : Kind × Int) : Prop :=
  match x.1 with
  | .p2pkh  => 8 ≤ x.2 ∧ x.2 ≤ (if mixed then 71 else 72)
  | .p2wpkh => 8 ≤ x.2 ∧ x.2 ≤ 72
  | .nested => 8 ≤ x.2 ∧ x.2 ≤ 72
  | .p2tr   => x.2 = 64 ∨ x.2 = 65

def Admissible (ins : List (Kind × Int)) : Prop := ∀ x ∈ ins, sigOK (hasWitness ins) x

instance (m : Bool) (x : Kind × Int) : Decidable (sigOK m x) := by
  unfold sigOK; split <;> infer_instance

instance (ins : List (Kind × Int)) : Decidable (Admissible ins) := by
  unfold Admissible; infer_instance

theorem kcount_nonneg (k : Kind) (ins : List (Kind × Int)) : 0 ≤ kcount k ins := by
  induction ins with
  | nil => simp [kcount]
  | cons x xs ih => obtain ⟨k', s⟩ := x; simp only [kcount]; split <;> omega

theorem kcount_total (ins : List (Kind × Int)) :
    kcount .p2pkh ins + kcount .p2tr ins + kcount .p2wpkh ins + kcount .nested ins = ins.length := by
  induction ins with
  | nil => simp [kcount]
  | cons x xs ih =>
    obtain ⟨k', s⟩ := x
    simp only [kcount, List.length_cons]
    cases k' <;> simp <;> omega

theorem hasWitness_iff (ins : List (Kind × Int)) :
    hasWitness ins = true ↔ 0 < kcount .p2wpkh ins + kcount .nested ins + kcount .p2tr ins := by
  induction ins with
  | nil => simp [hasWitness, kcount]
  | cons x xs ih =>
    obtain ⟨k', s⟩ := x
    have h1 := kcount_nonneg .p2wpkh xs
    have h2 := kcount_nonneg .nested xs
    have h3 := kcount_nonneg .p2tr xs
    simp only [hasWitness, kcount, Bool.or_eq_true, ih]
    cases k' <;> simp <;> omega

/-- Within `sigOK` every push and var-int of an input is a one-byte one, so its non-witness size is linear in the
    signature length. -/
theorem inputBase_eq (m : Bool) (k : Kind) (s : Int) (h : sigOK m (k, s)) :
    inputBase k s = (match k with | .p2pkh => s + 77 | .p2tr => 41 | .p2wpkh => 41 | .nested => 64) := by
  have push : ∀ n : Int, n ≤ 75 → pushSize n = 1 + n := fun n hn => by simp only [pushSize, if_pos hn]
  have vint : ∀ v : Int, 0 ≤ v → v < 253 → varint v = 1 := fun v h0 h1 => by
    simp only [wire_VarIntSerializeSize, if_neg (Int.not_lt.2 h0), if_pos h1]
  cases k <;> simp only [sigOK] at h <;> simp only [inputBase, sigScriptLen]
  · have hs : s ≤ 72 := by split at h <;> omega
    rw [push (s + 1) (by omega), push 33 (by omega), vint _ (by omega) (by omega)]; omega
  · rw [vint 0 (by omega) (by omega)]; omega
  · rw [vint 0 (by omega) (by omega)]; omega
  · rw [push 22 (by omega), vint _ (by omega) (by omega)]; omega

/-- weight of the signed inputs: 4 × non-witness bytes + witness bytes (segwit serialisation only) -/
def inputW (m : Bool) (ins : List (Kind × Int)) : Int :=
  4 * sumInputBase ins + (if m then sumInputWitness ins else 0)

/-- one input is within the worst case assumed by txsizes.  Tight for P2PKH in a segwit transaction: txsizes does not
    count the 1-byte empty witness stack, 4·(71 + 77) + 1 ≤ 596 < 4·(72 + 77) + 1; hence the 71 in `sigOK`. -/
theorem input_le (m : Bool) (k : Kind) (s : Int) (h : sigOK m (k, s)) :
    0 ≤ 4 * inputBase k s + (if m then inputWitness k s else 0) ∧
    4 * inputBase k s + (if m then inputWitness k s else 0) ≤ kindW k := by
  rw [inputBase_eq m k s h]
  cases m <;> cases k <;> simp only [sigOK, inputWitness, kindW, Bool.false_eq_true, ↓reduceIte] at h ⊢ <;> omega

theorem inW_cons (k : Kind) (s : Int) (ins : List (Kind × Int)) :
    inW (kcount .p2pkh ((k, s) :: ins)) (kcount .p2tr ((k, s) :: ins)) (kcount .p2wpkh ((k, s) :: ins))
      (kcount .nested ((k, s) :: ins)) =
    kindW k + inW (kcount .p2pkh ins) (kcount .p2tr ins) (kcount .p2wpkh ins) (kcount .nested ins) := by
  cases k <;> simp [kcount, kindW, inW] <;> omega

theorem inputs_le (m : Bool) (ins : List (Kind × Int)) (h : ∀ x ∈ ins, sigOK m x) :
    0 ≤ inputW m ins ∧
    inputW m ins ≤ inW (kcount .p2pkh ins) (kcount .p2tr ins) (kcount .p2wpkh ins) (kcount .nested ins) := by
  induction ins with
  | nil => cases m <;> decide
  | cons x xs ih =>
    obtain ⟨k, s⟩ := x
    have hx := input_le m k s (h _ List.mem_cons_self)
    have ih' := ih (fun y hy => h y (List.mem_cons_of_mem _ hy))
    rw [inW_cons]
    unfold inputW at ih' ⊢
    simp only [sumInputBase, sumInputWitness]
    cases m <;> simp only [Bool.false_eq_true, ↓reduceIte] at hx ih' ⊢ <;> omega

theorem realWeight_eq (ins : List (Kind × Int)) (outs : List TxOut) :
    realWeight ins outs = 4 * (8 + varint ins.length + (varint outs.length + sumOutSizes outs))
      + inputW (hasWitness ins) ins + (if hasWitness ins then 2 else 0) := by
  unfold realWeight realBaseSize inputW
  cases hasWitness ins <;> simp only [Bool.false_eq_true, ↓reduceIte] <;> omega

theorem ten_le_realVSize (ins : List (Kind × Int)) (outs : List TxOut) (hadm : Admissible ins) :
    10 ≤ realVSize ins outs := by
  have h := (inputs_le _ ins hadm).1
  have h1 := varint_bounds (ins.length : Int)
  have h2 := varint_bounds (outs.length : Int)
  have h3 := sumOutSizes_nonneg outs
  unfold realVSize
  rw [realWeight_eq]
  split <;> omega

section
variable (b : Bool) (ins : List (Kind × Int)) (outs extra : List TxOut) (cs : Int) (hadm : Admissible ins) (hcs : 0 < cs)
  (hextra : extra = [] ∨ ∃ o, extra = [o] ∧ (o.PkScript.len : Int) ≤ cs)
  (hb : b = true ∨ extra = [] ∨ varint (outs.length : Int) = varint ((outs.length : Int) + 1))
-- `outs_le_outsV b outs extra cs hcs hextra hb`; `witFlag_le ins`; `realVSize_le_est b ins outs extra cs hadm hcs hextra hb`
include hcs hextra hb

/-- the output part of the estimate covers the requested outputs plus at most one extra (change) output whose script
    is no longer than the declared change script size.  With the pre-fix estimator (`b = false`) this needs the
    output-count var-int not to grow when the change output is added. -/
theorem outs_le_outsV : varint ((outs ++ extra).length : Int) + sumOutSizes (outs ++ extra) ≤ outsV b outs cs := by
  have hc := varint_bounds cs
  have hm := varint_mono (a := (outs.length : Int)) (b := (outs.length : Int) + 1) (by omega) (by omega)
  rw [sumOutSizes_append]
  unfold outsV
  rw [if_pos hcs]
  rcases hextra with rfl | ⟨o, rfl, ho⟩
  · simp only [List.append_nil, sumOutSizes]
    cases b <;> simp only [hcs, and_true, Bool.false_eq_true, ↓reduceIte] <;> omega
  · have := varint_mono (a := (o.PkScript.len : Int)) (b := cs) (by omega) ho
    simp only [List.length_append, List.length_singleton, sumOutSizes, TxOut.SerializeSize, Int.natCast_add,
      Int.natCast_one]
    rcases hb with rfl | h | h
    · simp only [hcs, and_true, ↓reduceIte]; omega
    · cases h
    · cases b <;> simp only [hcs, and_true, Bool.false_eq_true, ↓reduceIte] <;> omega

omit hcs hextra hb in
theorem witFlag_le :
    (if hasWitness ins then 2 else 0 : Int) ≤ witHdr (kcount .p2wpkh ins + kcount .nested ins + kcount .p2tr ins) := by
  have hw := hasWitness_iff ins
  have hv := varint_bounds (kcount .p2wpkh ins + kcount .nested ins + kcount .p2tr ins)
  unfold witHdr
  cases hh : hasWitness ins <;> simp only [hh, Bool.false_eq_true, false_iff, true_iff, ↓reduceIte] at hw ⊢ <;> omega

include hadm in
/-- The byte-accurate signed virtual size is at most the worst-case estimate (closed form): header, outputs, inputs
    and witness header are compared one by one, as weights. -/
theorem realVSize_le_est :
    realVSize ins (outs ++ extra) ≤
      est b (kcount .p2pkh ins) (kcount .p2tr ins) (kcount .p2wpkh ins) (kcount .nested ins) outs cs := by
  rw [est_eq_ceil b outs cs (kcount_nonneg _ _) (kcount_nonneg _ _) (kcount_nonneg _ _)]
  refine ceil4_mono ?_
  rw [realWeight_eq, estWeight, kcount_total]
  exact Int.add_le_add (Int.add_le_add (Int.mul_le_mul_of_nonneg_left
    (Int.add_le_add_left (outs_le_outsV b outs extra cs hcs hextra hb) _) (by decide))
    (inputs_le _ ins hadm).2) (witFlag_le ins)

include hadm in
/-- `realVSize_le_est` priced by an arithmetic that agrees with the closed forms: the form in which the fee bounds
    (`fee_lower_of_cfg`, `C07_wallet_change_fee_lower`) use it. -/
theorem realFee_le_estFee {cfg : Cfg} (hE : EstOK cfg b) (hF : FeeOK cfg) {rate : Int} (hr : 1000 ≤ rate) :
    cfg.feeFor rate (realVSize ins (outs ++ extra)) ≤ cfg.feeFor rate
      (cfg.est (kcount .p2pkh ins) (kcount .p2tr ins) (kcount .p2wpkh ins) (kcount .nested ins) outs cs) := by
  have hr0 : 0 ≤ rate := by omega
  have h10 := ten_le_realVSize ins (outs ++ extra) hadm
  have h0 : 0 ≤ realVSize ins (outs ++ extra) := by omega
  rw [cfgFee_eq b outs cs (kcount_nonneg _ _) (kcount_nonneg _ _) (kcount_nonneg _ _) (kcount_nonneg _ _) hE hF hr0,
    hF.fee_eq _ _ hr0 h0]
  exact feeFor_mono hr (by omega) (realVSize_le_est b ins outs extra cs hadm hcs hextra hb)

end

theorem kcount_zip (k : Kind) : ∀ (coins : List Coin) (sigs : List Int), sigs.length = coins.length →
    kcount k ((coins.map (fun c => classify c.script)).zip sigs) = count k coins := by
  intro coins
  induction coins with
  | nil => intro sigs _; simp [kcount, count]
  | cons c cs ih =>
    intro sigs h
    cases sigs with
    | nil => simp at h
    | cons s ss =>
      simp only [List.length_cons, Nat.add_right_cancel_iff] at h
      simp only [List.map_cons, List.zip_cons_cons, kcount, count, ih ss h]

/-- `maxRequiredFee` of an iteration that fetched `coins` -/
@[reducible] def maxReq (cfg : Cfg) (rate : Int) (outs : List TxOut) (cs : ChangeSource) (coins : List Coin) : Int :=
  cfg.feeFor rate (cfg.est (count .p2pkh coins) (count .p2tr coins) (count .p2wpkh coins) (count .nested coins)
    outs cs.scriptSize)

/-- fee required when ALL offered coins are used -/
@[reducible] def feeAll (b : Bool) (rate : Int) (outs : List TxOut) (cs : ChangeSource) (coins : List Coin) : Int :=
  feeFor rate (est b (count .p2pkh coins) (count .p2tr coins) (count .p2wpkh coins) (count .nested coins) outs
    cs.scriptSize)

/-- what the last iteration returns: the fetched coins, the requested outputs, and the change output `⟨amt, script⟩`
    unless it is zero or dust -/
def settle (cfg : Cfg) (outs : List TxOut) (f : Fetch) (amt : Int) (script : Script) : Result :=
  if amt ≠ 0 ∧ ¬ (cfg.isDust ⟨amt, script⟩ = true) then ⟨f.coins, f.total, outs ++ [⟨amt, script⟩], some outs.length⟩
  else ⟨f.coins, f.total, outs, none⟩

/-- The input source reports the sum of the values it hands out (true of both wallet sources). -/
structure SrcSound {σ : Type} (src : Source σ) (Inv : σ → Prop) : Prop where
  step : ∀ s t, Inv s → Inv (src.fetch s t).1
  total_eq : ∀ s t s' f, Inv s → src.fetch s t = (s', some f) → f.total = sumCoins f.coins

/-- What a successful run establishes: the result is `settle` of its own inputs, which cover outputs and required fee,
    with the change amount that is left. -/
def Facts (cfg : Cfg) (outs : List TxOut) (rate : Int) (cs : ChangeSource) (r : Result) : Prop :=
  ∃ coins script, cs.script = some script ∧ maxReq cfg rate outs cs coins ≤ sumCoins coins - sumOuts outs ∧
    r = settle cfg outs ⟨sumCoins coins, coins⟩ (sumCoins coins - sumOuts outs - maxReq cfg rate outs cs coins) script

theorem loop_ok {σ : Type} {cfg : Cfg} {src : Source σ} {Inv : σ → Prop} (hS : SumOK cfg) (hsrc : SrcSound src Inv)
    (outs : List TxOut) (rate : Int) (cs : ChangeSource) (r : Result) :
    ∀ (fuel : Nat) (s : σ) (tf : Int) (tr : List Int), Inv s →
    (loop cfg src outs rate cs fuel s tf tr).1 = .ok r → Facts cfg outs rate cs r := by
  intro fuel
  induction fuel with
  | zero => intro s tf tr _ h; simp [loop] at h
  | succ n ih =>
    intro s tf tr hinv h
    simp only [loop] at h
    split at h
    · simp at h
    · rename_i s' f hf
      split at h
      · simp at h
      · split at h
        · have := hsrc.step s (cfg.sumValues outs + tf) hinv
          rw [hf] at this
          exact ih _ _ _ this h
        · split at h
          · simp at h
          · rename_i script hs
            obtain ⟨total, coins⟩ := f
            obtain rfl : total = sumCoins coins := hsrc.total_eq _ _ _ _ hinv hf
            simp only [hS.sum_eq outs] at *
            refine ⟨coins, script, hs, by simp only [maxReq]; omega, ?_⟩
            unfold settle
            split at h <;> rename_i hc
            · rw [if_pos hc]; exact (Outcome.ok.inj h).symm
            · rw [if_neg hc]; exact (Outcome.ok.inj h).symm

theorem Facts.fee {cfg : Cfg} {outs : List TxOut} {rate : Int} {cs : ChangeSource} {r : Result} (h : Facts cfg outs rate cs r) :
    (r.changeIdx ≠ none → r.fee = maxReq cfg rate outs cs r.inputs) ∧
    (r.changeIdx = none → r.fee = sumCoins r.inputs - sumOuts outs) ∧
    maxReq cfg rate outs cs r.inputs ≤ r.fee := by
  obtain ⟨coins, script, _, hle, rfl⟩ := h
  unfold settle
  split <;> simp only [Result.fee, sumOuts_append, sumOuts, ne_eq, not_true_eq_false, reduceCtorEq,
    not_false_eq_true, false_imp_iff, true_imp_iff, true_and] <;> omega

theorem Facts.total_eq {cfg : Cfg} {outs : List TxOut} {rate : Int} {cs : ChangeSource} {r : Result} (h : Facts cfg outs rate cs r) :
    r.total = sumCoins r.inputs := by
  obtain ⟨coins, script, _, _, rfl⟩ := h
  unfold settle
  split <;> rfl

theorem Facts.outs {cfg : Cfg} {outs : List TxOut} {rate : Int} {cs : ChangeSource} {r : Result} (h : Facts cfg outs rate cs r)
    (hcsl : ∀ sc, cs.script = some sc → (sc.len : Int) ≤ cs.scriptSize) :
    ∃ extra, r.outs = outs ++ extra ∧ (extra = [] ∨ ∃ o, extra = [o] ∧ (o.PkScript.len : Int) ≤ cs.scriptSize) ∧
      (r.changeIdx = none → extra = []) := by
  obtain ⟨coins, script, hs, _, rfl⟩ := h
  unfold settle
  split
  · exact ⟨_, rfl, .inr ⟨_, rfl, hcsl _ hs⟩, (nomatch ·)⟩
  · exact ⟨[], (List.append_nil _).symm, .inl rfl, fun _ => rfl⟩

theorem maxReq_eq {cfg : Cfg} {b : Bool} (hE : EstOK cfg b) (hF : FeeOK cfg) {rate : Int} (hr : 0 ≤ rate)
    {outs : List TxOut} {cs : ChangeSource} (coins : List Coin) :
    maxReq cfg rate outs cs coins = feeAll b rate outs cs coins :=
  cfgFee_eq b outs _ (count_nonneg _ _) (count_nonneg _ _) (count_nonneg _ _) (count_nonneg _ _) hE hF hr

/-- **fee ≥ rate × real signed size** for an arithmetic whose estimator is the closed form `est b`. -/
theorem fee_lower_of_cfg {cfg : Cfg} {b : Bool} {outs : List TxOut} {rate : Int} {cs : ChangeSource} {r : Result}
    (hE : EstOK cfg b) (hF : FeeOK cfg) (hfacts : Facts cfg outs rate cs r)
    (hr : 1000 ≤ rate) (hcs0 : 0 < cs.scriptSize)
    (hcsl : ∀ sc, cs.script = some sc → (sc.len : Int) ≤ cs.scriptSize)
    (sigs : List Int) (hlen : sigs.length = r.inputs.length) (hadm : Admissible (signedInputs r sigs))
    (hb : b = true ∨ r.changeIdx = none ∨
      varint (outs.length : Int) = varint ((outs.length : Int) + 1)) :
    cfg.feeFor rate (realVSize (signedInputs r sigs) r.outs) ≤ r.fee := by
  obtain ⟨extra, ho, hex, hnone⟩ := hfacts.outs hcsl
  have h := realFee_le_estFee b (signedInputs r sigs) outs extra cs.scriptSize hadm hcs0 hex
    (hb.imp_right (Or.imp_left hnone)) hE hF hr
  have hk : ∀ k, kcount k (signedInputs r sigs) = count k r.inputs := fun k => kcount_zip k _ _ hlen
  rw [hk, hk, hk, hk, ← ho] at h
  exact Int.le_trans h hfacts.fee.2.2

theorem dustThreshold_eq (o : TxOut) : mempool_GetDustThreshold o = dustThreshold o.PkScript := by
  unfold mempool_GetDustThreshold dustThreshold TxOut.SerializeSize
  have : Int.tdiv 107 4 = 26 := by decide
  rw [this]

theorem dustThreshold_pos (s : Script) : 0 < dustThreshold s := by
  have := varint_bounds (s.len : Int)
  unfold dustThreshold; split <;> omega

theorem isDust_iff {o : TxOut} (hn : o.PkScript.isNullData = false) (hu : o.PkScript.isUnspendable = false)
    (hv : 0 ≤ o.Value) : isDust o = true ↔ o.Value < dustThreshold o.PkScript := by
  have hp := dustThreshold_pos o.PkScript
  unfold isDust mempool_IsDust
  rw [hn, hu, dustThreshold_eq]
  simp only [Bool.false_eq_true, ↓reduceIte, decide_eq_true_eq]
  rw [Int.tdiv_eq_ediv_of_nonneg (by omega), Int.ediv_lt_iff_lt_mul hp]
  omega

theorem isDust_nullData {o : TxOut} (hn : o.PkScript.isNullData = true) : isDust o = false := by
  unfold isDust; rw [hn]; simp

/-- **fee ≤ required fee for the worst-case estimate + one dust threshold of the change script** -/
theorem fee_upper_of_cfg {cfg : Cfg} {outs : List TxOut} {rate : Int} {cs : ChangeSource} {r : Result}
    (hD : DustOK cfg) (hfacts : Facts cfg outs rate cs r)
    (hsp : ∀ sc, cs.script = some sc → sc.isNullData = true ∨ sc.isUnspendable = false) :
    ∃ sc, cs.script = some sc ∧ r.fee ≤ maxReq cfg rate outs cs r.inputs + dustThreshold sc ∧
      (r.changeIdx ≠ none → r.fee = maxReq cfg rate outs cs r.inputs) := by
  have hfee := hfacts.fee
  obtain ⟨coins, script, hs, hle, rfl⟩ := hfacts
  have hp := dustThreshold_pos script
  refine ⟨script, hs, ?_, hfee.1⟩
  unfold settle at hfee ⊢
  split
  · have := hfee.1 (by rw [if_pos ‹_›]; simp); rw [if_pos ‹_›] at this; simp only [] at this ⊢; omega
  · rename_i hc
    rw [if_neg hc] at hfee
    have hf := hfee.2.1 rfl
    simp only [] at hf ⊢
    by_cases hz : sumCoins coins - sumOuts outs - maxReq cfg rate outs cs coins = 0
    · omega
    · have hd : isDust ⟨sumCoins coins - sumOuts outs - maxReq cfg rate outs cs coins, script⟩ = true := by
        rw [← hD.dust_eq]; exact Classical.byContradiction fun h => hc ⟨hz, h⟩
      rcases hsp _ hs with hn | hu
      · rw [isDust_nullData (by simpa using hn)] at hd; cases hd
      · cases hn : script.isNullData
        · have := (isDust_iff (o := ⟨_, script⟩) hn hu (by simp only []; omega)).1 hd
          simp only [] at this
          omega
        · rw [isDust_nullData (by simpa using hn)] at hd; cases hd

/-- **the change output, when there is one, is positive and not dust** -/
theorem no_dust_of_cfg {cfg : Cfg} {outs : List TxOut} {rate : Int} {cs : ChangeSource} {r : Result}
    (hD : DustOK cfg) (hfacts : Facts cfg outs rate cs r) (i : Nat) (hi : r.changeIdx = some i) :
    ∃ c, i = outs.length ∧ r.outs = outs ++ [c] ∧ cs.script = some c.PkScript ∧ 0 < c.Value ∧ isDust c = false ∧
      (c.PkScript.isNullData = false → c.PkScript.isUnspendable = false → dustThreshold c.PkScript ≤ c.Value) := by
  obtain ⟨coins, script, hs, hle, rfl⟩ := hfacts
  unfold settle at hi ⊢
  split at hi
  · rename_i hc
    rw [if_pos hc]
    have hd : isDust ⟨sumCoins coins - sumOuts outs - maxReq cfg rate outs cs coins, script⟩ = false := by
      rw [← hD.dust_eq]; simpa using hc.2
    refine ⟨_, (Option.some.inj hi).symm, rfl, hs, by have := hc.1; simp only []; omega, hd, fun hn hu => ?_⟩
    simp only [] at hn hu ⊢
    have h := isDust_iff (o := ⟨sumCoins coins - sumOuts outs - maxReq cfg rate outs cs coins, script⟩) hn hu
      (by simp only []; omega)
    exact Int.not_lt.mp fun hlt => by rw [h.2 hlt] at hd; cases hd
  · cases hi

theorem fill_inv (target : Int) : ∀ (rest : List Coin) (total : Int) (taken : List Coin),
    (fill target total taken rest).taken ++ (fill target total taken rest).rest = taken ++ rest ∧
    (fill target total taken rest).total - sumCoins (fill target total taken rest).taken = total - sumCoins taken ∧
    (target ≤ (fill target total taken rest).total ∨ (fill target total taken rest).rest = []) ∧
    (fill target total taken rest).rest.length ≤ rest.length ∧
    (total < target → rest ≠ [] → (fill target total taken rest).rest.length < rest.length) := by
  intro rest
  induction rest with
  | nil => intro total taken; simp [fill]
  | cons c cs ih =>
    intro total taken
    simp only [fill]
    split
    · rename_i hlt
      obtain ⟨h1, h2, h3, h4, _⟩ := ih (total + c.value) (taken ++ [c])
      refine ⟨by rw [h1]; simp, ?_, h3, by simp; omega, fun _ _ => by simp; omega⟩
      rw [h2, sumCoins_append]; simp [sumCoins]; omega
    · rename_i hge
      refine ⟨rfl, rfl, Or.inl (by simp only []; omega), Nat.le_refl _, fun h => by omega⟩

structure PInv (coins : List Coin) (s : PState) : Prop where
  split : s.taken ++ s.rest = coins
  total : s.total = sumCoins s.taken

theorem pinv_init (coins : List Coin) : PInv coins (prefixInit coins) := ⟨by simp [prefixInit], by simp [prefixInit, sumCoins]⟩

theorem pinv_fill {coins : List Coin} {s : PState} (hI : PInv coins s) (t : Int) :
    PInv coins (fill t s.total s.taken s.rest) := by
  obtain ⟨h1, h2, _, _, _⟩ := fill_inv t s.rest s.total s.taken
  exact ⟨by rw [h1, hI.split], by have := hI.total; omega⟩

theorem prefixSource_sound (coins : List Coin) : SrcSound prefixSource (PInv coins) := by
  constructor
  · intro s t h
    exact pinv_fill h t
  · intro s t s' f hI h
    simp only [prefixSource, Prod.mk.injEq, Option.some.injEq] at h
    obtain ⟨_, h⟩ := h
    subst h
    exact (pinv_fill hI t).total

theorem constSource_sound : SrcSound constSource (fun _ => True) := by
  constructor
  · intro s t _; trivial
  · intro s t s' f _ h
    simp only [constSource, Prod.mk.injEq, Option.some.injEq] at h
    obtain ⟨_, h⟩ := h
    subst h
    rfl

theorem feeAll_append (b : Bool) {rate : Int} (hr : 1000 ≤ rate) (outs : List TxOut) (cs : ChangeSource)
    (taken rest : List Coin) : feeAll b rate outs cs taken ≤ feeAll b rate outs cs (taken ++ rest) := by
  have hP := count_nonneg .p2pkh taken
  have hT := count_nonneg .p2tr taken
  have hW := count_nonneg .p2wpkh taken
  have hN := count_nonneg .nested taken
  have hP' := count_nonneg .p2pkh rest
  have hT' := count_nonneg .p2tr rest
  have hW' := count_nonneg .p2wpkh rest
  have hN' := count_nonneg .nested rest
  simp only [feeAll, count_append]
  exact fee_le_of_weight b outs _ hP hT hW hN hr (by omega) (by omega) (by omega)
    (estWeight_mono b outs _ hP hT hW hN (by omega) (by omega) (by omega) (by omega))

/-- A round that starts below its target takes a coin or ends the loop, and a round that goes on ends below the next
    target: `#unused coins + 1` rounds suffice from a state below its target, one more from any state. -/
theorem loop_terminates (cfg : Cfg) (outs : List TxOut) (rate : Int) (cs : ChangeSource) :
    ∀ (fuel : Nat) (s : PState) (tf : Int) (tr : List Int),
      s.rest.length + (if s.total < cfg.sumValues outs + tf then 1 else 2) ≤ fuel →
      (loop cfg prefixSource outs rate cs fuel s tf tr).1 ≠ .fuel := by
  intro fuel
  induction fuel with
  | zero => intro s tf tr h; split at h <;> omega
  | succ n ih =>
    intro s tf tr hfuel
    obtain ⟨_, _, _, hle, hdec⟩ := fill_inv (cfg.sumValues outs + tf) s.rest s.total s.taken
    simp only [loop, prefixSource]
    split
    · simp
    · split
      · rename_i hge hcont
        apply ih
        rw [if_pos (by omega)]
        split at hfuel
        · next hlt =>
          by_cases hr : s.rest = []
          · rw [hr] at hge; simp [fill] at hge; omega
          · have := hdec hlt hr; omega
        · omega
      · split
        · simp
        · split <;> simp

/-- An input source that offers `coins`: every fetch hands out a prefix of them, reports its true total, and stops
    short of the target only when nothing is left. -/
structure Offers {σ : Type} (src : Source σ) (Inv : σ → Prop) (coins : List Coin) : Prop where
  fetch_ok : ∀ s t, Inv s → ∃ s' f rest, src.fetch s t = (s', some f) ∧ Inv s' ∧ f.coins ++ rest = coins ∧
    f.total = sumCoins f.coins ∧ (f.total < t → rest = [])

theorem loop_insufficient_offers {σ : Type} {src : Source σ} {Inv : σ → Prop} {coins : List Coin}
    (hoff : Offers src Inv coins) {cfg : Cfg} {b : Bool} (hE : EstOK cfg b) (hF : FeeOK cfg) (hS : SumOK cfg)
    {rate : Int} (hr : 1000 ≤ rate) (outs : List TxOut) (cs : ChangeSource) :
    ∀ (fuel : Nat) (s : σ) (tf : Int) (tr : List Int), Inv s →
      tf ≤ feeAll b rate outs cs coins →
      (loop cfg src outs rate cs fuel s tf tr).1 = .err .insufficient →
      sumCoins coins < sumOuts outs + feeAll b rate outs cs coins := by
  intro fuel
  induction fuel with
  | zero => intro s tf tr _ _ h; simp [loop] at h
  | succ n ih =>
    intro s tf tr hI htf h
    obtain ⟨s', f, rest, hf, hI', hsplit, htot, hstop⟩ := hoff.fetch_ok s (cfg.sumValues outs + tf) hI
    simp only [loop, hf] at h
    split at h
    · rename_i hlt
      have hnil := hstop hlt
      rw [hnil, List.append_nil] at hsplit
      rw [hsplit] at htot
      have hsum := hS.sum_eq outs
      omega
    · split at h
      · apply ih _ _ _ hI' _ h
        exact Int.le_trans (Int.le_of_eq (maxReq_eq hE hF (by omega) f.coins))
          (hsplit ▸ feeAll_append b hr outs cs f.coins rest)
      · split at h
        · simp at h
        · split at h <;> simp at h

theorem constSource_offers (coins : List Coin) : Offers constSource (fun s => s = coins) coins := by
  constructor
  intro s t hs
  subst hs
  exact ⟨s, ⟨sumCoins s, s⟩, [], rfl, rfl, by simp, rfl, fun _ => rfl⟩

theorem prefixSource_offers (coins : List Coin) : Offers prefixSource (PInv coins) coins := by
  constructor
  intro s t hI
  obtain ⟨_, _, hstop, _, _⟩ := fill_inv t s.rest s.total s.taken
  have hI' := pinv_fill hI t
  refine ⟨_, _, (fill t s.total s.taken s.rest).rest, rfl, hI', hI'.split, hI'.total, ?_⟩
  intro hlt
  rcases hstop with h | h
  · simp only [] at hlt; omega
  · exact h

/-- **insufficient funds from the wallet's source ⇒ all offered coins together do not cover outputs + required fee**,
    provided the first target fee (made before any input is known) does not exceed the fee for all coins. -/
theorem insufficient_of_first_le {cfg : Cfg} {b : Bool} (hE : EstOK cfg b) (hF : FeeOK cfg) (hS : SumOK cfg)
    {rate : Int} (hr : 1000 ≤ rate) (outs : List TxOut) (cs : ChangeSource) (coins : List Coin) (fuel : Nat)
    (hfirst : cfg.feeFor rate (cfg.est cfg.init.1 cfg.init.2.1 cfg.init.2.2.1 cfg.init.2.2.2 outs cs.scriptSize) ≤
      feeAll b rate outs cs coins)
    (h : (newUnsignedWith cfg prefixSource (prefixInit coins) outs rate cs fuel).1 = .err .insufficient) :
    sumCoins coins < sumOuts outs + feeAll b rate outs cs coins :=
  loop_insufficient_offers (prefixSource_offers coins) hE hF hS hr outs cs fuel _ _ _ (pinv_init coins) hfirst h

theorem feeAll_pos (b : Bool) {rate : Int} (hr : 1000 ≤ rate) (outs : List TxOut) (cs : ChangeSource)
    (coins : List Coin) : 0 < feeAll b rate outs cs coins := by
  have := ten_le_est b outs cs.scriptSize (count_nonneg .p2pkh coins) (count_nonneg .p2tr coins)
    (count_nonneg .p2wpkh coins) (count_nonneg .nested coins)
  exact feeFor_pos (by omega) (by omega)

/-- first target fee ≤ fee for all coins, for any first estimate that weighs no more than the estimate for all coins -/
theorem first_le_of_weight {cfg : Cfg} {b : Bool} (hE : EstOK cfg b) (hF : FeeOK cfg) {rate : Int} (hr : 1000 ≤ rate)
    (outs : List TxOut) (cs : ChangeSource) (coins : List Coin)
    {p t w n : Int} (hinit : cfg.init = (p, t, w, n)) (hp : 0 ≤ p) (ht : 0 ≤ t) (hw : 0 ≤ w) (hn : 0 ≤ n)
    (h : estWeight b p t w n outs cs.scriptSize ≤ estWeight b (count .p2pkh coins) (count .p2tr coins)
      (count .p2wpkh coins) (count .nested coins) outs cs.scriptSize) :
    cfg.feeFor rate (cfg.est cfg.init.1 cfg.init.2.1 cfg.init.2.2.1 cfg.init.2.2.2 outs cs.scriptSize) ≤
      feeAll b rate outs cs coins := by
  rw [hinit, cfgFee_eq b outs _ hp ht hw hn hE hF (by omega)]
  exact fee_le_of_weight b outs _ hp ht hw hn hr (count_nonneg _ _) (count_nonneg _ _) (count_nonneg _ _) h

/-- the same when the first estimate assumes one P2WPKH input (the code before fix-C07-F5), EXCEPT when the offered
    coins are exactly one P2TR coin -/
theorem first_le_feeAll_p2wpkh {cfg : Cfg} {b : Bool} (hE : EstOK cfg b) (hF : FeeOK cfg) {rate : Int}
    (hr : 1000 ≤ rate) (outs : List TxOut) (cs : ChangeSource) (coins : List Coin) (hne : coins ≠ [])
    (hinit : cfg.init = (0, 0, 1, 0))
    (hx : ¬ (coins.length = 1 ∧ count .p2tr coins = 1)) :
    cfg.feeFor rate (cfg.est cfg.init.1 cfg.init.2.1 cfg.init.2.2.1 cfg.init.2.2.2 outs cs.scriptSize) ≤
      feeAll b rate outs cs coins := by
  have htot := count_total coins
  have hlen : 1 ≤ (coins.length : Int) := by
    cases coins with
    | nil => exact absurd rfl hne
    | cons c cs => simp only [List.length_cons]; omega
  exact first_le_of_weight hE hF hr outs cs coins hinit (by decide) (by decide) (by decide) (by decide)
    (estWeight_p2wpkh_le b outs _ (count_nonneg _ _) (count_nonneg _ _) (count_nonneg _ _) (count_nonneg _ _)
      (by omega) fun ⟨h1, h2, h3, h4⟩ => hx ⟨by omega, h1⟩)

/-- The generated code sums with a left fold onto an accumulator, the specification by recursion (`sumOuts`,
    `sumOutSizes`, given here by their two equations): the fold is the start value plus the sum. -/
theorem foldl_add_eq_sum {α : Type} (f : α → Int) (S : List α → Int) (h0 : S [] = 0)
    (hc : ∀ x xs, S (x :: xs) = f x + S xs) (l : List α) (a : Int) :
    l.foldl (fun acc o => acc + f o) a = a + S l := by
  induction l generalizing a with
  | nil => rw [List.foldl_nil, h0, Int.add_zero]
  | cons x xs ih => rw [List.foldl_cons, ih, hc, Int.add_assoc]

end AuthorSpec
