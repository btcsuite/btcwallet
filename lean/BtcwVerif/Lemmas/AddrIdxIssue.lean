import BtcwVerif.Lemmas.AddrInvStep
/-!
Issued indices over whole histories (C03): the exact effect of `nextAddresses` / `extendAddresses` on counters, rows and heap,
and `IdxInv` through a step that issues (`Issued.idx`, `IssueOutcome.idx`); every other step `Keeps` it.
-/
set_option linter.unusedSectionVars false
namespace AddrDerive
open AddrSym
variable {K P : Type} [DecidableEq K] [DecidableEq P]

theorem branchValid_eq (hd : HD K P) (ai : AcctInfo K P) (b : Nat) : branchValid hd ai b = validAt hd ai.keyPub b := rfl

section
variable {hd : HD K P} {s s' : State K P} {sc : Scope} {acct : Nat} {sm : ScopeMem K P}
  {sd : ScopeDisk K P} {ai : AcctInfo K P}

theorem setNext_setNext (row : AcctRow K P) (int : Bool) (x y : Nat) : setNext (setNext row int x) int y = setNext row int y := by
  cases row <;> cases int <;> rfl
theorem setNext_self (row : AcctRow K P) (int : Bool) : setNext row int (rowNext row int) = row := by
  cases row <;> cases int <;> rfl
theorem rowNext_setNext (row : AcctRow K P) (int : Bool) (x : Nat) (int' : Bool) :
    rowNext (setNext row int x) int' = if int' = int then x else rowNext row int' := by
  cases row <;> cases int <;> cases int' <;> rfl
theorem rowPub_setNext (row : AcctRow K P) (int : Bool) (x : Nat) : rowPub (setNext row int x) = rowPub row := by
  cases row <;> cases int <;> rfl

theorem issueAll_rows (sc : Scope) (toDou : Bool) (a b : Nat) : ∀ (objs : List (KeyObj K P)) (s : State K P) (rows : List Row)
    (idxs : List Nat) (sm : ScopeMem K P) (sd : ScopeDisk K P) (row : AcctRow K P),
    getSM s sc = some sm → getSD s sc = some sd → alookup sd.accts a = some row → (∀ o ∈ objs, o.acct = a ∧ o.branch = b) →
    (issueAll sc toDou objs s rows idxs).1.mem.heap = s.mem.heap ++ objs.map Obj.key ∧
    (∀ sc' a', ¬(sc' = sc ∧ a' = a) → acctRow (issueAll sc toDou objs s rows idxs).1 sc' a' = acctRow s sc' a') ∧
    acctRow (issueAll sc toDou objs s rows idxs).1 sc a =
      some (setNext row (b == 1) (getLast (objs.map (·.index)) (rowNext row (b == 1)))) ∧
    (∀ sc' a', cacheAt (issueAll sc toDou objs s rows idxs).1 sc' a' = cacheAt s sc' a') ∧
    (∃ sm', getSM (issueAll sc toDou objs s rows idxs).1 sc = some sm') := by
  intro objs
  induction objs with
  | nil =>
    intro s rows idxs sm sd row hsm hsd hrow _
    refine ⟨(List.append_nil _).symm, fun _ _ _ => rfl, ?_, fun _ _ => rfl, sm, hsm⟩
    rw [List.map_nil, getLast, setNext_self]; exact (acctRow_of_getSD hsd a).trans hrow
  | cons o rest ih =>
    intro s rows idxs sm sd row hsm hsd hrow hobjs
    obtain ⟨rfl, rfl⟩ := hobjs o List.mem_cons_self
    obtain ⟨v1, v2, v3, sm', sd', hsm', hsd', hrow'⟩ := issueOne_views (toDou := toDou) hsm hsd hrow
    rw [issueAll_cons hsm hsd]
    obtain ⟨i1, i2, i3, i4, i5⟩ := ih _ _ _ sm' sd' _ hsm' hsd' hrow' (fun o' ho' => hobjs o' (List.mem_cons_of_mem _ ho'))
    refine ⟨by rw [i1, v1, List.append_assoc]; rfl, fun sc' a' hne => ?_, ?_, fun sc' a' => (i4 sc' a').trans (v3 sc' a'), i5⟩
    · rw [i2 sc' a' hne, v2, if_neg (fun x => hne ⟨x.1.symm, x.2.symm⟩)]
    · rw [i3, setNext_setNext, rowNext_setNext, if_pos rfl, List.map_cons, getLast_cons]

theorem mkAll_index (hd : HD K P) (sc : Scope) (acct : Nat) (ai : AcctInfo K P) (usePriv : Bool) (b : Nat) (typ : AddrType)
    (ac fp : Nat) : ∀ (idxs : List Nat) (objs : List (KeyObj K P)), mkAll hd sc acct ai usePriv b typ ac fp idxs = some objs →
      objs.map (·.index) = idxs ∧ ∀ o ∈ objs, o.scope = sc ∧ o.acct = acct ∧ o.branch = b := by
  intro idxs
  induction idxs with
  | nil => intro objs h; simp [mkAll] at h; subst h; exact ⟨rfl, fun o ho => by cases ho⟩
  | cons i t ih =>
    intro objs h
    unfold mkAll at h
    split at h
    · rename_i o os ho hos
      cases h
      obtain ⟨e1, e2⟩ := ih os hos
      have hf : o.index = i ∧ o.scope = sc ∧ o.acct = acct ∧ o.branch = b := by
        unfold mkChained at ho
        cases usePriv with
        | true =>
          simp only [if_true] at ho
          cases hk : ai.keyPriv with
          | none => simp [hk] at ho
          | some ak =>
            simp only [hk] at ho
            cases hd2 : derive2 hd ak b i with
            | none => simp [hd2] at ho
            | some k => simp [hd2] at ho; subst ho; exact ⟨rfl, rfl, rfl, rfl⟩
        | false =>
          simp at ho
          obtain ⟨p, _, rfl⟩ := ho
          exact ⟨rfl, rfl, rfl, rfl⟩
      refine ⟨by simp [hf.1, e1], fun o' ho' => ?_⟩
      rcases List.mem_cons.mp ho' with rfl | ho'
      · exact hf.2
      · exact e2 o' ho'
    · cases h

theorem commitIssue_rows (h : Inv hd s)
    (hc : cacheAt s sc acct = some ai) (internal toDou : Bool) (objs : List (KeyObj K P)) (nn : Nat)
    (hobjs : ∀ o ∈ objs, o.acct = acct ∧ o.branch = branchOf internal) :
    ∃ row, acctRow s sc acct = some row ∧
    (commitIssue s sc acct internal toDou objs nn).1.mem.heap = s.mem.heap ++ objs.map Obj.key ∧
    (∀ sc' a', ¬(sc' = sc ∧ a' = acct) → acctRow (commitIssue s sc acct internal toDou objs nn).1 sc' a' = acctRow s sc' a') ∧
    acctRow (commitIssue s sc acct internal toDou objs nn).1 sc acct =
      some (setNext row internal (getLast (objs.map (·.index)) (rowNext row internal))) ∧
    ∀ sc' a', cacheAt (commitIssue s sc acct internal toDou objs nn).1 sc' a' =
      if sc = sc' ∧ acct = a' then some (if internal then { ai with nextInt := nn } else { ai with nextExt := nn })
      else cacheAt s sc' a' := by
  obtain ⟨row, hr, _⟩ := h.cache sc acct ai hc
  obtain ⟨sm, hsm, _⟩ := Option.bind_eq_some_iff.mp hc
  obtain ⟨sd, hsd, hrow⟩ := Option.bind_eq_some_iff.mp hr
  have hb1 : (branchOf internal == 1) = internal := by cases internal <;> rfl
  obtain ⟨i1, i2, i3, i4, sm', i5⟩ := issueAll_rows sc toDou acct (branchOf internal) objs s [] [] sm sd row hsm hsd
    hrow hobjs
  rw [hb1] at i3
  refine ⟨row, hr, ?_⟩
  unfold commitIssue
  rcases hi : issueAll sc toDou objs s [] [] with ⟨s1, rows, idxs⟩
  rw [hi] at i1 i2 i3 i4 i5
  simp only at i1 i2 i3 i4 i5 ⊢
  have hc1 : alookup sm'.acctInfo acct = some ai := by rw [← cacheAt_of_getSM i5, i4]; exact hc
  simp only [i5, hc1]
  exact ⟨i1, i2, i3, fun sc' a' => by rw [cacheAt_putSM_upd i5 _ (fun _ => alookup_aset ..), i4]⟩


theorem IsValidRun.append {valid : Nat → Bool} {a b c : Nat} {l1 l2 : List Nat} (h1 : IsValidRun valid a b l1)
    (h2 : IsValidRun valid b c l2) (hab : a ≤ b) (hbc : b ≤ c) : IsValidRun valid a c (l1 ++ l2) := by
  refine ⟨?_, ?_, ?_⟩
  · rw [List.pairwise_append]
    refine ⟨h1.1, h2.1, fun x hx y hy => ?_⟩
    have := (h1.2.1 x hx).2.1
    have := (h2.2.1 y hy).1
    omega
  · intro i hi
    rcases List.mem_append.mp hi with hi | hi
    · have := h1.2.1 i hi; exact ⟨this.1, by omega, this.2.2⟩
    · have := h2.2.1 i hi; exact ⟨by omega, this.2.1, this.2.2⟩
  · intro j hj1 hj2 hv
    rcases Nat.lt_or_ge j b with hlt | hge
    · exact List.mem_append_left _ (h1.2.2 j hj1 hlt hv)
    · exact List.mem_append_right _ (h2.2.2 j hge hj2 hv)

theorem branchOf_inj (x y : Bool) (h : branchOf x = branchOf y) : x = y := by cases x <;> cases y <;> simp [branchOf] at h ⊢

theorem idxOf_append (l1 l2 : List (KeyObj K P)) (sc : Scope) (a b : Nat) : idxOf (l1 ++ l2) sc a b = idxOf l1 sc a b ++ idxOf l2 sc a b := by
  simp [idxOf, List.filter_append]

theorem idxOf_all (l : List (KeyObj K P)) (sc : Scope) (a b : Nat) (h : ∀ o ∈ l, o.scope = sc ∧ o.acct = a ∧ o.branch = b) :
    idxOf l sc a b = l.map (·.index) := by
  unfold idxOf
  rw [List.filter_eq_self.mpr]
  intro o ho
  simpa using h o ho

theorem idxOf_none (l : List (KeyObj K P)) (sc sc' : Scope) (a a' b b' : Nat) (h : ∀ o ∈ l, o.scope = sc ∧ o.acct = a ∧ o.branch = b)
    (hne : ¬(sc' = sc ∧ a' = a ∧ b' = b)) : idxOf l sc' a' b' = [] := by
  unfold idxOf
  rw [List.filter_eq_nil_iff.mpr]
  · rfl
  · intro o ho
    obtain ⟨h1, h2, h3⟩ := h o ho
    simp only [decide_eq_true_eq]
    intro ⟨e1, e2, e3⟩
    exact hne ⟨by rw [← e1, h1], by rw [← e2, h2], by rw [← e3, h3]⟩

/-- The core of the index strand: `objs`, all of one scope / account / branch, are appended to the log while that branch's
    counter goes from its old value to `nn` in row and cache alike.  Their indices are the valid run from the old counter to `nn`
    (`hrun`), so with the run below the old counter (`x.run`) they are the run below `nn` (`IsValidRun.append`); every other
    account and the other branch see neither a new object nor a changed counter. -/
theorem IdxInv.issue {hd : HD K P} {s1 s2 : State K P} {log : List (KeyObj K P)} (h1 : Inv hd s1) (x : IdxInv hd s1 log)
    {sc : Scope} {acct : Nat} {ai : AcctInfo K P} (hc : cacheAt s1 sc acct = some ai) (internal : Bool)
    (objs : List (KeyObj K P)) (nn : Nat)
    (hobjs : ∀ o ∈ objs, o.scope = sc ∧ o.acct = acct ∧ o.branch = branchOf internal)
    (hrun : IsValidRun (validAt hd ai.keyPub (branchOf internal)) (if internal then ai.nextInt else ai.nextExt) nn (objs.map (·.index)))
    (hle : (if internal then ai.nextInt else ai.nextExt) ≤ nn)
    {row : AcctRow K P} (hr : acctRow s1 sc acct = some row)
    (hrows : ∀ sc' a', ¬(sc' = sc ∧ a' = acct) → acctRow s2 sc' a' = acctRow s1 sc' a')
    (hrow : acctRow s2 sc acct = some (setNext row internal nn))
    (hcache : ∀ sc' a', cacheAt s2 sc' a' =
      if sc = sc' ∧ acct = a' then some (if internal then { ai with nextInt := nn } else { ai with nextExt := nn })
      else cacheAt s1 sc' a') :
    IdxInv hd s2 (log ++ objs) := by
  obtain ⟨row', hr', hcok⟩ := h1.cache sc acct ai hc
  rw [hr] at hr'; cases hr'
  have hn0 := x.next sc acct ai row hc hr
  have hnext0 : (if internal then ai.nextInt else ai.nextExt) = rowNext row internal := by
    cases internal
    · simp [hn0.1]
    · simp [hn0.2]
  refine ⟨?_, ?_, ?_⟩
  · intro sc' a' ai' r' hc' hr''
    by_cases hm : sc' = sc ∧ a' = acct
    · obtain ⟨e1, e2⟩ := hm; subst e1 e2
      rw [hcache, if_pos ⟨rfl, rfl⟩] at hc'; rw [hrow] at hr''
      cases hc'; cases hr''
      cases internal
      · simp [rowNext_setNext, hn0.2]
      · simp [rowNext_setNext, hn0.1]
    · rw [hcache, if_neg fun x => hm ⟨x.1.symm, x.2.symm⟩] at hc'; rw [hrows _ _ hm] at hr''
      exact x.next sc' a' ai' r' hc' hr''
  · intro sc' a' r' hr'' int'
    rw [idxOf_append]
    by_cases hm : sc' = sc ∧ a' = acct
    · obtain ⟨e1, e2⟩ := hm; subst e1 e2
      rw [hrow] at hr''; cases hr''
      rw [rowPub_setNext, rowNext_setNext]
      by_cases hint : int' = internal
      · subst hint
        simp only [if_true]
        rw [idxOf_all objs sc' a' _ hobjs]
        have hold := x.run sc' a' row hr int'
        rw [hnext0, hcok.pub] at hrun
        exact hold.append hrun (Nat.zero_le _) (by rw [← hnext0]; exact hle)
      · simp only [hint, if_false]
        rw [idxOf_none objs sc' sc' a' a' _ _ hobjs (by intro ⟨_, _, e⟩; exact hint (branchOf_inj _ _ e)), List.append_nil]
        exact x.run sc' a' row hr int'
    · rw [hrows _ _ hm] at hr''
      rw [idxOf_none objs sc sc' acct a' _ _ hobjs (by intro ⟨e1, e2, _⟩; exact hm ⟨e1, e2⟩), List.append_nil]
      exact x.run sc' a' r' hr'' int'
  · intro o ho
    rcases List.mem_append.mp ho with ho | ho
    · obtain ⟨k1, k2⟩ := x.known o ho
      refine ⟨?_, k2⟩
      by_cases hm : o.scope = sc ∧ o.acct = acct
      · rw [hm.1, hm.2, hrow]; rfl
      · rw [hrows _ _ hm]; exact k1
    · obtain ⟨e1, e2, e3⟩ := hobjs o ho
      refine ⟨by rw [e1, e2, hrow]; rfl, ?_⟩
      rw [e3]; cases internal <;> simp [branchOf]

/-- key objects a step allocates -/
def newObjs (s s' : State K P) : List (KeyObj K P) :=
  (s'.mem.heap.drop s.mem.heap.length).filterMap fun o => match o with | .key k => some k | .scr _ => none

theorem newObjs_same {s s' : State K P} (h : s'.mem.heap = s.mem.heap) : newObjs s s' = [] := by
  simp [newObjs, h]

theorem newObjs_keys {s s' : State K P} (objs : List (KeyObj K P)) (h : s'.mem.heap = s.mem.heap ++ objs.map Obj.key) :
    newObjs s s' = objs := by
  simp only [newObjs, h, List.drop_left, List.filterMap_map]
  clear h
  induction objs with
  | nil => rfl
  | cons o t ih => simp [ih]

theorem bindAll_views (l : List Nat) (hb : Nat) (s : State K P) : (bindAll l hb s).mem.heap = s.mem.heap ∧
    (∀ sc a, acctRow (bindAll l hb s) sc a = acctRow s sc a) ∧ (∀ sc a, cacheAt (bindAll l hb s) sc a = cacheAt s sc a) := by
  obtain ⟨hs, e⟩ := bindAll_eq l hb s
  rw [e]; exact ⟨rfl, fun _ _ => rfl, fun _ _ => rfl⟩

/-- the issuing tail shared by `nextAddresses` and `extendAddresses` -/
theorem IdxInv.commit {hd : HD K P} {s s1 : State K P} {log : List (KeyObj K P)} (h1 : Inv hd s1) (x1 : IdxInv hd s1 log)
    (hheap : s1.mem.heap = s.mem.heap) {sc : Scope} {acct : Nat} {ai : AcctInfo K P} (hc : cacheAt s1 sc acct = some ai)
    (internal toDou : Bool) {usePriv : Bool} {typ : AddrType} {ac fp : Nat} {idxs : List Nat} {objs : List (KeyObj K P)}
    (hm : mkAll hd sc acct ai usePriv (branchOf internal) typ ac fp idxs = some objs)
    (hrun : IsValidRun (validAt hd ai.keyPub (branchOf internal)) (if internal then ai.nextInt else ai.nextExt)
      (getLast idxs (if internal then ai.nextInt else ai.nextExt)) idxs)
    (hle : (if internal then ai.nextInt else ai.nextExt) ≤ getLast idxs (if internal then ai.nextInt else ai.nextExt))
    (s3 : State K P)
    (h3 : s3.mem.heap = (commitIssue s1 sc acct internal toDou objs (getLast idxs (if internal then ai.nextInt else ai.nextExt))).1.mem.heap ∧
      (∀ sc' a', acctRow s3 sc' a' = acctRow (commitIssue s1 sc acct internal toDou objs (getLast idxs (if internal then ai.nextInt else ai.nextExt))).1 sc' a') ∧
      (∀ sc' a', cacheAt s3 sc' a' = cacheAt (commitIssue s1 sc acct internal toDou objs (getLast idxs (if internal then ai.nextInt else ai.nextExt))).1 sc' a')) :
    IdxInv hd s3 (log ++ newObjs s s3) := by
  obtain ⟨hidx, hobjs⟩ := mkAll_index hd sc acct ai usePriv (branchOf internal) typ ac fp idxs objs hm
  obtain ⟨row, hr, c1, c2, c3, c4⟩ := commitIssue_rows h1 hc internal toDou objs
    (getLast idxs (if internal then ai.nextInt else ai.nextExt)) (fun o ho => ⟨(hobjs o ho).2.1, (hobjs o ho).2.2⟩)
  have hn0 := x1.next sc acct ai row hc hr
  have hnext0 : (if internal then ai.nextInt else ai.nextExt) = rowNext row internal := by
    cases internal
    · simp [hn0.1]
    · simp [hn0.2]
  rw [hidx, ← hnext0] at c3
  have hnew : newObjs s s3 = objs := newObjs_keys objs (by rw [h3.1, c1, hheap])
  rw [hnew]
  exact x1.issue h1 hc internal objs _ hobjs (by rw [hidx]; exact hrun) hle hr
    (fun sc' a' hne => by rw [h3.2.1, c2 sc' a' hne]) (by rw [h3.2.1, c3])
    (fun sc' a' => by rw [h3.2.2, c4])


theorem Issued.heap (h : Inv hd s) {internal : Bool}
    {objs : List (KeyObj K P)} (y : Issued hd s sc acct internal s' objs) : s'.mem.heap = s.mem.heap ++ objs.map Obj.key := by
  obtain ⟨s1, ai, idxs, typ, ac, fp, l, hb, hl, hm, _, _, rfl⟩ := y
  obtain ⟨x1, hc, hf, _⟩ := loadAcct_spec h hl
  obtain ⟨_, hobjs⟩ := mkAll_index _ _ _ _ _ _ _ _ _ _ _ hm
  obtain ⟨row, hr, c1, _⟩ := commitIssue_rows x1.inv hc internal (s1.mem.locked && !(s1.mem.watchOnly || ai.keyEnc.isNone)) objs
    (getLast idxs (if internal then ai.nextInt else ai.nextExt)) (fun o ho => (hobjs o ho).2)
  rw [(bindAll_views _ _ _).1, c1, hf.heap]

theorem Issued.idx {log : List (KeyObj K P)} (h : Inv hd s) (x : IdxInv hd s log)
    {internal : Bool} {objs : List (KeyObj K P)} (y : Issued hd s sc acct internal s' objs) :
    IdxInv hd s' (log ++ objs) := by
  have hh := y.heap h
  obtain ⟨s1, ai, idxs, typ, ac, fp, l, hb, hl, hm, hrun, hle, rfl⟩ := y
  obtain ⟨x1, hc, hf, _⟩ := loadAcct_spec h hl
  have key := (x1.keeps.idx log x).commit (s := s) x1.inv hf.heap hc internal
    (s1.mem.locked && !(s1.mem.watchOnly || ai.keyEnc.isNone)) hm hrun hle _ (bindAll_views l hb _)
  rwa [newObjs_keys objs hh] at key

theorem IssueOutcome.idx {log : List (KeyObj K P)} (h : Inv hd s) (x : IdxInv hd s log)
    {internal : Bool} {r : State K P × Res K × List Row} (y : IssueOutcome hd s sc acct internal r) :
    IdxInv hd r.1 (log ++ newObjs s r.1) := by
  rcases y with ⟨q, hh, _⟩ | ⟨objs, y, _⟩
  · rw [newObjs_same hh, List.append_nil]; exact q.keeps.idx log x
  · rw [newObjs_keys objs (y.heap h)]; exact y.idx h x

end

end AddrDerive
