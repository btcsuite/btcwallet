import BtcwVerif.Lemmas.RefAbandon
/-!
# Refinement: "remove every unconfirmed spender of these outpoints" (the loop shared by `removeDoubleSpends` and the
coinbase clean-up of `rollback`) removes exactly those spenders and their unconfirmed descendants
-/
namespace TxStore
open Ledger

/-- invariant of the loops: `P` collects the removed transactions -/
structure SInv (L : Ledger) (R : Nat → Prop) (b : Store) (P : Nat → Bool) : Prop where
  good : Good b (minus L P (fun _ => false))
  closed : ∀ v ∈ L.pool, ∀ i ∈ v.ins, P i.hash = true → P v.hash = true
  sound : ∀ h, P h = true → ∃ r, R r ∧ Desc L.pool r h

theorem good_removeSpenders {s : Store} {L : Ledger} (hg : Good s L) (skip : Nat → Bool)
    (hskip : ∀ v ∈ L.pool, skip v.hash = false) (ops : List OutPoint) :
    ∃ s' P, ops.foldlM (dsOuter skip) s = .ok s' ∧ Good s' (minus L P (fun _ => false)) ∧
      (∀ h, P h = true ↔ ∃ v ∈ L.pool, (∃ op ∈ ops, op ∈ v.ins) ∧ Desc L.pool v.hash h) := by
  have hl := hg.lwf
  obtain ⟨rk, hrk⟩ := hl.rank
  -- loop over the outpoints, with the set of outpoints generalised
  have loop : ∀ (todo : List OutPoint) (b : Store) (P : Nat → Bool) (R : Nat → Prop),
      (∀ op ∈ todo, ∀ v ∈ L.pool, op ∈ v.ins → R v.hash) → SInv L R b P →
      ∃ b' P', todo.foldlM (dsOuter skip) b = .ok b' ∧ SInv L R b' P' ∧ (∀ h, P h = true → P' h = true) ∧
        (∀ op ∈ todo, ∀ v ∈ L.pool, op ∈ v.ins → P' v.hash = true) := by
    intro todo
    induction todo with
    | nil => intro b P R _ hi; exact ⟨b, P, rfl, hi, fun _ h => h, fun _ h => nomatch h⟩
    | cons op rest ih =>
      intro b P R hR hi
      obtain ⟨b1, P1, h1, h2, h3, h4, h5, h6⟩ := remove_loop hl (Q := fun _ => false) (C := fun v => R v.hash)
        (S := fun h => ∃ r, R r ∧ Desc L.pool r h)
        (fun b P v hg hv _ => good_removeConflict rk (fuelOf b) b _ v hg (RankOK.minus hrk _ _) hv (above_lt_fuel hg rk _))
        (fun v _ hC h hd => ⟨_, hC, hd⟩) (dsInner skip) (spendHashes b op)
        (fun h hh => by
          obtain ⟨v, hv, h1, rfl⟩ := mem_poolSpenders.mp ((hi.good.ref.uinputs _ _).mp hh)
          have hvL := (mem_pool_minus.mp hv).1
          exact ⟨fun b => by rw [dsInner, hskip v hvL]; rfl, v, hvL, rfl, hR op List.mem_cons_self v hvL h1⟩)
        b P hi.good hi.closed hi.sound
      obtain ⟨b', P', h7, h8, h9, h10⟩ := ih b1 P1 R (fun op' hop' => hR op' (List.mem_cons_of_mem _ hop')) ⟨h2, h3, h4⟩
      refine ⟨b', P', by rw [List.foldlM_cons, show dsOuter skip b op = .ok b1 from h1, bind_ok]; exact h7, h8,
        fun h hh => h9 h (h5 h hh), List.forall_mem_cons.mpr ⟨fun v hv hin => h9 _ ?_, h10⟩⟩
      cases hp : P v.hash with
      | true => exact h5 _ hp
      | false =>
        apply h6
        rw [hi.good.ref.uinputs, mem_poolSpenders]
        exact ⟨v, mem_pool_minus.mpr ⟨hv, hp⟩, hin, rfl⟩
  have hi0 : SInv L (fun r => ∃ v ∈ L.pool, v.hash = r ∧ ∃ op ∈ ops, op ∈ v.ins) s (fun _ => false) := by
    refine ⟨?_, fun _ _ _ _ hh => absurd hh Bool.false_ne_true, fun _ hh => absurd hh Bool.false_ne_true⟩
    rw [minus_eq_self L fun _ => rfl]
    exact hg
  obtain ⟨s', P, h1, h2, _, h4⟩ := loop ops s _ _ (fun op hop v hv hin => ⟨v, hv, rfl, op, hop, hin⟩) hi0
  refine ⟨s', P, h1, h2.good, fun h => ⟨fun hp => ?_, ?_⟩⟩
  · obtain ⟨r, ⟨v, hv, rfl, hops⟩, hd⟩ := h2.sound h hp
    exact ⟨v, hv, hops, hd⟩
  · rintro ⟨v, hv, ⟨op, hop, hin⟩, hd⟩
    exact hd.closed h2.closed (h4 op hop v hv hin)

end TxStore
