import BtcwVerif.Model.Publish
import BtcwVerif.Lemmas.Util
/-!
Lemmas about `Model/Publish.lean`, in three parts.  `closure` (= `doomed`) is the descendant set `Desc` (`doomed_iff`);
the literal depth-first `removeConflictDFS` removes the same set (`fold_inv`, `removeConflictDFS_eq_closure`);
`Publish.dependencySort` returns every record once, parents first (`dependencySort_spec`).  `closure` and `sortLoop` both
run a sweep `|U|` times: what they reach follows from `loop_keeps`, `loop_reaches` and one measure, the records still `outside`.

Names: the model is namespace `Publish`, this file and `Props/C20.lean` are `C20`.  `Publish.dependencySort` is a
layer-by-layer stand-in for `wtxmgr.DependencySort`, enough for C20 (order of re-broadcast); the function as written is
`Kahn.dependencySort` (C14).  The two models, their `sortLoop`, `Acyclic`, `Closed` and `dependencySort_spec` are not
connected; a change of kahnsort.go goes into `Model/Kahn.lean`.
-/
namespace C20
open Publish

/-- `Desc U id x`: `x` is `id` or an unconfirmed transaction of `U` spending (transitively) an output of `id`
— "the transaction and every unconfirmed transaction spending its outputs". -/
inductive Desc (U : List UTx) (id : Nat) : Nat → Prop
  | self : Desc U id id
  | step {p : Nat} {u : UTx} : Desc U id p → u ∈ U → u.spends p = true → Desc U id u.id

def outside (U : List UTx) (R : List Nat) : List UTx := U.filter fun u => !R.contains u.id

theorem mem_outside {U : List UTx} {R : List Nat} {u : UTx} : u ∈ outside U R ↔ u ∈ U ∧ u.id ∉ R := by
  simp only [outside, List.mem_filter, List.contains_eq_mem, Bool.not_eq_true', decide_eq_false_iff_not]

theorem outside_congr {U : List UTx} {R R' : List Nat} (h : ∀ u ∈ U, u.id ∈ R ↔ u.id ∈ R') :
    outside U R = outside U R' :=
  List.filter_congr fun u hu => by simp only [List.contains_eq_mem, h u hu]

theorem outside_outside (U : List UTx) (R R' : List Nat) : outside (outside U R) R' = outside U (R ++ R') := by
  simp only [outside, List.filter_filter, List.contains_append, Bool.not_or, Bool.and_comm]

theorem outside_lt {U : List UTx} {R R' : List Nat} (hsub : ∀ x ∈ R, x ∈ R') {u : UTx} (hu : u ∈ U)
    (h : u.id ∉ R) (h' : u.id ∈ R') : (outside U R').length < (outside U R).length := by
  refine filter_length_lt_of_imp _ _ U (fun v _ hv => ?_) ⟨u, hu, by simpa using h, by simpa using h'⟩
  simp only [Bool.not_eq_true', List.contains_eq_mem, decide_eq_false_iff_not] at hv ⊢
  exact fun hR => hv (hsub _ hR)

theorem spends_iff {u : UTx} {p : Nat} : u.spends p = true ↔ ∃ i ∈ u.ins, i.1 = p := by
  simp only [UTx.spends, List.any_eq_true, beq_iff_eq]

theorem mem_closeStep {U : List UTx} {R : List Nat} {x : Nat} :
    x ∈ closeStep U R ↔ x ∈ R ∨ ∃ u ∈ U, u.id = x ∧ u.id ∉ R ∧ ∃ p ∈ R, u.spends p = true := by
  simp only [closeStep, List.mem_append, List.mem_map, List.mem_filter, Bool.and_eq_true, Bool.not_eq_true',
    List.any_eq_true, List.contains_eq_mem, decide_eq_false_iff_not, decide_eq_true_eq, spends_iff]
  constructor
  · rintro (h | ⟨u, ⟨hu, hnot, i, hi, hiR⟩, rfl⟩)
    · exact .inl h
    · exact .inr ⟨u, hu, rfl, hnot, i.1, hiR, i, hi, rfl⟩
  · rintro (h | ⟨u, hu, rfl, hnot, p, hp, i, hi, rfl⟩)
    · exact .inl h
    · exact .inr ⟨u, ⟨hu, hnot, i, hi, hp⟩, rfl⟩

theorem closeStep_sound {U : List UTx} {id : Nat} {R : List Nat} (h : ∀ x ∈ R, Desc U id x) :
    ∀ x ∈ closeStep U R, Desc U id x := by
  intro x hx
  rcases mem_closeStep.mp hx with h' | ⟨u, hu, rfl, _, p, hp, hsp⟩
  · exact h x h'
  · exact Desc.step (h p hp) hu hsp

def Closed (U : List UTx) (R : List Nat) : Prop :=
  ∀ u ∈ U, ∀ p ∈ R, u.spends p = true → u.id ∈ R

theorem closed_complete {U : List UTx} {id : Nat} {R : List Nat} (hc : Closed U R) (hid : id ∈ R) :
    ∀ x, Desc U id x → x ∈ R := by
  intro x hx
  induction hx with
  | self => exact hid
  | step _ hu hsp ih => exact hc _ hu _ ih hsp

theorem closeStep_of_closed {U : List UTx} {R : List Nat} (h : Closed U R) : closeStep U R = R := by
  have : (U.filter fun u => !R.contains u.id && u.ins.any (fun i => R.contains i.1)) = [] := by
    refine List.filter_eq_nil_iff.mpr fun u hu hp => ?_
    simp only [Bool.and_eq_true, Bool.not_eq_true', List.any_eq_true, List.contains_eq_mem, decide_eq_false_iff_not,
      decide_eq_true_eq] at hp
    obtain ⟨hnot, i, hi, hiR⟩ := hp
    exact hnot (h u hu i.1 hiR (spends_iff.mpr ⟨i, hi, rfl⟩))
  rw [closeStep, this, List.map_nil, List.append_nil]

theorem closure_closed {U : List UTx} (n : Nat) (R : List Nat) (h : (outside U R).length ≤ n) :
    Closed U (closure U n R) := by
  refine loop_reaches (loop := closure U) (P := Closed U) (fun _ => rfl) (fun _ _ => rfl) (fun R => (outside U R).length)
    (fun R hc => (closeStep_of_closed hc).symm ▸ hc) (fun R hn => ?_) n R h
  simp only [Closed, Classical.not_forall] at hn
  obtain ⟨u, hu, p, hp, hsp, hnot⟩ := hn
  exact outside_lt (fun x hx => mem_closeStep.mpr (.inl hx)) hu hnot
    (mem_closeStep.mpr (.inr ⟨u, hu, rfl, hnot, p, hp, hsp⟩))

/-- **`removeConflict` removes exactly the transaction and its unconfirmed spend chain.** -/
theorem doomed_iff (s : Store) (id x : Nat) : x ∈ doomed s id ↔ Desc s.unmined id x := by
  constructor
  · refine loop_keeps (loop := closure s.unmined) (I := fun R => ∀ x ∈ R, Desc s.unmined id x) (fun _ => rfl)
      (fun _ _ => rfl) (fun _ => closeStep_sound) _ [id] (fun y hy => ?_) x
    rw [List.mem_singleton.mp hy]
    exact Desc.self
  · have hid : id ∈ doomed s id :=
      loop_keeps (loop := closure s.unmined) (I := fun R => id ∈ R) (fun _ => rfl) (fun _ _ => rfl)
        (fun _ h => mem_closeStep.mpr (.inl h)) _ [id] (List.mem_singleton.mpr rfl)
    exact closed_complete (closure_closed _ [id] (List.length_filter_le _ _)) hid x

def removeIds (s : Store) (R : List Nat) : Store := { s with unmined := outside s.unmined R }

theorem removeWithDescendants_eq (s : Store) (id : Nat) : removeWithDescendants s id = removeIds s (doomed s id) := rfl

theorem mem_removeWithDescendants (s : Store) (id : Nat) (u : UTx) :
    u ∈ (removeWithDescendants s id).unmined ↔ u ∈ s.unmined ∧ ¬ Desc s.unmined id u.id := by
  rw [← doomed_iff]
  exact mem_outside

/-- every spend edge of a recorded transaction points to an id of lower rank (ids are hashes of contents that
include the spent ids) -/
def Ranked (rank : Nat → Nat) (U : List UTx) : Prop := ∀ u ∈ U, ∀ x, u.spends x = true → rank x < rank u.id

/-- the number of records ranked above `id` bounds the depth of the recursion below `id` -/
def above (rank : Nat → Nat) (U : List UTx) (id : Nat) : Nat := (U.filter fun u => decide (rank id < rank u.id)).length

theorem desc_mono {U U' : List UTx} (h : ∀ u ∈ U', u ∈ U) {a x : Nat} (hd : Desc U' a x) : Desc U a x := by
  induction hd with
  | self => exact Desc.self
  | step _ hu hsp ih => exact Desc.step ih (h _ hu) hsp

theorem desc_trans {U : List UTx} {a b x : Nat} (hab : Desc U a b) (hbx : Desc U b x) : Desc U a x := by
  induction hbx with
  | self => exact hab
  | step _ hu hsp ih => exact Desc.step ih hu hsp

theorem removeIds_nil (s : Store) : removeIds s [] = s :=
  congrArg (Store.mk s.minedIds) (List.filter_eq_self.mpr fun _ _ => rfl)

theorem removeWithDescendants_removeIds (s : Store) (R : List Nat) (c : Nat) :
    removeWithDescendants (removeIds s R) c = removeIds s (R ++ doomed (removeIds s R) c) :=
  congrArg (Store.mk s.minedIds) (outside_outside ..)

theorem above_lt {rank : Nat → Nat} {U : List UTx} (R : List Nat) {id : Nat} {c : UTx}
    (hc : c ∈ U) (hrk : rank id < rank c.id) : above rank (outside U R) c.id < above rank U id := by
  unfold above outside
  rw [List.filter_filter]
  refine filter_length_lt_of_imp _ _ U (fun u _ hu => ?_) ⟨c, hc, by simpa using hrk, by simp⟩
  simp only [Bool.and_eq_true, decide_eq_true_eq] at hu ⊢
  exact Nat.lt_trans hrk hu.1

/-- The inner loop of `removeConflictDFS fuel s id` over the spenders `C` of `id`, started when the ids `R` are already
    removed: it ends in `removeIds s R'` for a set `R'` that is still sound (only descendants of `id`) and closed, contains
    `R` and the id of every spender in `C`.  `IH`: the recursive calls at this `fuel` are right on every smaller store. -/
theorem fold_inv (rank : Nat → Nat) (fuel : Nat) (s : Store) (id : Nat)
    (IH : ∀ (s' : Store) (c : Nat), Ranked rank s'.unmined → above rank s'.unmined c + 1 ≤ fuel →
      removeConflictDFS fuel s' c = removeWithDescendants s' c)
    (hR : Ranked rank s.unmined) (hfuel : above rank s.unmined id ≤ fuel) :
    ∀ (C : List UTx) (R : List Nat), (∀ c ∈ C, c ∈ s.unmined ∧ c.spends id = true) →
      (∀ x ∈ R, Desc s.unmined id x) → Closed s.unmined R →
      ∃ R', C.foldl (fun s sp => if s.has sp.id then removeConflictDFS fuel s sp.id else s) (removeIds s R) = removeIds s R' ∧
        (∀ x ∈ R', Desc s.unmined id x) ∧ Closed s.unmined R' ∧ (∀ x ∈ R, x ∈ R') ∧ ∀ c ∈ C, c.id ∈ R' := by
  intro C
  induction C with
  | nil => exact fun R _ hs hc => ⟨R, rfl, hs, hc, fun _ h => h, nofun⟩
  | cons c cs ih =>
    intro R hC hs hcl
    obtain ⟨hcU, hcsp⟩ := hC c List.mem_cons_self
    have hCs : ∀ c' ∈ cs, c' ∈ s.unmined ∧ c'.spends id = true := fun c' h => hC c' (List.mem_cons_of_mem _ h)
    rw [List.foldl_cons]
    by_cases hcR : c.id ∈ R
    · -- already removed by an earlier branch
      have hhas : (removeIds s R).has c.id = false := by
        simp only [Store.has, List.any_eq_false, beq_iff_eq]
        exact fun u hu h => (mem_outside.mp hu).2 (h ▸ hcR)
      rw [hhas, if_neg Bool.false_ne_true]
      obtain ⟨R', h1, h2, h3, h4, h5⟩ := ih R hCs hs hcl
      exact ⟨R', h1, h2, h3, h4, List.forall_mem_cons.mpr ⟨h4 _ hcR, h5⟩⟩
    · -- recurse into c: this removes what is left of the descendants of c
      have hhas : (removeIds s R).has c.id = true :=
        List.any_eq_true.mpr ⟨c, mem_outside.mpr ⟨hcU, hcR⟩, beq_self_eq_true _⟩
      have hfu : above rank (removeIds s R).unmined c.id + 1 ≤ fuel :=
        Nat.le_trans (above_lt R hcU (hR c hcU id hcsp)) hfuel
      rw [hhas, if_pos rfl, IH _ _ (fun u hu => hR u (mem_outside.mp hu).1) hfu, removeWithDescendants_removeIds]
      have hs' : ∀ x ∈ R ++ doomed (removeIds s R) c.id, Desc s.unmined id x := by
        intro x hx
        rcases List.mem_append.mp hx with h | h
        · exact hs x h
        · exact desc_trans (Desc.step Desc.self hcU hcsp)
            (desc_mono (fun u hu => (mem_outside.mp hu).1) ((doomed_iff _ _ _).mp h))
      have hcl' : Closed s.unmined (R ++ doomed (removeIds s R) c.id) := by
        intro u hu x hx hsp
        by_cases huR : u.id ∈ R
        · exact List.mem_append_left _ huR
        · rcases List.mem_append.mp hx with h | h
          · exact absurd (hcl u hu x h hsp) huR
          · exact List.mem_append_right _ ((doomed_iff _ _ _).mpr
              (Desc.step ((doomed_iff _ _ _).mp h) (mem_outside.mpr ⟨hu, huR⟩) hsp))
      obtain ⟨R', h1, h2, h3, h4, h5⟩ := ih _ hCs hs' hcl'
      exact ⟨R', h1, h2, h3, fun x hx => h4 x (List.mem_append_left _ hx), List.forall_mem_cons.mpr
        ⟨h4 _ (List.mem_append_right _ ((doomed_iff _ _ _).mpr Desc.self)), h5⟩⟩

/-- **The literal depth-first `removeConflict` removes exactly the descendant closure** (so every theorem about
`removeWithDescendants` is a theorem about the transcription of the Go function). -/
theorem removeConflictDFS_eq_closure (rank : Nat → Nat) : ∀ (fuel : Nat) (s : Store) (id : Nat), Ranked rank s.unmined →
    above rank s.unmined id + 1 ≤ fuel → removeConflictDFS fuel s id = removeWithDescendants s id := by
  intro fuel
  induction fuel with
  | zero => intro s id _ h; omega
  | succ fuel IH =>
    intro s id hR hfuel
    obtain ⟨R, h1, hs, hcl, _, hch⟩ := fold_inv rank fuel s id IH hR (by omega) (s.unmined.filter (·.spends id)) []
      (fun c hc => List.mem_filter.mp hc) nofun nofun
    rw [removeIds_nil] at h1
    -- `id :: R` is closed, because `R` holds every spender of `id`: it is the whole descendant closure
    have hcl' : Closed s.unmined (id :: R) := fun u hu p hp hsp =>
      List.mem_cons_of_mem _ ((List.mem_cons.mp hp).elim (fun h => hch u (List.mem_filter.mpr ⟨hu, h ▸ hsp⟩))
        (fun h => hcl u hu p h hsp))
    have hiff : ∀ u ∈ s.unmined, u.id ∈ id :: R ↔ u.id ∈ doomed s id := fun u _ =>
      ⟨fun h => (doomed_iff ..).mpr ((List.mem_cons.mp h).elim (fun h => h ▸ Desc.self) (hs _)),
       fun h => closed_complete hcl' List.mem_cons_self _ ((doomed_iff ..).mp h)⟩
    rw [removeWithDescendants_eq, removeIds, ← outside_congr hiff]
    simp only [removeConflictDFS, h1, removeIds, outside, List.filter_filter, List.contains_cons, Bool.not_or, bne]

theorem has_iff {s : Store} {id : Nat} : s.has id = true ↔ id ∈ s.unmined.map (·.id) := by
  simp only [Store.has, List.any_eq_true, beq_iff_eq, List.mem_map]

theorem insert_of_has {s : Store} {tx : UTx} (h : s.has tx.id = true) : Publish.insert s tx = s := by
  rw [Publish.insert, h, Bool.or_true, if_pos rfl]

theorem insert_of_new {s : Store} {tx : UTx} (hm : tx.id ∉ s.minedIds) (h : s.has tx.id = false) :
    Publish.insert s tx = { s with unmined := s.unmined ++ [tx] } := by
  rw [Publish.insert, h, List.contains_eq_mem, decide_eq_false hm, Bool.or_false, if_neg Bool.false_ne_true]

theorem insert_minedIds (s : Store) (tx : UTx) : (Publish.insert s tx).minedIds = s.minedIds := by
  unfold Publish.insert; split <;> rfl

/-- the dependency graph of unconfirmed transactions has no cycle (a transaction's id is the hash of its content,
which includes the ids of the transactions it spends) -/
def Acyclic (U : List UTx) : Prop :=
  ∃ rank : Nat → Nat, ∀ u ∈ U, ∀ p ∈ U, u.spends p.id = true → rank p.id < rank u.id

def ids (l : List UTx) : List Nat := l.map (·.id)

theorem eq_of_id_eq {l : List UTx} (hn : (ids l).Nodup) {a b : UTx} (ha : a ∈ l) (hb : b ∈ l) (hab : a.id = b.id) :
    a = b :=
  List.Nodup.inj_of_map (f := UTx.id) hn ha hb hab

theorem ids_sortStep (U out : List UTx) : ids (sortStep U out) =
    ids out ++ ids (U.filter fun u => !(ids out).contains u.id && ready U (ids out) u) :=
  List.map_append

theorem mem_sortStep {U out : List UTx} {u : UTx} :
    u ∈ sortStep U out ↔ u ∈ out ∨ u ∈ U ∧ u.id ∉ ids out ∧ ready U (ids out) u = true := by
  simp only [sortStep, ids, List.mem_append, List.mem_filter, Bool.and_eq_true, Bool.not_eq_true',
    List.contains_eq_mem, decide_eq_false_iff_not]

theorem ready_iff {U : List UTx} {done : List Nat} {u : UTx} :
    ready U done u = true ↔ ∀ p ∈ U, u.spends p.id = true → p.id ∈ done := by
  simp only [ready, List.all_eq_true, Bool.or_eq_true, Bool.not_eq_true', List.contains_eq_mem, decide_eq_true_eq,
    List.any_eq_false, beq_iff_eq]
  constructor
  · intro h p hp hsp
    obtain ⟨i, hi, hip⟩ := spends_iff.mp hsp
    exact (h i hi).elim (hip ▸ ·) (fun hn => absurd hip.symm (hn p hp))
  · intro h i hi
    by_cases hex : ∃ p ∈ U, p.id = i.1
    · obtain ⟨p, hp, hpi⟩ := hex
      exact .inl (hpi ▸ h p hp (spends_iff.mpr ⟨i, hi, hpi.symm⟩))
    · exact .inr fun p hp hpi => hex ⟨p, hp, hpi⟩

def ParentsFirst (U out : List UTx) : Prop :=
  ∀ pre u post, out = pre ++ u :: post → ∀ p ∈ U, u.spends p.id = true → p.id ∈ ids pre

theorem parentsFirst_step {U out : List UTx} (h : ParentsFirst U out) : ParentsFirst U (sortStep U out) := by
  intro pre u post heq p hp hsp
  -- a record of the new layer has its parents in `out`, which lies before it
  have hnew : ∀ {l r}, U.filter (fun u => !(ids out).contains u.id && ready U (ids out) u) = l ++ u :: r →
      p.id ∈ ids out := fun hl => by
    have hu := (List.mem_filter.mp (hl ▸ List.mem_append_right _ List.mem_cons_self)).2
    exact ready_iff.mp (Bool.and_eq_true_iff.mp hu).2 p hp hsp
  rcases List.append_eq_append_iff.mp heq with ⟨as, rfl, hl⟩ | ⟨bs, hout, hpost⟩
  · exact List.mem_map.mpr ((List.mem_map.mp (hnew hl)).imp fun _ hx => ⟨List.mem_append_left _ hx.1, hx.2⟩)
  · cases bs with
    | nil => rw [List.append_nil] at hout; exact hout ▸ hnew (l := []) hpost.symm
    | cons b bs =>
      obtain ⟨rfl, -⟩ := List.cons_eq_cons.mp hpost
      exact h pre u bs hout p hp hsp

def Good (U out : List UTx) : Prop := (∀ u ∈ out, u ∈ U) ∧ (ids out).Nodup

theorem good_step {U out : List UTx} (hU : (ids U).Nodup) (h : Good U out) : Good U (sortStep U out) := by
  refine ⟨fun u hu => (mem_sortStep.mp hu).elim (h.1 u) (·.1), ?_⟩
  rw [ids_sortStep]
  refine List.nodup_append.mpr ⟨h.2, hU.sublist (List.filter_sublist.map _), ?_⟩
  rintro a ha _ hb rfl
  obtain ⟨u, hu, rfl⟩ := List.mem_map.mp hb
  have := (Bool.and_eq_true_iff.mp (List.mem_filter.mp hu).2).1
  simp only [List.contains_eq_mem, Bool.not_eq_true', decide_eq_false_iff_not] at this
  exact this ha

theorem exists_min_rank {α : Type} (rank : α → Nat) (l : List α) (h : l ≠ []) :
    ∃ m ∈ l, ∀ x ∈ l, rank m ≤ rank x := by
  induction l with
  | nil => exact absurd rfl h
  | cons a as ih =>
    by_cases has : as = []
    · subst has
      exact ⟨a, List.mem_cons_self, fun x hx => List.mem_singleton.mp hx ▸ Nat.le_refl _⟩
    · obtain ⟨m, hm, hmin⟩ := ih has
      by_cases hle : rank a ≤ rank m
      · exact ⟨a, List.mem_cons_self,
          List.forall_mem_cons.mpr ⟨Nat.le_refl _, fun x hx => Nat.le_trans hle (hmin x hx)⟩⟩
      · exact ⟨m, List.mem_cons_of_mem _ hm,
          List.forall_mem_cons.mpr ⟨Nat.le_of_lt (Nat.lt_of_not_le hle), hmin⟩⟩

/-- progress: a not yet emitted transaction of lowest rank has all its unconfirmed parents emitted -/
theorem sortLoop_all {U : List UTx} (hac : Acyclic U) (n : Nat) (out : List UTx)
    (h : (outside U (ids out)).length ≤ n) : ∀ u ∈ U, u.id ∈ ids (sortLoop U n out) := by
  obtain ⟨rank, hrank⟩ := hac
  have hsub : ∀ out x, x ∈ ids out → x ∈ ids (sortStep U out) := fun out x hx =>
    ids_sortStep U out ▸ List.mem_append_left _ hx
  refine loop_reaches (loop := sortLoop U) (P := fun out => ∀ u ∈ U, u.id ∈ ids out) (fun _ => rfl) (fun _ _ => rfl)
    (fun out => (outside U (ids out)).length) (fun out hall u hu => hsub out _ (hall u hu)) (fun out hn => ?_) n out h
  have hne : outside U (ids out) ≠ [] := fun h0 => hn fun u hu =>
    Classical.byContradiction fun hu' => List.not_mem_nil (h0 ▸ mem_outside.mpr ⟨hu, hu'⟩)
  obtain ⟨m, hm, hmin⟩ := exists_min_rank (fun u => rank u.id) _ hne
  obtain ⟨hmU, hmout⟩ := mem_outside.mp hm
  have hready : ready U (ids out) m = true := ready_iff.mpr fun p hp hsp =>
    Classical.byContradiction fun hp' => by
      have := hmin p (mem_outside.mpr ⟨hp, hp'⟩)
      have := hrank m hmU p hp hsp
      omega
  exact outside_lt (hsub out) hmU hmout (List.mem_map.mpr ⟨m, mem_sortStep.mpr (.inr ⟨hmU, hmout, hready⟩), rfl⟩)

/-- `UnminedTxs` (dependency sorted): every unconfirmed transaction, each once, every transaction after all its
unconfirmed parents. -/
theorem dependencySort_spec (U : List UTx) (hU : (ids U).Nodup) (hac : Acyclic U) :
    (∀ u, u ∈ dependencySort U ↔ u ∈ U) ∧ (ids (dependencySort U)).Nodup ∧ ParentsFirst U (dependencySort U) := by
  have hg : Good U (dependencySort U) :=
    loop_keeps (loop := sortLoop U) (I := Good U) (fun _ => rfl) (fun _ _ => rfl) (fun _ => good_step hU) _ []
      ⟨nofun, List.nodup_nil⟩
  refine ⟨fun u => ⟨hg.1 u, fun hu => ?_⟩, hg.2, loop_keeps (loop := sortLoop U) (I := ParentsFirst U) (fun _ => rfl)
    (fun _ _ => rfl) (fun _ => parentsFirst_step) _ [] fun pre _ _ h => by cases pre <;> cases h⟩
  -- the id of `u` was emitted, with a record of `U`: that record is `u`
  obtain ⟨v, hv, hvid⟩ := List.mem_map.mp (sortLoop_all hac _ [] (List.length_filter_le _ _) u hu)
  exact eq_of_id_eq hU (hg.1 v hv) hu hvid ▸ hv

theorem resendLoop_sent (answers : Nat → Answer) (l : List UTx) : ∀ (s : Store) (sent : List Nat),
    (resendLoop answers l s sent).2 = sent ++ ids l := by
  induction l with
  | nil => exact fun s sent => (List.append_nil sent).symm
  | cons u us ih => exact fun s sent => by rw [resendLoop, ih, List.append_assoc]; rfl

end C20
