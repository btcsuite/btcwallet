/-
Lemmas about `Model/Migration.lean`: the sort, the loop over the pending versions, `upgrade` by its five outcomes
(`upgrade_cases`).
-/
import BtcwVerif.Model.Migration
namespace Migration

theorem insertV_perm (v : Version) (l : List Version) : (insertV v l).Perm (v :: l) := by
  induction l with
  | nil => exact List.Perm.refl _
  | cons w ws ih =>
    unfold insertV; split
    · exact List.Perm.refl _
    · exact (List.Perm.cons w ih).trans (List.Perm.swap v w ws)

theorem sortVs_perm (vs : List Version) : (sortVs vs).Perm vs := by
  induction vs with
  | nil => exact List.Perm.refl _
  | cons v vs ih => exact (insertV_perm v _).trans (List.Perm.cons v ih)

theorem insertV_sorted (v : Version) (l : List Version)
    (h : l.Pairwise (fun a b => a.number ≤ b.number)) :
    (insertV v l).Pairwise (fun a b => a.number ≤ b.number) := by
  induction l with
  | nil => exact List.pairwise_singleton _ _
  | cons w ws ih =>
    have ⟨hw, hws⟩ := List.pairwise_cons.mp h
    unfold insertV
    by_cases hlt : v.number < w.number
    · rw [if_pos hlt]
      exact List.pairwise_cons.mpr ⟨List.forall_mem_cons.mpr ⟨Nat.le_of_lt hlt, fun x hx =>
        Nat.le_trans (Nat.le_of_lt hlt) (hw x hx)⟩, h⟩
    · rw [if_neg hlt]
      refine List.pairwise_cons.mpr ⟨fun x hx => ?_, ih hws⟩
      rcases List.mem_cons.mp ((insertV_perm v ws).mem_iff.mp hx) with rfl | hx
      · exact Nat.le_of_not_lt hlt
      · exact hw x hx

theorem sortVs_sorted (vs : List Version) : (sortVs vs).Pairwise (fun a b => a.number ≤ b.number) := by
  induction vs with
  | nil => exact List.Pairwise.nil
  | cons v vs ih => exact insertV_sorted v _ ih

/-- The event a non-nil version contributes when its migration succeeds. -/
def okEv (v : Version) : Option Ev := v.mig.map (Ev.applied v.number)

theorem latest_ge (vs : List Version) (v : Version) (hv : v ∈ vs) : v.number ≤ latest vs := by
  unfold latest
  have hs := sortVs_sorted vs
  have hm : v ∈ sortVs vs := (sortVs_perm vs).mem_iff.mpr hv
  cases hl : (sortVs vs).getLast? with
  | none => rw [List.getLast?_eq_none_iff.mp hl] at hm; cases hm
  | some w =>
    obtain ⟨ys, hys⟩ := List.getLast?_eq_some_iff.mp hl
    rw [hys] at hs hm
    rcases List.mem_append.mp hm with h | h
    · exact (List.pairwise_append.mp hs).2.2 v h w (List.mem_singleton_self w)
    · rw [List.mem_singleton.mp h]; exact Nat.le_refl _

theorem runMigs_cons_ok {fails : Nat → Bool} {v : Version} (rest : List Version)
    (hv : ∀ i, v.mig = some i → fails i = false) :
    runMigs fails (v :: rest) = ([v].filterMap okEv ++ (runMigs fails rest).1, (runMigs fails rest).2) := by
  cases hm : v.mig with
  | none => simp [runMigs, hm, okEv]
  | some id => simp [runMigs, hm, hv id hm, okEv]

theorem runMigs_cons_fail {fails : Nat → Bool} {v : Version} {id : Nat} (rest : List Version)
    (hm : v.mig = some id) (hf : fails id = true) :
    runMigs fails (v :: rest) = ([.failed v.number id], some (.migration v.number id)) := by
  simp [runMigs, hm, hf]

/-- General shape of the loop's trace: migrations of a prefix of the sorted pending list, then either nothing
(all succeeded) or the single failing one. -/
theorem runMigs_shape (fails : Nat → Bool) (l : List Version) :
    (∃ e, (runMigs fails l).2 = some e ∧
      ∃ pre v id rest, l = pre ++ v :: rest ∧ v.mig = some id ∧ fails id = true ∧
        e = .migration v.number id ∧
        (∀ u ∈ pre, ∀ i, u.mig = some i → fails i = false) ∧
        (runMigs fails l).1 = pre.filterMap okEv ++ [.failed v.number id]) ∨
    ((runMigs fails l).2 = none ∧ (runMigs fails l).1 = l.filterMap okEv ∧
      ∀ u ∈ l, ∀ i, u.mig = some i → fails i = false) := by
  induction l with
  | nil => exact .inr ⟨rfl, rfl, fun _ h => (List.not_mem_nil h).elim⟩
  | cons v rest ih =>
    by_cases hv : ∀ i, v.mig = some i → fails i = false
    · -- `v` does not fail: it joins the prefix
      rw [runMigs_cons_ok rest hv]
      rcases ih with ⟨e, he, pre, w, id, rs, hl, hw, hf, hee, hpre, htr⟩ | ⟨h1, h2, h3⟩
      · exact .inl ⟨e, he, v :: pre, w, id, rs, by rw [hl]; rfl, hw, hf, hee, List.forall_mem_cons.mpr ⟨hv, hpre⟩,
          by rw [htr, ← List.append_assoc, ← List.filterMap_append]; rfl⟩
      · exact .inr ⟨h1, by rw [h2, ← List.filterMap_append]; rfl, List.forall_mem_cons.mpr ⟨hv, h3⟩⟩
    · obtain ⟨id, hm, hf⟩ : ∃ id, v.mig = some id ∧ fails id = true :=
        Classical.byContradiction fun hno => hv fun i hi => Bool.eq_false_iff.mpr fun hf => hno ⟨i, hi, hf⟩
      rw [runMigs_cons_fail rest hm hf]
      exact .inl ⟨_, rfl, [], v, id, rest, rfl, hm, hf, rfl, fun _ h => (List.not_mem_nil h).elim, rfl⟩

theorem okEv_ne_setVersion (l : List Version) (x : Nat) : Ev.setVersion x ∉ l.filterMap okEv := by
  intro h
  obtain ⟨v, _, hv⟩ := List.mem_filterMap.mp h
  unfold okEv at hv
  cases hm : v.mig <;> rw [hm] at hv <;> cases hv

/-- The five ways `upgrade (some cur)` ends, each with what led there.  (`upgrade none`, the stored version cannot be read,
answers `.currentVersion`; only the driver runs it and no theorem speaks of it.) -/
inductive Upgraded (cur : Nat) (vs : List Version) (fails : Nat → Bool) (sf : Bool) : Result → Prop
  | newer (h : cur > latest vs) : Upgraded cur vs fails sf ⟨[], some .reversion, cur⟩
  | equal (h : cur = latest vs) : Upgraded cur vs fails sf ⟨[], none, cur⟩
  | failed {pre v id rest} (h : cur < latest vs) (hl : versionsToApply cur vs = pre ++ v :: rest)
      (hv : v.mig = some id) (hf : fails id = true) (hpre : ∀ u ∈ pre, ∀ i, u.mig = some i → fails i = false) :
      Upgraded cur vs fails sf ⟨pre.filterMap okEv ++ [.failed v.number id], some (.migration v.number id), cur⟩
  | setFailed (h : cur < latest vs) (hok : ∀ u ∈ versionsToApply cur vs, ∀ i, u.mig = some i → fails i = false)
      (hsf : sf = true) : Upgraded cur vs fails sf
        ⟨(versionsToApply cur vs).filterMap okEv ++ [.setVersionFailed (latest vs)], some .setVersion, cur⟩
  | ok (h : cur < latest vs) (hok : ∀ u ∈ versionsToApply cur vs, ∀ i, u.mig = some i → fails i = false)
      (hsf : sf = false) : Upgraded cur vs fails sf
        ⟨(versionsToApply cur vs).filterMap okEv ++ [.setVersion (latest vs)], none, latest vs⟩

theorem upgrade_cases (cur : Nat) (vs : List Version) (fails : Nat → Bool) (sf : Bool) :
    Upgraded cur vs fails sf (upgrade (some cur) vs fails sf) := by
  unfold upgrade
  dsimp only
  by_cases h1 : cur > latest vs
  · rw [if_pos h1]; exact .newer h1
  rw [if_neg h1]
  by_cases h2 : cur < latest vs
  · rw [if_pos h2]
    rcases runMigs_shape fails (versionsToApply cur vs) with
      ⟨e, he, pre, v, id, rest, hl, hv, hf, rfl, hpre, htr⟩ | ⟨he, htr, hok⟩
    · rw [← Prod.eta (runMigs fails _), he, htr]; exact .failed h2 hl hv hf hpre
    · rw [← Prod.eta (runMigs fails _), he, htr]
      cases sf
      · exact .ok h2 hok rfl
      · exact .setFailed h2 hok rfl
  · rw [if_neg h2]; exact .equal (Nat.le_antisymm (Nat.not_lt.mp h1) (Nat.not_lt.mp h2))

theorem upgradeInTx_err {db : DB} {vs : List Version} {fails : Nat → Bool} {sf : Bool} {e : Err}
    (he : (upgrade (some db.version) vs fails sf).err = some e) : upgradeInTx db vs fails sf = (db, some e) := by
  unfold upgradeInTx; dsimp only; rw [he]

theorem upgradeInTx_ok {db : DB} {vs : List Version} {fails : Nat → Bool} {sf : Bool}
    (he : (upgrade (some db.version) vs fails sf).err = none) : upgradeInTx db vs fails sf =
      ({ version := (upgrade (some db.version) vs fails sf).version,
         data := db.data ++ applied (upgrade (some db.version) vs fails sf).trace }, none) := by
  unfold upgradeInTx; dsimp only; rw [he]

theorem upgradeManyLoop_ok (fails : Nat → Bool) (comps : List (DB × List Version))
    (h : (upgradeManyLoop fails comps).2 = none) :
    (upgradeManyLoop fails comps).1 = comps.map (fun c => (upgradeInTx c.1 c.2 fails false).1) ∧
    ∀ c ∈ comps, (upgradeInTx c.1 c.2 fails false).2 = none := by
  induction comps with
  | nil => exact ⟨rfl, fun _ h => (List.not_mem_nil h).elim⟩
  | cons c rest ih =>
    obtain ⟨db, vs⟩ := c
    unfold upgradeManyLoop at h ⊢
    cases he : (upgrade (some db.version) vs fails false).err with
    | some e => simp only [he] at h; cases h
    | none =>
      simp only [he] at h ⊢
      obtain ⟨ih1, ih2⟩ := ih h
      have hc := upgradeInTx_ok he
      exact ⟨by rw [List.map_cons, hc, ← ih1], List.forall_mem_cons.mpr ⟨by rw [hc], ih2⟩⟩

end Migration
