import BtcwVerif.Lemmas.RefRead
import BtcwVerif.Props.C12
/-!
# Refinement: the lease events (*lease*, *release*, *sweep*, *clock*) preserve `Good`
The lease bucket is compared by `C12_*_refines_partial` under the hypothesis `LeaseRefines`; its `known` clause (the store
knows exactly the leasable outputs) is derived here from `Good` (`known_of_good`).
-/
namespace TxStore
open KMap Ledger

/-- `isKnownOutput` (an unspent or unconfirmed credit exists) is the ledger's `leasable` (credited, known, not spent by a
confirmed transaction): the `known` clause of `LeaseRefines` -/
theorem known_of_good {s : Store} {L : Ledger} (hg : Good s L) (op : OutPoint) :
    isKnownOutput s op = leasable L op := by
  rw [Bool.eq_iff_iff, leasable_iff hg.lwf]
  unfold isKnownOutput
  simp only [Bool.or_eq_true, contains_eq, Option.isSome_iff_exists]
  constructor
  · rintro (⟨uc, hf⟩ | ⟨blk, hf⟩)
    · exact ⟨⟨_, (ucredit_value hg hf).1⟩, (ucredit_value hg hf).2.1⟩
    · obtain ⟨_, _, hv, hsc⟩ := credit_of_unspent hg hf
      exact ⟨⟨_, hv⟩, hsc⟩
  · rintro ⟨⟨v, hv⟩, hsc⟩
    exact (value_stored hg hv hsc).symm

theorem leaseRefines_of_good {s : Store} {L : Ledger} (hg : Good s L) : C12.LeaseRefines s L :=
  ⟨known_of_good hg, hg.ref.leases⟩

theorem good_of_lease_change {s s' : Store} {L L' : Ledger} (hg : Good s L) {lk : KMap OutPoint Lease}
    {ls : List (OutPoint × Ledger.Lease)} {now : Nat} (hs : s' = { s with locked := lk })
    (hL : L' = { L with leases := ls, now := now }) (hlr : C12.LeaseRefines s' L') (hn : NodupKeys lk)
    (hk : (ls.map (·.1)).Nodup) : Good s' L' ∧ (NoConflict L → NoConflict L') := by
  subst hs hL
  exact ⟨⟨wf2_of_sameMined hg.wf2 (.refl s) hg.wf2.wf.nodupUC, { hg.lwf with leaseKeys := hk },
    { hg.ref with leases := hlr.leases, nodupLocked := hn }⟩, id⟩

theorem nodup_filter_append_one {α : Type} (l : List (OutPoint × α)) (op : OutPoint) (v : α)
    (h : (l.map (·.1)).Nodup) : (((l.filter fun p => p.1 != op) ++ [(op, v)]).map (·.1)).Nodup := by
  rw [List.map_append, List.nodup_append]
  refine ⟨nodup_map_filter _ _ _ h, by simp, ?_⟩
  intro a ha b hb
  simp only [List.map_cons, List.map_nil, List.mem_singleton] at hb
  obtain ⟨p, hp, rfl⟩ := List.mem_map.mp ha
  rw [hb]
  simpa using (List.mem_filter.mp hp).2

theorem apply_lease_cases {L : Ledger} (hl : LWF L) (id : Nat) (op : OutPoint) (d : Int) :
    ∃ ls, Ledger.apply L (.lease id op d) = { L with leases := ls } ∧ (ls.map (·.1)).Nodup := by
  simp only [Ledger.apply]
  repeat' split
  all_goals first
    | exact ⟨_, rfl, hl.leaseKeys⟩
    | exact ⟨_, rfl, nodup_filter_append_one _ _ _ hl.leaseKeys⟩

theorem apply_release_cases {L : Ledger} (hl : LWF L) (id : Nat) (op : OutPoint) :
    ∃ ls, Ledger.apply L (.release id op) = { L with leases := ls } ∧ (ls.map (·.1)).Nodup := by
  simp only [Ledger.apply]
  repeat' split
  all_goals first
    | exact ⟨_, rfl, hl.leaseKeys⟩
    | exact ⟨_, rfl, nodup_map_filter _ _ _ hl.leaseKeys⟩

theorem stepEvent_lease (s : Store) (now id : Nat) (op : OutPoint) (d : Int) :
    stepEvent s now (.lease id op d) =
      .ok (match lockOutput s now id op d with | .ok (_, s') => s' | .error _ => s) := by
  show (match lockOutput s now id op d with | .ok (_, s') => pure s' | .error _ => pure s) = _
  cases lockOutput s now id op d <;> rfl

theorem stepEvent_release (s : Store) (now id : Nat) (op : OutPoint) :
    stepEvent s now (.release id op) =
      .ok (match unlockOutput s now id op with | .ok s' => s' | .error _ => s) := by
  show (match unlockOutput s now id op with | .ok s' => pure s' | .error _ => pure s) = _
  cases unlockOutput s now id op <;> rfl

theorem unlockOutput_ok {s s' : Store} {now id : Nat} {op : OutPoint} (h : unlockOutput s now id op = .ok s') :
    s' = s ∨ s' = unlockOutputRaw s op := by
  unfold unlockOutput at h
  repeat' split at h
  all_goals cases h
  · exact Or.inl rfl
  · exact Or.inr rfl

theorem good_lease {s : Store} {L : Ledger} (hg : Good s L) (id : Nat) (op : OutPoint) (d : Int) :
    ∃ s', stepEvent s L.now (.lease id op d) = .ok s' ∧ Good s' (Ledger.apply L (.lease id op d)) ∧
      (NoConflict L → NoConflict (Ledger.apply L (.lease id op d))) := by
  have hlr := C12.C12_lease_refines_partial s L id op d (leaseRefines_of_good hg)
  obtain ⟨ls, hL, hk⟩ := apply_lease_cases hg.lwf id op d
  refine ⟨_, stepEvent_lease s L.now id op d, ?_⟩
  cases h : lockOutput s L.now id op d with
  | error e => exact good_of_lease_change hg rfl hL (h ▸ hlr) hg.ref.nodupLocked hk
  | ok r => exact good_of_lease_change hg (lockOutput_result h).2 hL (h ▸ hlr) (nodupKeys_insert _ _ _ hg.ref.nodupLocked) hk

theorem good_release {s : Store} {L : Ledger} (hg : Good s L) (id : Nat) (op : OutPoint) :
    ∃ s', stepEvent s L.now (.release id op) = .ok s' ∧ Good s' (Ledger.apply L (.release id op)) ∧
      (NoConflict L → NoConflict (Ledger.apply L (.release id op))) := by
  have hlr := C12.C12_release_refines_partial s L id op (leaseRefines_of_good hg)
  obtain ⟨ls, hL, hk⟩ := apply_release_cases hg.lwf id op
  refine ⟨_, stepEvent_release s L.now id op, ?_⟩
  cases h : unlockOutput s L.now id op with
  | error e => exact good_of_lease_change hg rfl hL (h ▸ hlr) hg.ref.nodupLocked hk
  | ok s' =>
    rcases unlockOutput_ok h with e | e
    · exact good_of_lease_change hg e hL (h ▸ hlr) hg.ref.nodupLocked hk
    · exact good_of_lease_change hg e hL (h ▸ hlr) (nodupKeys_erase _ _ hg.ref.nodupLocked) hk

theorem good_sweep {s : Store} {L : Ledger} (hg : Good s L) :
    ∃ s', stepEvent s L.now .sweep = .ok s' ∧ Good s' (Ledger.apply L .sweep) ∧
      (NoConflict L → NoConflict (Ledger.apply L .sweep)) :=
  ⟨_, rfl, good_of_lease_change hg (C12.C12_sweep_only_leases s L.now) rfl
    (C12.C12_sweep_refines_partial s L (leaseRefines_of_good hg) hg.ref.nodupLocked hg.lwf.leaseKeys)
    (loop_inv (fun a : Store => NodupKeys a.locked) (fun _ p => nodupKeys_erase _ p.1) _ hg.ref.nodupLocked)
    (nodup_map_filter _ _ _ hg.lwf.leaseKeys)⟩

theorem good_clock {s : Store} {L : Ledger} (hg : Good s L) (t : Nat) :
    ∃ s', stepEvent s L.now (.clock t) = .ok s' ∧ Good s' (Ledger.apply L (.clock t)) ∧
      (NoConflict L → NoConflict (Ledger.apply L (.clock t))) :=
  ⟨s, rfl, good_of_lease_change hg rfl rfl (C12.C12_clock_refines_partial s L t (leaseRefines_of_good hg))
    hg.ref.nodupLocked hg.lwf.leaseKeys⟩

end TxStore
