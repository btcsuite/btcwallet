/-
What the proofs about the AddrLock model build on: association lists, the cache and row writes by name, the scalar
fields `Scal` (lock state, key buffers, passphrase data), case lemmas of the lock operations, `exec_fst` (an `exec` is
`execMem`, `execPend` and a database image) and the elementary transitions `Tr` of `step` with their induction principles;
`run_memInv` walks through them once for every invariant about the manager and the closures registered with it (`MemInv`).
-/
import BtcwVerif.Model.AddrLock
import BtcwVerif.Lemmas.Util
namespace AddrLock

theorem aget_aset {α β} [DecidableEq α] (l : List (α × β)) (k k' : α) (v : β) :
    aget (aset l k v) k' = if k' = k then some v else aget l k' := by
  induction l with
  | nil => simp [aset, aget, eq_comm]
  | cons p t ih =>
    obtain ⟨k'', v''⟩ := p
    by_cases hk : k'' = k
    · subst hk; by_cases h : k' = k'' <;> simp [aset, aget, h, eq_comm (a := k'')]
    · by_cases hk2 : k'' = k'
      · subst hk2; simp [aset, aget, hk]
      · simp [aset, aget, hk, hk2, ih]

theorem aget_aset_self {α β} [DecidableEq α] (l : List (α × β)) (k : α) (v : β) : aget (aset l k v) k = some v := by
  rw [aget_aset, if_pos rfl]

theorem aget_aset_isSome {α β} [DecidableEq α] (l : List (α × β)) (k k' : α) (v : β)
    (h : (aget l k').isSome = true) : (aget (aset l k v) k').isSome = true := by
  rw [aget_aset]; split
  · rfl
  · exact h

theorem aget_map {α β γ} [DecidableEq α] (l : List (α × β)) (f : α × β → γ) (k : α) :
    aget (l.map fun p => (p.1, f p)) k = (aget l k).map fun v => f (k, v) := by
  induction l with
  | nil => rfl
  | cons p t ih =>
    obtain ⟨k', v⟩ := p
    by_cases hk : k' = k
    · subst hk; simp [aget]
    · simp [aget, hk, ih]

theorem mem_aset {α β} [DecidableEq α] {l : List (α × β)} {k : α} {v : β} {x : α × β}
    (h : x ∈ aset l k v) : x = (k, v) ∨ x ∈ l := by
  induction l with
  | nil => simp [aset] at h; exact Or.inl h
  | cons p t ih =>
    obtain ⟨k', v'⟩ := p
    by_cases hk : k' = k
    · simp [aset, hk] at h
      exact h.imp_right (List.mem_cons_of_mem _)
    · simp [aset, hk] at h
      rcases h with h | h
      · exact Or.inr (h ▸ List.mem_cons_self)
      · exact (ih h).imp_right (List.mem_cons_of_mem _)

theorem mem_adel {α β} [DecidableEq α] {l : List (α × β)} {k : α} {x : α × β} (h : x ∈ adel l k) : x ∈ l := by
  induction l with
  | nil => simp [adel] at h
  | cons p t ih =>
    obtain ⟨k', v'⟩ := p
    by_cases hk : k' = k
    · simp [adel, hk] at h; exact List.mem_cons_of_mem _ (ih h)
    · simp [adel, hk] at h
      rcases h with h | h
      · exact h ▸ List.mem_cons_self
      · exact List.mem_cons_of_mem _ (ih h)

theorem aget_of_mem_some {α β} [DecidableEq α] {l : List (α × β)} {k : α} {v : β} (h : aget l k = some v) :
    (k, v) ∈ l := by
  induction l with
  | nil => simp [aget] at h
  | cons p t ih =>
    obtain ⟨k', v'⟩ := p
    by_cases hk : k' = k
    · simp [aget, hk] at h; subst hk; subst h; exact List.mem_cons_self
    · simp [aget, hk] at h; exact List.mem_cons_of_mem _ (ih h)

theorem aget_aset_some {α β} [DecidableEq α] {l : List (α × β)} {k k' : α} {v v' : β}
    (h : aget (aset l k v) k' = some v') : (k' = k ∧ v' = v) ∨ (k' ≠ k ∧ aget l k' = some v') := by
  rw [aget_aset] at h
  by_cases hk : k' = k
  · rw [if_pos hk] at h; cases h; exact Or.inl ⟨hk, rfl⟩
  · rw [if_neg hk] at h; exact Or.inr ⟨hk, h⟩

theorem aget_map_some {α β γ} [DecidableEq α] {l : List (α × β)} {f : α × β → γ} {k : α} {w : γ}
    (h : aget (l.map fun p => (p.1, f p)) k = some w) : ∃ v, aget l k = some v ∧ w = f (k, v) := by
  rw [aget_map] at h
  cases h0 : aget l k with
  | none => rw [h0] at h; cases h
  | some v => rw [h0] at h; cases h; exact ⟨v, rfl, rfl⟩

theorem aget_adel {α β} [DecidableEq α] (l : List (α × β)) (k k' : α) :
    aget (adel l k) k' = if k' = k then none else aget l k' := by
  induction l with
  | nil => simp [adel, aget]
  | cons p t ih =>
    obtain ⟨k0, v0⟩ := p
    by_cases h0 : k0 = k
    · subst h0
      by_cases h1 : k' = k0
      · subst h1; simpa [adel] using ih
      · simp [adel, aget, ih, h1, Ne.symm h1]
    · by_cases h1 : k' = k
      · subst h1; simp [adel, aget, h0, ih]
      · simp [adel, aget, h0, ih, h1]

theorem ite_guard {α} {P : α → Prop} {b1 b2 : Prop} [Decidable b1] [Decidable b2] (h : b1 ∨ b2) {x y z : α}
    (hx : P x) (hy : P y) : P (if b1 then x else if b2 then y else z) :=
  ite_ind (fun _ => hx) fun h1 => ite_ind (fun _ => hy) fun h2 => (h.elim h1 h2).elim

/-! The cache writes and the row writes of the model, by name (the model spells each as `updScope` with a structure
update; the names unfold to exactly that).  The lookups of `Mem.setAcct`, `Mem.cacheAddr` and `Disk.setAddr` are in
Lemmas/AddrCoherent.lean; an account row is looked up through `acctAns` (`acctAns_setRow`, Lemmas/AddrGoodWrite.lean). -/

@[reducible] def Mem.setAcct (m : Mem) (sc a : Nat) (ai : AcctInfo) : Mem :=
  m.updScope sc fun s => { s with acctInfo := aset s.acctInfo a ai }

@[reducible] def Mem.cacheAddr (m : Mem) (sc : Nat) (k : AKey) (id : Nat) : Mem :=
  m.updScope sc fun s => { s with addrs := aset s.addrs k id }

@[reducible] def Disk.setAddr (d : Disk) (sc : Nat) (k : AKey) (row : ARow) : Disk :=
  d.updScope sc fun s => { s with addrs := aset s.addrs k row }

@[reducible] def Disk.setAcct (d : Disk) (sc a : Nat) (row : AcctRow) : Disk :=
  d.updScope sc fun s => { s with accts := aset s.accts a row }

theorem updScope_rel {R : Nat → ScopeMem → ScopeMem → Prop} (m : Mem) (sc : Nat) (f : ScopeMem → ScopeMem)
    (hr : ∀ sc' s, R sc' s s) (h : R sc (m.scopes sc) (f (m.scopes sc))) (sc' : Nat) :
    R sc' (m.scopes sc') ((m.updScope sc f).scopes sc') := by
  simp only [Mem.updScope]
  split
  · rename_i hs; subst hs; exact h
  · exact hr _ _

theorem mkAddrs_scopes (m : Mem) (a b : Nat) (p : Bool) (start n : Nat) : (mkAddrs m a b p start n).1.scopes = m.scopes := by
  induction n generalizing m start with
  | zero => rfl
  | succ n ih => simp only [mkAddrs]; rw [ih]; rfl

theorem cacheNew_acctInfo (sc : Nat) (w : Bool) (m : Mem) (e : Dou) (sc' : Nat) :
    ((cacheNew sc w m e).scopes sc').acctInfo = (m.scopes sc').acctInfo :=
  updScope_rel (R := fun _ s s' => s'.acctInfo = s.acctInfo) m sc _ (fun _ _ => rfl) rfl sc'

theorem foldl_cacheNew_acctInfo (sc : Nat) (w : Bool) (m : Mem) (es : List Dou) (sc' : Nat) :
    ((es.foldl (cacheNew sc w) m).scopes sc').acctInfo = (m.scopes sc').acctInfo :=
  List.foldlRecOn (motive := fun m' => (m'.scopes sc').acctInfo = (m.scopes sc').acctInfo) es _ rfl
    fun m' h e _ => (cacheNew_acctInfo sc w m' e sc').trans h

/-- everything the lock / passphrase logic reads, except caches and heap -/
def Scal (m : Mem) :=
  (m.locked, m.watchOnly, m.masterPriv, m.cryptoPriv, m.cryptoScript, m.hashed, m.privPass, m.pubPass, m.saltZero)

theorem scal_updScope (m : Mem) (sc : Nat) (f) : Scal (m.updScope sc f) = Scal m := rfl
theorem scal_alloc (m : Mem) (o) : Scal (m.alloc o).1 = Scal m := rfl
theorem scal_setObj (m : Mem) (i f) : Scal (m.setObj i f) = Scal m := rfl

section
variable {m m' : Mem} (h : Scal m' = Scal m)
-- every `scal_*` projection below takes `h : Scal m' = Scal m` as its one explicit argument
include h
theorem scal_locked : m'.locked = m.locked := congrArg (·.1) h
theorem scal_watchOnly : m'.watchOnly = m.watchOnly := congrArg (·.2.1) h
theorem scal_masterPriv : m'.masterPriv = m.masterPriv := congrArg (·.2.2.1) h
theorem scal_cryptoPriv : m'.cryptoPriv = m.cryptoPriv := congrArg (·.2.2.2.1) h
theorem scal_cryptoScript : m'.cryptoScript = m.cryptoScript := congrArg (·.2.2.2.2.1) h
theorem scal_hashed : m'.hashed = m.hashed := congrArg (·.2.2.2.2.2.1) h
theorem scal_privPass : m'.privPass = m.privPass := congrArg (·.2.2.2.2.2.2.1) h
theorem scal_saltZero : m'.saltZero = m.saltZero := congrArg (·.2.2.2.2.2.2.2.2) h
end

theorem scal_keyToManaged (m : Mem) (sc a b i : Nat) (p : Bool) : Scal (keyToManaged m sc a b i p).1 = Scal m := by
  unfold keyToManaged; split <;> rfl

theorem ktm_snd (m : Mem) (sc a b i : Nat) (p : Bool) : (keyToManaged m sc a b i p).2 = m.heapN := by
  cases p <;> rfl

theorem ktm_heapN (m : Mem) (sc a b i : Nat) (p : Bool) : (keyToManaged m sc a b i p).1.heapN = m.heapN + 1 := by
  cases p <;> rfl

theorem ktm_heap (m : Mem) (sc a b i : Nat) (p : Bool) (id : Nat) :
    (keyToManaged m sc a b i p).1.heap id =
      if id = m.heapN then { key := .chain a b i, kind := .managed, hasEnc := p, ct := p, acct := a } else m.heap id := by
  cases p <;> rfl

theorem ktm_acctInfo (m : Mem) (sc a b i : Nat) (p : Bool) (sc' : Nat) :
    ((keyToManaged m sc a b i p).1.scopes sc').acctInfo = (m.scopes sc').acctInfo := by
  unfold keyToManaged; split
  · rfl
  · simp only [Mem.updScope, Mem.alloc]; split <;> rfl

theorem ktm_addrs (m : Mem) (sc a b i : Nat) (p : Bool) (sc' : Nat) :
    ((keyToManaged m sc a b i p).1.scopes sc').addrs = (m.scopes sc').addrs := by
  unfold keyToManaged; split
  · rfl
  · simp only [Mem.updScope, Mem.alloc]; split <;> rfl

theorem ktm_synced (m : Mem) (sc a b i : Nat) (p : Bool) : (keyToManaged m sc a b i p).1.syncedTo = m.syncedTo := by
  cases p <;> rfl

theorem loadAcct_ok {d : Disk} {m m1 : Mem} {sc a : Nat} (h : loadAcct d m sc a = .ok m1) :
    ((aget (m.scopes sc).acctInfo a).isSome = true ∧ m1 = m) ∨ ∃ row, m1 = loadAcctRow m sc a row := by
  unfold loadAcct at h
  split at h
  · rename_i hc; cases h; exact Or.inl ⟨by rw [hc]; rfl, rfl⟩
  · split at h
    · cases h
    · rename_i row _
      split at h
      · cases h
      · split at h
        · cases h
        · cases h; exact Or.inr ⟨row, rfl⟩

theorem loadAcct_cached {d : Disk} {m : Mem} {sc a : Nat} {ai : AcctInfo}
    (hc : aget (m.scopes sc).acctInfo a = some ai) : loadAcct d m sc a = .ok m := by
  unfold loadAcct; simp [hc]

theorem loadAcct_error {d : Disk} {m : Mem} {sc a : Nat} {e : Err} (h : loadAcct d m sc a = .error e) :
    e = .accountNotFound ∨ e = .crypto := by
  unfold loadAcct at h
  split at h
  · cases h
  · split at h
    · cases h; exact Or.inl rfl
    · split at h
      · cases h; exact Or.inr rfl
      · split at h
        · cases h; exact Or.inr rfl
        · cases h

theorem scal_loadAcct {d m sc a m1} (h : loadAcct d m sc a = .ok m1) : Scal m1 = Scal m := by
  rcases loadAcct_ok h with ⟨_, rfl⟩ | ⟨row, rfl⟩
  · rfl
  · simp only [loadAcctRow, scal_updScope, scal_keyToManaged]

/-- what Unlock does to one cached account: the private account key is derived iff there is an encrypted one -/
def unlockAcct (p : Nat × AcctInfo) : AcctInfo := if p.2.hasEnc then { p.2 with keyPriv := true } else p.2

theorem unlockAccts_some {cfg : Cfg} {l l' : List (Nat × AcctInfo)} (h : unlockAccts cfg l = some l') :
    l' = l.map fun p => (p.1, unlockAcct p) := by
  induction l generalizing l' with
  | nil => cases h; rfl
  | cons p t ih =>
    obtain ⟨a, i⟩ := p
    simp only [unlockAccts] at h
    cases ht : unlockAccts cfg t with
    | none => simp [ht] at h
    | some t' =>
      rw [ih ht] at ht
      cases hi : i.hasEnc <;> simp [hi, ht] at h
      · rw [← h.2]; simp [unlockAcct, hi]
      · rw [← h]; simp [unlockAcct, hi]

theorem unlockAccts_f2 {cfg : Cfg} (hf2 : cfg.f2 = true) (l : List (Nat × AcctInfo)) :
    unlockAccts cfg l = some (l.map fun p => (p.1, unlockAcct p)) := by
  induction l with
  | nil => rfl
  | cons p t ih =>
    obtain ⟨a, i⟩ := p
    cases hi : i.hasEnc <;> simp [unlockAccts, unlockAcct, hi, hf2, ih]

/-- the branches of Unlock.  `L` is whatever the caller knows of the result of the loops (`loopOK_unlockScopes` in the C05
strand); the three branches after the loops get it of their result, in place of the equation. -/
theorem unlock_cases {P L : Mem × Option Err → Prop} (cfg : Cfg) (d : Disk) (m : Mem) (p : Nat)
    (hL : L (unlockScopes cfg d (List.range nScopes) (unlockStart cfg m)))
    (hwo : m.watchOnly = true → P (m, some .watchingOnly))
    (hhit : m.watchOnly = false → m.locked = false → m.hashed = some (p, m.saltZero) →
      P ({ m with saltZero := saltAfter cfg m p }, none))
    (hmiss : m.watchOnly = false → m.locked = false → m.hashed ≠ some (p, m.saltZero) →
      P (lockMem cfg { m with saltZero := saltAfter cfg m p }, some .wrongPassphrase))
    (hwrong : m.watchOnly = false → m.locked = true → p ≠ m.privPass → P (lockMem cfg m, some .wrongPassphrase))
    (hpanic : m.watchOnly = false → m.locked = true → p = m.privPass →
      ∀ m2, L (m2, some .panic) → P (m2, some .panic))
    (herr : m.watchOnly = false → m.locked = true → p = m.privPass →
      ∀ m2 e, L (m2, some e) → P (lockMem cfg m2, some e))
    (hok : m.watchOnly = false → m.locked = true → p = m.privPass → ∀ m2, L (m2, none) →
        P ({ m2 with locked := false, hashed := some (p, m2.saltZero), saltZero := saltAfter cfg m2 p }, none)) :
    P (unlock cfg d m p) := by
  unfold unlock
  by_cases hw : m.watchOnly = true
  · rw [if_pos hw]; exact hwo hw
  rw [if_neg hw]
  have hw := Bool.eq_false_iff.mpr hw
  by_cases hl : m.locked = true
  · rw [if_neg (by simp [hl])]
    split
    · rename_i hp; exact hwrong hw hl hp
    · rename_i hp
      have hp := Classical.not_not.mp hp
      dsimp only
      split
      · rename_i m2 heq; exact hpanic hw hl hp m2 (heq ▸ hL)
      · rename_i m2 e _ heq; exact herr hw hl hp m2 e (heq ▸ hL)
      · rename_i m2 heq; exact hok hw hl hp m2 (heq ▸ hL)
  · have hl := Bool.eq_false_iff.mpr hl
    rw [if_pos (by simp [hl])]
    dsimp only
    split
    · rename_i hh; exact hhit hw hl hh
    · rename_i hh; exact hmiss hw hl hh

theorem lockOp_cases {P : Mem × Option Err → Prop} (cfg : Cfg) (m : Mem) (herr : ∀ e, P (m, some e))
    (hlock : m.watchOnly = false → m.locked = false → P (lockMem cfg m, none)) : P (lockOp cfg m) :=
  ite_ind (fun _ => herr _) fun hw => ite_ind (fun _ => herr _) fun hl =>
    hlock (Bool.eq_false_iff.mpr hw) (Bool.eq_false_iff.mpr hl)

theorem changePass_cases {P : Disk × Mem × Option Err → Prop} (cfg : Cfg) (d : Disk) (m : Mem) (old new : Nat) (pr : Bool)
    (herr : ∀ e, P (d, m, some e))
    (hpriv : pr = true → m.watchOnly = false → old = m.privPass →
      P ({ d with privPass := new },
         { m with privPass := new, masterPriv := if m.locked then .zero else .nonzero,
                  hashed := if m.locked then none else some (new, false),
                  saltZero := if m.locked then false else (!cfg.f12 && new = EMPTY) }, none))
    (hpub : pr = false → old = m.pubPass → P ({ d with pubPass := new }, { m with pubPass := new }, none)) :
    P (changePass cfg d m old new pr) := by
  unfold changePass
  cases pr
  · simp only [Bool.false_and, Bool.false_eq_true, if_false]
    exact ite_ind (fun _ => herr _) fun h => hpub rfl (Classical.not_not.mp h)
  · simp only [Bool.true_and, if_true]
    refine ite_ind (fun _ => herr _) fun hw => ite_ind (fun _ => herr _) fun h => ?_
    exact hpriv rfl (Bool.eq_false_iff.mpr hw) (Classical.not_not.mp h)

/-- the memory half of the model's `exec`, written out a second time so that facts about the manager can be stated without
the state around it; `exec_fst` ties the two, and a change to an arm of `exec` has to be made here as well (`exec_fst`
fails otherwise) -/
def execMem (cfg : Cfg) (d : Disk) (m : Mem) : Op → Mem
  | .unlock p => (unlock cfg d m p).1
  | .lock => (lockOp cfg m).1
  | .changePass o n pr => (changePass cfg d m o n pr).2.1
  | .convertWO => (convertWO cfg d m).2
  | .rename sc a name => (renameAccount d m sc a name).2.1
  | .next sc a n int => (nextAddresses d m sc a n int).mem
  | .extend sc a li int => (extendAddresses cfg d m sc a li int).2.1
  | .importKey sc k pr => (importKey d m sc k pr).2.1
  | .importScript sc kind sid sec => (importScript d m sc kind sid sec).2.1
  | .markUsed sc k => (markUsed d m sc k).2
  | .setSynced h x => (setSyncedTo d m h x).2.1
  | .privKey sc k =>
    match addressOf d m sc k with
    | .error _ => m
    | .ok r => (privKeyObj r.1 r.2).1
  | .lastPrivKey sc a int =>
    match query d m (.lastAddr sc a int) with
    | (m1, .addr _ _) =>
      match acctInfoOf m1 sc a with
      | some ai => (privKeyObj m1 (lastOf ai int)).1
      | none => m1
    | (m1, _) => m1
  | .script sc k =>
    match addressOf d m sc k with
    | .error _ => m
    | .ok r => (scriptObj r.1 r.2).1
  | .derive sc a b i => (derivePath d m sc a b i).1
  | .deriveCache sc a b i => (deriveCache cfg m sc ⟨a, b, i⟩).1
  | .q x => (query d m x).1
  | _ => m

/-- the OnCommit closures `exec s m op` registers (only `nextAddresses` does) -/
def execPend (d : Disk) (m : Mem) : Op → List Pend
  | .next sc a n int => (nextAddresses d m sc a n int).pend.toList
  | _ => []

theorem exec_fst (s : State) (m : Mem) (hs : s.mem = some m) (op : Op) :
    (exec s m op).1 = { s with disk := (exec s m op).1.disk, mem := some (execMem s.cfg s.disk m op),
                               pend := s.pend ++ execPend s.disk m op } := by
  obtain ⟨cfg, d, snap, pend, _⟩ := s
  cases hs
  cases op <;> simp only [exec, execMem, execPend, List.append_nil] <;> first | rfl | skip
  case newAccount sc name wo => rcases newAccount d m sc name wo with ⟨d, _ | _⟩ <;> rfl
  case next sc a n int =>
    cases (nextAddresses d m sc a n int).res <;> cases (nextAddresses d m sc a n int).pend <;>
      simp only [Option.toList, List.append_nil]
  case privKey sc k => cases addressOf d m sc k <;> rfl
  case script sc k => cases addressOf d m sc k <;> rfl
  case lastPrivKey sc a int =>
    rcases query d m (.lastAddr sc a int) with ⟨m1, _ | _ | _ | _ | _ | _ | _ | _⟩ <;> try rfl
    dsimp only; cases acctInfoOf m1 sc a <;> rfl

theorem execPend_of_not_writes (d : Disk) (m : Mem) {op : Op} (h : op.writes = false) : execPend d m op = [] := by
  cases op <;> first | rfl | cases h

/-- ops that do not touch lock state, buffers or passphrase data -/
def Op.plain : Op → Bool
  | .unlock _ | .lock | .changePass .. | .convertWO | .create .. | .reopen _ | .begin | .commit | .rollback => false
  | .newAccount .. | .rename .. | .next .. | .extend .. | .importKey .. | .importScript .. | .markUsed .. | .setSynced ..
  | .setBirthday | .privKey .. | .lastPrivKey .. | .script .. | .crypt _ | .derive .. | .deriveCache .. | .q _ => true

theorem execMem_cases {X : Mem → Prop} {cfg : Cfg} {d : Disk} {m : Mem} (op : Op) (h0 : X m)
    (hplain : op.plain = true → X (execMem cfg d m op))
    (hunlock : ∀ p, op = .unlock p → X (unlock cfg d m p).1)
    (hlock : X (lockOp cfg m).1)
    (hchange : ∀ o n pr, op = .changePass o n pr → X (changePass cfg d m o n pr).2.1)
    (hconvert : X (convertWO cfg d m).2) : X (execMem cfg d m op) := by
  cases op
  case unlock p => exact hunlock p rfl
  case lock => exact hlock
  case changePass o n pr => exact hchange o n pr rfl
  case convertWO => exact hconvert
  all_goals first | exact h0 | exact hplain rfl

/-- the elementary transitions a `step s op` is made of; a writing op outside a bracket is `begin`, `exec`, then
`commit` or `rollback`.  A superset of what `step` does (`opened` on any database image, `commit` / `rollback` with no
bracket open): harmless, since the relation is only used to show invariants kept (`step_induction`), and the invariants
of this family are kept by the extra transitions too. -/
inductive Tr (op : Op) : State → State → Prop
  | opened (s : State) (d : Disk) : s.snap = none → Tr op s { s with disk := d, mem := some (openMem d) }
  | closed (s : State) : Tr op s { s with mem := none }
  | begin (s : State) : s.snap = none → Tr op s { s with snap := some s.disk, pend := [] }
  | commit (s : State) : Tr op s (commitTx s)
  | rollback (s : State) : Tr op s (rollbackTx s)
  | exec (s : State) (m : Mem) : s.mem = some m → (s.snap.isSome || !op.writes) = true → Tr op s (exec s m op).1

/-- the operations `step` handles itself, without `exec` -/
def Op.ctl : Op → Bool
  | .create .. | .reopen _ | .begin | .commit | .rollback => true
  | .unlock _ | .lock | .changePass .. | .convertWO | .newAccount .. | .rename .. | .next .. | .extend .. | .importKey ..
  | .importScript .. | .markUsed .. | .setSynced .. | .setBirthday | .privKey .. | .lastPrivKey .. | .script .. | .crypt _
  | .derive .. | .deriveCache .. | .q _ => false

theorem step_of_not_ctl (s : State) {op : Op} (h : op.ctl = false) :
    step s op = match s.mem with
      | none => (s, .err .noManager)
      | some m =>
        if s.snap.isSome || !op.writes then exec s m op
        else
          let r := exec { s with snap := some s.disk, pend := [] } m op
          if isErr r.2 then (rollbackTx r.1, r.2) else (commitTx r.1, r.2) := by
  cases op <;> first | rfl | cases h

theorem step_induction {I : State → Prop} {op : Op} (hI : ∀ s s', Tr op s s' → I s → I s') (s : State) (h : I s) :
    I (step s op).1 := by
  have hsn : ¬ s.snap.isSome = true → s.snap = none := by cases s.snap <;> simp
  cases hctl : op.ctl
  case true =>
    cases op
    all_goals try (cases hctl; done)
    all_goals simp only [step]
    case create =>
      split; · exact h
      split; · exact h
      rename_i hs _; exact hI _ _ (.opened s _ (hsn hs)) h
    case reopen =>
      split; · exact h
      split; · exact h
      rename_i hs _
      split
      · exact hI _ _ (.closed s) h
      · exact hI _ _ (.opened s s.disk (hsn hs)) h
    case begin =>
      split; · exact h
      rename_i hs; exact hI _ _ (.begin s (hsn hs)) h
    case commit => split; exact h; exact hI _ _ (.commit s) h
    case rollback => split; exact h; exact hI _ _ (.rollback s) h
  case false =>
    rw [step_of_not_ctl s hctl]
    split; · exact h
    rename_i m hs
    split
    · rename_i hc; exact hI _ _ (.exec s m hs hc) h
    · rename_i hc
      have hex := hI _ _ (.exec { s with snap := some s.disk, pend := [] } m hs rfl)
        (hI _ _ (.begin s (hsn (fun h => hc (by simp [h])))) h)
      dsimp only
      split
      · exact hI _ _ (.rollback _) hex
      · exact hI _ _ (.commit _) hex

theorem run_inv {I : State → Prop} {ops : List Op} (hI : ∀ op ∈ ops, ∀ s, I s → I (step s op).1) (s : State)
    (h : I s) : I (run s ops) := by
  induction ops generalizing s with
  | nil => exact h
  | cons op ops ih => exact ih (fun o ho => hI o (List.mem_cons_of_mem _ ho)) _ (hI op List.mem_cons_self s h)

theorem run_induction {I : State → Prop} {ops : List Op} (hI : ∀ op ∈ ops, ∀ s s', Tr op s s' → I s → I s') (s : State)
    (h : I s) : I (run s ops) :=
  run_inv (fun op ho => step_induction (hI op ho)) s h

theorem Tr.cfg {op : Op} {s s' : State} (t : Tr op s s') : s'.cfg = s.cfg := by
  cases t <;> first | rfl | (rename_i hs _; rw [exec_fst _ _ hs])

theorem step_cfg (s : State) (op : Op) : (step s op).1.cfg = s.cfg :=
  step_induction (I := fun s' => s'.cfg = s.cfg) (fun _ _ t h => t.cfg.trans h) s rfl

theorem run_cfg (s : State) (ops : List Op) : (run s ops).cfg = s.cfg :=
  run_induction (I := fun s' => s'.cfg = s.cfg) (fun _ _ _ _ t h => t.cfg.trans h) s rfl

theorem mem_commitTx {s : State} {m' : Mem} (h : (commitTx s).mem = some m') :
    ∃ m, s.mem = some m ∧ m' = s.pend.foldl (runPend s.cfg) m := by
  simp only [commitTx] at h
  cases hs : s.mem with
  | none => rw [hs] at h; cases h
  | some m => rw [hs] at h; cases h; exact ⟨m, rfl, rfl⟩

/-- an invariant of the histories about the manager and the closures registered with it: `P s.pend m` of the manager, if
there is one, and nothing is registered outside a bracket -/
structure MemInv (P : List Pend → Mem → Prop) (s : State) : Prop where
  mem  : ∀ m, s.mem = some m → P s.pend m
  pend : s.snap = none → s.pend = []

/-- `MemInv P` after every history: one walk through the transitions for every invariant of this kind -/
theorem run_memInv {P : List Pend → Mem → Prop} (cfg : Cfg) {ops : List Op} (hopen : ∀ d, P [] (openMem d))
    (hdrop : ∀ ps m, P ps m → P [] m)
    (hexec : ∀ op ∈ ops, ∀ d ps m, P ps m → P (ps ++ execPend d m op) (execMem cfg d m op))
    (hcommit : ∀ ps m, P ps m → P [] (ps.foldl (runPend cfg) m)) : MemInv P (run { cfg := cfg } ops) := by
  refine (run_induction (I := fun s => s.cfg = cfg ∧ MemInv P s) (fun op ho s s' t ⟨hc, h⟩ => ⟨t.cfg.trans hc, ?_⟩)
    { cfg := cfg } ⟨rfl, fun _ hm => (nomatch hm), fun _ => rfl⟩).2
  subst hc
  cases t
  case opened d hsn => exact ⟨fun m hm => (by cases hm; exact (h.pend hsn ▸ hopen d : P s.pend _)), h.pend⟩
  case closed => exact ⟨fun _ hm => (nomatch hm), h.pend⟩
  case begin => exact ⟨fun m hm => hdrop _ m (h.mem m hm), fun _ => rfl⟩
  case rollback => exact ⟨fun m hm => hdrop _ m (h.mem m hm), fun _ => rfl⟩
  case commit =>
    refine ⟨fun m' hm => ?_, fun _ => rfl⟩
    obtain ⟨m, hs, rfl⟩ := mem_commitTx hm
    exact hcommit _ m (h.mem m hs)
  case exec m hs hc =>
    rw [exec_fst _ _ hs]
    refine ⟨fun m' hm => (by cases hm; exact hexec op ho _ _ m (h.mem m hs)), fun hsn => ?_⟩
    -- outside a bracket only a read-only op is run directly, and it registers no closure
    have hsn' : s.snap = none := hsn
    rw [hsn'] at hc
    show s.pend ++ execPend s.disk m op = []
    rw [h.pend hsn', execPend_of_not_writes _ _ (by simpa using hc)]; rfl

/-- `run_memInv` for a property of the manager alone -/
theorem run_mem_inv {P : Mem → Prop} (cfg : Cfg) {ops : List Op} (hopen : ∀ d, P (openMem d))
    (hexec : ∀ op ∈ ops, ∀ d m, P m → P (execMem cfg d m op)) (hpend : ∀ m p, P m → P (runPend cfg m p)) :
    ∀ m, (run { cfg := cfg } ops).mem = some m → P m :=
  (run_memInv (P := fun _ => P) cfg hopen (fun _ _ h => h) (fun op ho d _ m => hexec op ho d m)
    fun ps _ h => List.foldlRecOn ps _ h fun m h p _ => hpend m p h).mem

end AddrLock
