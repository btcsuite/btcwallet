import BtcwVerif.Model.Refine
import BtcwVerif.Lemmas.WF2
import BtcwVerif.Lemmas.LedgerRead
/-!
# The refinement relation between the store and the ledger — definitions and their projections

* `LWF L` — well-formedness of a ledger, what every chain-consistent history maintains.  It is not the clause list of the
  executable `Ledger.lwfB` (which also checks `noSelf`, `blocksNonEmpty`, `poolNoChainConflict` = `NoConflict`, and cannot check
  `rank`, `outsBound`); no lemma relates the two.
  `NoConflict L`: no unconfirmed transaction conflicts with a confirmed one.
* `Refines s L` — the store holds what the ledger expects (`Ledger.exp…`, Model/Refine.lean; the executable form
  `Ledger.refinesB` is evaluated on every generated history).  `txrecs`, `unmined`, `credits`, `ucredits` are stated as
  `find? k = some v ↔ (k, v) ∈ exp… L` (`Holds`); `blocks` is a list equation; `debits` is stated against the store's own
  credit records; `uinputs` goes through `spendHashes`; the lease bucket is compared entry by entry with the seconds
  converted.  The unspent index and the balance counter have no clause: `WF2` ties them to the credit records.
* `Good s L` = `WF2 s` ∧ `LWF L` ∧ `Refines s L`; `Consistent L e`: what a validating node guarantees about the next event.
* Histories: `storeAfter`, `ledgerAfter`, `ConsistentHistory` with its evaluated form `consistentHistoryB` (decided by the
  non-vacuity `example`s of Props/C01, C02, C12Order, C13).
What the ledger alone answers (`mem_known`, `lookup_…`): Lemmas/LedgerRead.lean.
-/
namespace TxStore
open KMap Ledger

theorem OutPoint.eq_of_fields {o : OutPoint} {h i : Nat} (h1 : o.hash = h) (h2 : o.index = i) : o = ⟨h, i⟩ := by
  cases o; cases h1; cases h2; rfl

theorem credKey_eta (k : CredKey) : (⟨k.outPoint.hash, k.block, k.outPoint.index⟩ : CredKey) = k := by cases k; rfl

structure LWF (L : Ledger) : Prop where
  /-- one block per height, in the order of the block bucket -/
  heights : (L.chain.map (·.bm.block.height)).Pairwise (· < ·)
  /-- hashes identify transactions -/
  hashes : ((known L).map (·.1.hash)).Nodup
  creditKeys : (L.credit.map (·.1)).Nodup
  /-- a credited output is an output of a known transaction -/
  creditKnown : ∀ p ∈ L.credit, ∃ q ∈ known L, q.1.hash = p.1.hash ∧ p.1.index < q.1.outs.length
  /-- a coinbase is never unconfirmed -/
  poolNoCb : ∀ t ∈ L.pool, t.isCoinBase = false
  /-- no confirmed double spend, also not within one transaction -/
  noDouble : ((chainTxs L).flatMap (·.1.ins)).Nodup
  /-- a known parent of a confirmed transaction is confirmed at or below it -/
  parents : ∀ p ∈ chainTxs L, ∀ i ∈ p.1.ins, ∀ q ∈ known L, q.1.hash = i.hash →
    ∃ bm, q.2 = some bm ∧ bm.block.height ≤ p.2.block.height
  /-- spends among known transactions are acyclic (transactions are hash-linked) -/
  rank : ∃ rk : Nat → Nat, ∀ p ∈ known L, ∀ i ∈ p.1.ins, ∀ q ∈ known L, q.1.hash = i.hash → rk i.hash < rk p.1.hash
  /-- an input naming a known transaction names one of its outputs -/
  validRefs : ∀ p ∈ known L, ∀ i ∈ p.1.ins, ∀ q ∈ known L, q.1.hash = i.hash → i.index < q.1.outs.length
  /-- at most `nullIndex` = 2^32−1 outputs: every output index is below the index of a coinbase's null input (`no_coinbase_debit`) -/
  outsBound : ∀ p ∈ known L, p.1.outs.length ≤ nullIndex
  leaseKeys : (L.leases.map (·.1)).Nodup

theorem lwf_empty : LWF {} := by
  refine ⟨List.Pairwise.nil, List.nodup_nil, List.nodup_nil, ?_, ?_, List.nodup_nil, ?_, ⟨fun _ => 0, ?_⟩, ?_, ?_,
    List.nodup_nil⟩
  all_goals intro p hp; cases hp

namespace LWF
variable {L : Ledger} (h : LWF L)
include h

theorem known_unique {p q : Tx × Option BlockMeta} (hp : p ∈ known L) (hq : q ∈ known L)
    (e : p.1.hash = q.1.hash) : p = q :=
  eq_of_nodup_map (fun p : Tx × Option BlockMeta => p.1.hash) _ h.hashes p hp q hq e

theorem pool_not_mined {t u : Tx} {bm : BlockMeta} (ht : t ∈ L.pool)
    (hu : (u, bm) ∈ chainTxs L) : u.hash ≠ t.hash :=
  fun e => by cases h.known_unique (known_of_mined hu) (known_of_pool ht) e

theorem pool_unique {t u : Tx} (ht : t ∈ L.pool) (hu : u ∈ L.pool)
    (e : t.hash = u.hash) : t = u := by
  cases h.known_unique (known_of_pool ht) (known_of_pool hu) e; rfl

theorem mined_unique {t u : Tx} {b c : BlockMeta} (ht : (t, b) ∈ chainTxs L)
    (hu : (u, c) ∈ chainTxs L) (e : t.hash = u.hash) : t = u ∧ b = c := by
  cases h.known_unique (known_of_mined ht) (known_of_mined hu) e; exact ⟨rfl, rfl⟩

theorem spentConfirmed_pool {t : Tx} (ht : t ∈ L.pool) (i : Nat) :
    spentConfirmed L ⟨t.hash, i⟩ = false :=
  spentConfirmed_false_iff.mpr fun p hp hin => by
    obtain ⟨b, hb, _⟩ := h.parents p hp _ hin _ (known_of_pool ht) rfl
    cases hb

theorem credit_known {op : OutPoint} {chg : Bool} (hl : lookup L.credit op = some chg) :
    ∃ q ∈ known L, q.1.hash = op.hash ∧ op.index < q.1.outs.length :=
  h.creditKnown _ (mem_of_lookup hl)

end LWF

theorem chain_hashes_nodup {L : Ledger} (hl : LWF L) : ((chainTxs L).map (·.1.hash)).Nodup := by
  have := hl.hashes
  unfold known at this
  rw [List.map_append, List.map_map, List.nodup_append] at this
  exact this.1

theorem pool_hashes_nodup {L : Ledger} (hl : LWF L) : (L.pool.map (·.hash)).Nodup := by
  have := hl.hashes
  unfold known at this
  rw [List.map_append, List.nodup_append, List.map_map, List.map_map] at this
  exact this.2.1

theorem mem_expTxrecs {L : Ledger} {k : TxKey} {v : Tx} :
    (k, v) ∈ expTxrecs L ↔ ∃ bm, (v, bm) ∈ chainTxs L ∧ k = ⟨v.hash, bm.block⟩ := by
  unfold expTxrecs
  simp only [List.mem_map, Prod.mk.injEq]
  constructor
  · rintro ⟨p, hp, rfl, rfl⟩; exact ⟨p.2, hp, rfl⟩
  · rintro ⟨bm, hp, rfl⟩; exact ⟨(v, bm), hp, rfl, rfl⟩

theorem mem_expUnmined {L : Ledger} {k : Nat} {v : Tx} : (k, v) ∈ expUnmined L ↔ v ∈ L.pool ∧ k = v.hash := by
  unfold expUnmined
  simp only [List.mem_map, Prod.mk.injEq]
  constructor
  · rintro ⟨t, ht, rfl, rfl⟩; exact ⟨ht, rfl⟩
  · rintro ⟨ht, rfl⟩; exact ⟨v, ht, rfl, rfl⟩

theorem mem_expCreditsOf {L : Ledger} {t : Tx} {bm : BlockMeta} {k : CredKey} {v : CreditVal} :
    (k, v) ∈ expCreditsOf L t bm ↔
      k.hash = t.hash ∧ k.block = bm.block ∧ t.outs[k.index]? = some v.amount ∧
      lookup L.credit k.outPoint = some v.change ∧ v.spender = spenderOf L k.outPoint ∧
      v.spent = (spenderOf L k.outPoint).isSome := by
  unfold expCreditsOf
  simp only [List.mem_filterMap]
  constructor
  · rintro ⟨⟨i, a⟩, hm, hv⟩
    rw [mem_withIdx0] at hm
    simp only at hv
    split at hv
    · rename_i chg hl
      simp only [Option.some.injEq, Prod.mk.injEq] at hv
      obtain ⟨rfl, rfl⟩ := hv
      exact ⟨rfl, rfl, hm, hl, rfl, rfl⟩
    · cases hv
  · rintro ⟨h1, h2, h3, h4, h5, h6⟩
    refine ⟨(k.index, v.amount), (mem_withIdx0 _ _ _).mpr h3, ?_⟩
    have hk : (⟨t.hash, k.index⟩ : OutPoint) = k.outPoint := by simp [CredKey.outPoint, h1]
    simp only [hk, h4, Option.some.injEq, Prod.mk.injEq]
    constructor
    · cases k; simp_all
    · cases v; simp_all

theorem mem_expCredits {L : Ledger} {k : CredKey} {v : CreditVal} :
    (k, v) ∈ expCredits L ↔
      ∃ t bm, (t, bm) ∈ chainTxs L ∧ k.hash = t.hash ∧ k.block = bm.block ∧ t.outs[k.index]? = some v.amount ∧
      lookup L.credit k.outPoint = some v.change ∧ v.spender = spenderOf L k.outPoint ∧
      v.spent = (spenderOf L k.outPoint).isSome := by
  unfold expCredits
  simp only [List.mem_flatMap]
  constructor
  · rintro ⟨p, hp, h⟩; exact ⟨p.1, p.2, hp, mem_expCreditsOf.mp h⟩
  · rintro ⟨t, bm, hp, h⟩; exact ⟨(t, bm), hp, mem_expCreditsOf.mpr h⟩

theorem mem_expUnminedCredits {L : Ledger} {op : OutPoint} {uc : UCredit} :
    (op, uc) ∈ expUnminedCredits L ↔
      ∃ t ∈ L.pool, op.hash = t.hash ∧ t.outs[op.index]? = some uc.amount ∧ lookup L.credit op = some uc.change := by
  unfold expUnminedCredits
  simp only [List.mem_flatMap, List.mem_filterMap]
  constructor
  · rintro ⟨t, ht, ⟨i, a⟩, hm, hv⟩
    rw [mem_withIdx0] at hm
    simp only at hv
    split at hv
    · rename_i chg hl
      simp only [Option.some.injEq, Prod.mk.injEq] at hv
      obtain ⟨rfl, rfl⟩ := hv
      exact ⟨t, ht, rfl, hm, hl⟩
    · cases hv
  · rintro ⟨t, ht, h1, h2, h3⟩
    refine ⟨t, ht, (op.index, uc.amount), (mem_withIdx0 _ _ _).mpr h2, ?_⟩
    have hk : (⟨t.hash, op.index⟩ : OutPoint) = op := (OutPoint.eq_of_fields h1 rfl).symm
    simp only [hk, h3]

theorem mem_expCredits_congr {L L' : Ledger} (hc : L'.chain = L.chain)
    (hl : ∀ p ∈ chainTxs L, ∀ op : OutPoint, op.hash = p.1.hash → lookup L'.credit op = lookup L.credit op)
    (kv : CredKey × CreditVal) : kv ∈ expCredits L' ↔ kv ∈ expCredits L := by
  have hct : chainTxs L' = chainTxs L := by unfold chainTxs; rw [hc]
  have hsp : ∀ op, spenderOf L' op = spenderOf L op := fun op => by unfold spenderOf; rw [hct]
  obtain ⟨k, v⟩ := kv
  simp only [mem_expCredits, hct, hsp]
  exact exists_congr fun t => exists_congr fun bm => and_congr_right fun hm => and_congr_right fun e =>
    by rw [hl _ hm _ e]

theorem mem_expUnminedCredits_congr {L L' : Ledger} (hp : L'.pool = L.pool)
    (hl : ∀ t ∈ L.pool, ∀ op : OutPoint, op.hash = t.hash → lookup L'.credit op = lookup L.credit op)
    (kv : OutPoint × UCredit) : kv ∈ expUnminedCredits L' ↔ kv ∈ expUnminedCredits L := by
  obtain ⟨op, uc⟩ := kv
  simp only [mem_expUnminedCredits, hp]
  exact exists_congr fun t => and_congr_right fun ht => and_congr_right fun e => by rw [hl t ht _ e]

theorem mem_poolSpenders {L : Ledger} {op : OutPoint} {h : Nat} :
    h ∈ poolSpenders L op ↔ ∃ t ∈ L.pool, op ∈ t.ins ∧ t.hash = h := by
  unfold poolSpenders
  simp only [List.mem_map, List.mem_filter, List.contains_iff_mem]
  constructor
  · rintro ⟨t, ⟨ht, hi⟩, rfl⟩; exact ⟨t, ht, hi, rfl⟩
  · rintro ⟨t, ht, hi, rfl⟩; exact ⟨t, ⟨ht, hi⟩, rfl⟩

structure Refines (s : Store) (L : Ledger) : Prop where
  blocks : s.blocks = L.chain.map blockEntry
  txrecs : ∀ k v, s.txrecs.find? k = some v ↔ (k, v) ∈ expTxrecs L
  unmined : ∀ k v, s.unmined.find? k = some v ↔ (k, v) ∈ expUnmined L
  credits : ∀ k v, s.credits.find? k = some v ↔ (k, v) ∈ expCredits L
  debits : ∀ dk d, s.debits.find? dk = some d ↔
    ∃ cv, s.credits.find? d.credKey = some cv ∧ cv.spender = some dk ∧ cv.amount = d.amount
  ucredits : ∀ k v, s.unminedCredits.find? k = some v ↔ (k, v) ∈ expUnminedCredits L
  uinputs : ∀ op h, h ∈ spendHashes s op ↔ h ∈ poolSpenders L op
  uinputsNE : ∀ op, s.unminedInputs.find? op ≠ some []
  /-- leases: stored whole seconds = the instant handed to the caller -/
  leases : ∀ op, (s.locked.find? op).map (fun l => (l.id, l.expiry * 1000000000)) =
    (lookup L.leases op).map (fun l => (l.id, l.expiry))
  /-- these four buckets hold one entry per key (the other buckets: `WF`) -/
  nodupTxrecs : NodupKeys s.txrecs
  nodupUnmined : NodupKeys s.unmined
  nodupDebits : NodupKeys s.debits
  nodupLocked : NodupKeys s.locked

structure Good (s : Store) (L : Ledger) : Prop where
  wf2 : WF2 s
  lwf : LWF L
  ref : Refines s L

/-- an unconfirmed transaction does not conflict with a confirmed one (not part of `Good`: it holds between events, not in the
middle of *confirmed*, and only the history queries need it) -/
def NoConflict (L : Ledger) : Prop := ∀ t ∈ L.pool, ∀ i ∈ t.ins, spentConfirmed L i = false

/-- the shape of the clauses `txrecs`, `unmined`, `credits`, `ucredits` of `Refines`, which are written out there -/
abbrev Holds {κ ν : Type} [DecidableEq κ] (b : KMap κ ν) (E : List (κ × ν)) : Prop :=
  ∀ k v, b.find? k = some v ↔ (k, v) ∈ E

namespace Holds

theorem congr {κ ν : Type} [DecidableEq κ] {b : KMap κ ν} {E E' : List (κ × ν)} (h : Holds b E)
    (hE : ∀ p, p ∈ E' ↔ p ∈ E) : Holds b E' :=
  fun k v => (h k v).trans (hE (k, v)).symm

theorem insert {κ ν : Type} [DecidableEq κ] [KOrd κ] {b : KMap κ ν} {E E' : List (κ × ν)} {k : κ} {v : ν}
    (h : Holds b E) (hk : ∀ v', (k, v') ∉ E) (hE : ∀ p, p ∈ E' ↔ p ∈ E ∨ p = (k, v)) : Holds (b.insert k v) E' := by
  intro k' v'
  rw [find?_insert, hE]
  by_cases e : k = k'
  · subst e; simp [hk, eq_comm]
  · simp [e, h k' v', Ne.symm e]

theorem erase {κ ν : Type} [DecidableEq κ] {b : KMap κ ν} {E E' : List (κ × ν)} {k : κ} (h : Holds b E)
    (hE : ∀ k' v', (k', v') ∈ E' ↔ (k', v') ∈ E ∧ k' ≠ k) : Holds (b.erase k) E' :=
  fun k' v' => find?_erase_eq_some.trans
    ((and_comm.trans (and_congr (h k' v') ne_comm)).trans (hE k' v').symm)

theorem of_mem {κ ν : Type} [DecidableEq κ] {b : KMap κ ν} {E : List (κ × ν)}
    (hmem : ∀ k v, (k, v) ∈ E → b.find? k = some v) (hkey : ∀ k v, b.find? k = some v → ∃ v', (k, v') ∈ E) :
    Holds b E := fun k v => ⟨fun h => by
      obtain ⟨v', h'⟩ := hkey k v h
      cases h.symm.trans (hmem k v' h'); exact h', hmem k v⟩

theorem perm {κ ν : Type} [DecidableEq κ] {b : KMap κ ν} {E : List (κ × ν)} (h : Holds b E)
    (hb : NodupKeys b) (hE : E.Nodup) : b.Perm E :=
  (List.filter_eq_self (l := b)).mpr (fun _ _ => rfl) ▸ filter_perm_of_find?_iff hb (fun _ => true) hE fun k v => (and_iff_left rfl).trans (h k v)

theorem find?_eq_none {κ ν : Type} [DecidableEq κ] {b : KMap κ ν} {E : List (κ × ν)} (h : Holds b E) {k : κ}
    (hk : ∀ v, (k, v) ∉ E) : b.find? k = none :=
  Option.eq_none_iff_forall_ne_some.mpr fun v e => hk v ((h k v).mp e)

end Holds

namespace Refines
variable {s : Store} {L : Ledger} (hr : Refines s L)
include hr

theorem unmined_iff (h : Nat) (t : Tx) :
    s.unmined.find? h = some t ↔ t ∈ L.pool ∧ h = t.hash := by
  rw [hr.unmined, mem_expUnmined]

theorem txrecs_iff (k : TxKey) (t : Tx) :
    s.txrecs.find? k = some t ↔ ∃ bm, (t, bm) ∈ chainTxs L ∧ k = ⟨t.hash, bm.block⟩ := by
  rw [hr.txrecs, mem_expTxrecs]

theorem ucredits_iff (op : OutPoint) (uc : UCredit) :
    s.unminedCredits.find? op = some uc ↔
      ∃ t ∈ L.pool, op.hash = t.hash ∧ t.outs[op.index]? = some uc.amount ∧ lookup L.credit op = some uc.change := by
  rw [hr.ucredits, mem_expUnminedCredits]

theorem credits_iff (k : CredKey) (v : CreditVal) :
    s.credits.find? k = some v ↔
      ∃ t bm, (t, bm) ∈ chainTxs L ∧ k.hash = t.hash ∧ k.block = bm.block ∧ t.outs[k.index]? = some v.amount ∧
      lookup L.credit k.outPoint = some v.change ∧ v.spender = spenderOf L k.outPoint ∧
      v.spent = (spenderOf L k.outPoint).isSome := by
  rw [hr.credits, mem_expCredits]

theorem unmined_of_pool {t : Tx} (ht : t ∈ L.pool) :
    s.unmined.find? t.hash = some t :=
  (hr.unmined_iff _ _).mpr ⟨ht, rfl⟩

theorem unmined_none {h : Nat} (hk : ∀ t ∈ L.pool, t.hash ≠ h) : s.unmined.find? h = none :=
  Holds.find?_eq_none hr.unmined fun v hv => hk v (mem_expUnmined.mp hv).1 (mem_expUnmined.mp hv).2.symm

theorem txrec_of_mined {t : Tx} {bm : BlockMeta}
    (ht : (t, bm) ∈ chainTxs L) : s.txrecs.find? ⟨t.hash, bm.block⟩ = some t :=
  (hr.txrecs_iff _ _).mpr ⟨bm, ht, rfl⟩

theorem credit_of_mined {t : Tx} {bm : BlockMeta}
    (ht : (t, bm) ∈ chainTxs L) {i : Nat} {amt : Int} {chg : Bool} (ha : t.outs[i]? = some amt)
    (hc : lookup L.credit ⟨t.hash, i⟩ = some chg) :
    s.credits.find? ⟨t.hash, bm.block, i⟩ =
      some ⟨amt, chg, (spenderOf L ⟨t.hash, i⟩).isSome, spenderOf L ⟨t.hash, i⟩⟩ :=
  (hr.credits_iff _ _).mpr ⟨t, bm, ht, rfl, rfl, ha, hc, rfl, rfl⟩

end Refines

def Event.tx? : Event → Option Tx
  | .seen t _ => some t
  | .confirmed _ t _ => some t
  | _ => none

/-- chain consistency of the next event: `Ledger.consistent`, `Ledger.extra` (inputs name existing outputs; no
unconfirmed transaction conflicting with a confirmed one is delivered), a transaction has at most 2^32−1 outputs and
does not spend an output of itself -/
structure Consistent (L : Ledger) (e : Event) : Prop where
  cons : consistent L e = true
  extra : extra L e = true
  bound : ∀ t, Event.tx? e = some t → t.outs.length ≤ nullIndex ∧ ∀ i ∈ t.ins, i.hash ≠ t.hash

def storeAfter (s : Store) (L : Ledger) : List Event → M Store
  | [] => pure s
  | e :: es => do
    let s' ← stepEvent s L.now e
    storeAfter s' (Ledger.apply L e) es

def ledgerAfter (L : Ledger) (es : List Event) : Ledger := es.foldl Ledger.apply L

def ConsistentHistory (L : Ledger) : List Event → Prop
  | [] => True
  | e :: es => Consistent L e ∧ ConsistentHistory (Ledger.apply L e) es

def Event.noReorg : Event → Prop
  | .disconnected _ => False
  | _ => True

def consistentHistoryB (L : Ledger) : List Event → Bool
  | [] => true
  | e :: es => consistent L e && extra L e &&
      (match Event.tx? e with
        | some t => decide (t.outs.length ≤ nullIndex) && t.ins.all (·.hash != t.hash)
        | none => true) && consistentHistoryB (Ledger.apply L e) es

theorem consistentHistory_of_b : ∀ (es : List Event) (L : Ledger), consistentHistoryB L es = true →
    ConsistentHistory L es
  | [], _, _ => trivial
  | e :: es, L, h => by
    simp only [consistentHistoryB, Bool.and_eq_true] at h
    refine ⟨⟨h.1.1.1, h.1.1.2, fun t ht => ?_⟩, consistentHistory_of_b es _ h.2⟩
    rw [ht] at h
    simpa using h.1.2

end TxStore
