import BtcwVerif.Lemmas.WFMined
import BtcwVerif.Lemmas.InvPres
/-!
# `WF2` = `WF` + the debit clauses `rollback` relies on

Every debit record points at an existing credit that is marked spent by exactly that debit, belongs to a recorded
transaction whose input at that position is the credit's outpoint, sits at or above the credit's block, and never
debits an output of its own transaction.  Recorded transactions have at most 2^32−1 outputs (so that no credit can
be mistaken for the null outpoint of a coinbase input).  `DebLoop` is the weaker form that holds inside `rollback`.
`insertMinedTx` keeps `WF2` under `ConfirmPre2` (`wf2_insertMinedTx`); its spend loop is carried by `SpendInv`, its move
loop by `wf2_moveCredits`.
-/
namespace TxStore
open KMap

def DebitBase (tr : TxKey → Option Tx) (dk : CredKey) (d : DebitVal) : Prop :=
  (∃ rec, tr dk.txKey = some rec ∧ rec.ins[dk.index]? = some d.credKey.outPoint) ∧
  d.credKey.block.height ≤ dk.block.height ∧ d.credKey.index < nullIndex ∧ d.credKey.hash ≠ dk.hash

def DebitLive (s : Store) (dk : CredKey) (d : DebitVal) : Prop :=
  ∃ cv, s.credits.find? d.credKey = some cv ∧ cv.spent = true ∧ cv.spender = some dk

def DebitsOK (s : Store) : Prop :=
  ∀ dk d, s.debits.find? dk = some d → DebitBase s.txrecs.find? dk d ∧ DebitLive s dk d

def OutsBound (s : Store) : Prop := ∀ k rec, s.txrecs.find? k = some rec → rec.outs.length ≤ nullIndex

structure WF2 (s : Store) : Prop where
  wf : WF s
  deb : DebitsOK s
  outs : OutsBound s

theorem wf2_empty : WF2 Store.empty := by
  refine ⟨?_, ?_, ?_⟩
  · refine ⟨List.nodup_nil, List.nodup_nil, List.nodup_nil, List.Pairwise.nil, ?_, ?_, ?_, ?_, ?_, ?_, rfl⟩
    · intro p hp; cases hp
    · intro p hp; cases hp
    · intro k rec h; cases h
    · intro k1 k2 h; cases h
    · intro k cv h; cases h
    · intro op blk
      constructor
      · intro h; cases h
      · rintro ⟨cv, h, _⟩; cases h
  · intro dk d h; cases h
  · intro k rec h; cases h

/-- debits during `rollback`: a debit may be *dangling* (its credit already erased) when the credit belonged to a
transaction of the block `blk` being processed that was removed earlier (`D`) -/
def DebLoop (blk : Block) (D : List Nat) (s : Store) : Prop :=
  ∀ dk d, s.debits.find? dk = some d → DebitBase s.txrecs.find? dk d ∧
    (DebitLive s dk d ∨ (s.credits.find? d.credKey = none ∧ d.credKey.block = blk ∧ d.credKey.hash ∈ D))

theorem debLoop_nil {blk : Block} {s : Store} : DebLoop blk [] s ↔ DebitsOK s :=
  ⟨fun h dk d hf => (h dk d hf).imp_right fun b => b.resolve_right fun b => (nomatch b.2.2),
   fun h dk d hf => (h dk d hf).imp_right .inl⟩

/-- debits may go and credits may be written: a remaining debit is as it was if its credit still reads the same, and
dangles if that credit, of a transaction in `D`, has been erased -/
theorem DebLoop.mono {blk : Block} {D : List Nat} {s s' : Store} (h : DebLoop blk D s) (ht : s'.txrecs = s.txrecs)
    (hd : ∀ dk d, s'.debits.find? dk = some d → s.debits.find? dk = some d ∧
      (s'.credits.find? d.credKey = s.credits.find? d.credKey ∨
        s'.credits.find? d.credKey = none ∧ d.credKey.block = blk ∧ d.credKey.hash ∈ D)) :
    DebLoop blk D s' := by
  intro dk d hf
  obtain ⟨hf, hc⟩ := hd dk d hf
  obtain ⟨h1, h2⟩ := h dk d hf
  refine ⟨ht ▸ h1, hc.elim (fun hc => ?_) .inr⟩
  unfold DebitLive
  rw [hc]
  exact h2

theorem DebitsOK.putCredit {s s' : Store} (h : DebitsOK s) (ht : s'.txrecs = s.txrecs) (hd : s'.debits = s.debits)
    (k : CredKey) (nv : CreditVal) (hc : s'.credits = s.credits.insert k nv)
    (hk : ∀ cv, s.credits.find? k = some cv → cv.spent = false) : DebitsOK s' :=
  debLoop_nil.mp <| (debLoop_nil (blk := k.block)).mpr h |>.mono ht fun dk d hf =>
    ⟨hd ▸ hf, .inl <| hc ▸ find?_insert_ne _ _ fun e => by
      obtain ⟨cv, hcv, hs, _⟩ := (h dk d (hd ▸ hf)).2
      rw [hk cv (e ▸ hcv)] at hs
      cases hs⟩

/-- `WF2` reads the mined part and asks of the rest only that bucket `mc` has unique keys -/
theorem wf2_of_sameMined {s s' : Store} (hw : WF2 s) (h : SameMined s s') (hn : NodupKeys s'.unminedCredits) : WF2 s' := by
  obtain ⟨hb, ht, hc, hu, hm, hd⟩ := h
  refine ⟨hw.wf.of_eq hb ht hc hu hm hn, fun dk d hf => ?_, fun k rec hf => hw.outs k rec (ht ▸ hf)⟩
  obtain ⟨h1, h2⟩ := hw.deb dk d (hd ▸ hf)
  exact ⟨ht ▸ h1, by unfold DebitLive; rw [hc]; exact h2⟩

theorem UPath.wf2 {s s' : Store} (h : UPath s s') (hw : WF2 s) : WF2 s' :=
  wf2_of_sameMined hw h.same (h.nuc hw.wf.nodupUC)

/-- a credit that is not there yet is added for an output of a recorded transaction: the write of a mined `addCredit` and of
`moveCredit` -/
theorem wf2_putCredit {s : Store} {rec : Tx} {blk : Block} {i : Nat} {amt : Int} (chg : Bool) (hw : WF2 s)
    (hrec : s.txrecs.find? ⟨rec.hash, blk⟩ = some rec) (hout : rec.outs[i]? = some amt)
    (hnone : s.credits.find? ⟨rec.hash, blk, i⟩ = none) :
    WF2 { s with credits := s.credits.insert ⟨rec.hash, blk, i⟩ ⟨amt, chg, false, none⟩,
                 minedBalance := s.minedBalance + amt, unspent := s.unspent.insert ⟨rec.hash, i⟩ blk } := by
  obtain ⟨_, br, hbr, hbh, htx⟩ := hw.wf.recListed _ _ hrec
  exact ⟨hw.wf.setCredit ⟨rec.hash, blk, i⟩ (some ⟨amt, chg, false, none⟩)
      (show (s.txrecs.find? ⟨rec.hash, blk⟩).isSome by rw [hrec]; rfl)
      (fun nv e => by cases e; exact ⟨br, rec, hbr, hbh, htx, hrec, hout⟩) rfl rfl hw.wf.nodupUC rfl rfl
      (by simp [hnone, liveAmount]),
    hw.deb.putCredit rfl rfl _ _ rfl (fun cv hcv => by rw [hnone] at hcv; cases hcv), hw.outs⟩

theorem wf2_addCredit_mined {s s' : Store} {rec : Tx} {bm : BlockMeta} {i : Nat} {chg : Bool} (hw : WF2 s)
    (h : addCredit s rec (some bm) i chg = .ok s')
    (hrec : s.txrecs.find? ⟨rec.hash, bm.block⟩ = some rec) : WF2 s' := by
  obtain rfl | ⟨amt, hout, hnone, rfl⟩ := addCredit_mined_result h
  · exact hw
  · exact wf2_putCredit chg hw hrec hout hnone

structure ConfirmPre2 (s : Store) (rec : Tx) (bm : BlockMeta) : Prop where
  pre : ConfirmPre s rec bm
  /-- the credits it spends were confirmed at or below its height (parents first) -/
  parentsBelow : ∀ inp blk0, s.unspent.find? inp = some blk0 → inp ∈ rec.ins → blk0.height ≤ bm.block.height
  /-- a transaction has at most 2^32−1 outputs -/
  outsBound : rec.outs.length ≤ nullIndex

theorem wf2_recordTx {s : Store} {rec : Tx} {bm : BlockMeta} (hw : WF2 s) (hp : ConfirmPre2 s rec bm) :
    WF2 (recordTx s rec bm) := by
  refine ⟨wf_recordTx s rec bm hw.wf hp.pre, ?_, ?_⟩
  · intro dk d hdf
    rw [recordTx_fields] at hdf
    obtain ⟨⟨⟨rec0, hr0, hin0⟩, hrest⟩, hl⟩ := hw.deb dk d hdf
    refine ⟨⟨⟨rec0, ?_, hin0⟩, hrest⟩, by unfold DebitLive; rw [recordTx_fields]; exact hl⟩
    rw [recordTx_fields]
    show KMap.find? (KMap.insert s.txrecs _ _) _ = _
    rw [find?_insert_ne _ _ (fun e => hp.pre.fresh dk.txKey (by rw [hr0]; rfl) (by rw [← e])), hr0]
  · intro k rec0 hk
    rw [recordTx_fields] at hk
    simp only [find?_insert] at hk
    split at hk
    · cases hk; exact hp.outsBound
    · exact hw.outs k rec0 hk

/-- what the first loop keeps fixed relative to the store it started from -/
structure SpendFix (s0 s : Store) : Prop where
  blocks : s.blocks = s0.blocks
  txrecs : s.txrecs = s0.txrecs
  uc : s.unminedCredits = s0.unminedCredits
  unmined : s.unmined = s0.unmined
  mb : s.minedBalance = s0.minedBalance
  creditKeys : ∀ k, (s.credits.find? k).isSome → (s0.credits.find? k).isSome

theorem updateMinedBalance_eq (s : Store) (rec : Tx) (block : Block) :
    updateMinedBalance s rec block =
      (let a := (withIdx rec.ins).foldl (spendInput rec block) (s, s.minedBalance)
       let b := (unminedCreditsOf a.1 rec.hash).foldl (moveCredit rec block) (a.1, a.2)
       if b.2 ≠ s.minedBalance then { b.1 with minedBalance := b.2 } else b.1) := rfl

theorem nodup_indices_of_same_hash (m : KMap OutPoint UCredit) (hn : NodupKeys m) (h : Nat) :
    ((m.filter fun p => decide (p.1.hash = h)).map (·.1.index)).Nodup := by
  have hk : (m.map (·.1)).Nodup := hn
  rw [List.Nodup, List.pairwise_map] at hk ⊢
  have hf := hk.filter (fun p : OutPoint × UCredit => decide (p.1.hash = h))
  refine hf.imp_of_mem ?_
  intro a b ha hb hab e
  apply hab
  have h1 : a.1.hash = h := by simpa using (List.mem_filter.mp ha).2
  have h2 : b.1.hash = h := by simpa using (List.mem_filter.mp hb).2
  cases a with | mk ao _ => cases b with | mk bo _ =>
  cases ao; cases bo; simp only at h1 h2 e ⊢; rw [h1, h2, e]

theorem wf2_moveCredits {rec : Tx} {bm : BlockMeta} : ∀ (L : List (OutPoint × UCredit)) (s : Store) (bal : Int),
    WF2 { s with minedBalance := bal } → s.txrecs.find? ⟨rec.hash, bm.block⟩ = some rec →
    (∀ p ∈ L, rec.outs[p.1.index]? = some p.2.amount ∧ s.credits.find? ⟨rec.hash, bm.block, p.1.index⟩ = none) →
    (L.map (·.1.index)).Nodup →
    WF2 { (L.foldl (moveCredit rec bm.block) (s, bal)).1 with
          minedBalance := (L.foldl (moveCredit rec bm.block) (s, bal)).2 } := by
  intro L
  induction L with
  | nil => exact fun s bal hw _ _ _ => hw
  | cons p t ih =>
    intro s bal hw hrs hL hnd
    obtain ⟨hout, hnone⟩ := hL p List.mem_cons_self
    rw [List.map_cons, List.nodup_cons] at hnd
    -- one step is the write of `addCredit` on the store whose counter is `bal`
    refine ih _ _ (wf2_putCredit p.2.change hw hrs hout hnone) hrs (fun q hq => ?_) hnd.2
    obtain ⟨h1, h2⟩ := hL q (List.mem_cons_of_mem _ hq)
    have hne : p.1.index ≠ q.1.index := fun e => hnd.1 (e ▸ List.mem_map.mpr ⟨q, hq, rfl⟩)
    exact ⟨h1, (find?_insert_ne _ _ fun e => hne (congrArg CredKey.index e)).trans h2⟩

/-- invariant of the first loop of `updateMinedBalance`, on (store, running balance), relative to the start `s0` -/
structure SpendInv (s0 : Store) (a : Store × Int) : Prop where
  wf2 : WF2 { a.1 with minedBalance := a.2 }
  fix : SpendFix s0 a.1
  sub : ∀ op b, a.1.unspent.find? op = some b → s0.unspent.find? op = some b

section
variable {rec : Tx} {bm : BlockMeta} {s0 : Store}
  (hrec : s0.txrecs.find? ⟨rec.hash, bm.block⟩ = some rec)
  (hnocred : ∀ k, (s0.credits.find? k).isSome → k.hash ≠ rec.hash)
-- every theorem of this section takes `hrec`, then `hnocred`, before its own arguments
include hrec hnocred

theorem spendInv_spendInput
    (hpb : ∀ inp blk0, s0.unspent.find? inp = some blk0 → inp ∈ rec.ins → blk0.height ≤ bm.block.height)
    {a : Store × Int} {i : Nat} {inp : OutPoint} (hin : rec.ins[i]? = some inp) (h : SpendInv s0 a) :
    SpendInv s0 (spendInput rec bm.block a (i, inp)) := by
  obtain ⟨s, bal⟩ := a
  obtain ⟨hw, hf, hsub⟩ := h
  cases hu : s.unspent.find? inp with
  | none => rw [spendInput_none hu]; exact ⟨hw, hf, hsub⟩
  | some blk0 =>
    obtain ⟨cv, hcv, hsp⟩ := (hw.wf.index inp blk0).mp hu
    have hcv' : s.credits.find? ⟨inp.hash, blk0, inp.index⟩ = some cv := hcv
    have hl := hw.wf.listed _ cv hcv
    have ⟨_, rec0, _, _, _, hr0, hout⟩ := hl
    rw [spendInput_some hu, spendStore, baseCredit_of_find hcv']
    refine ⟨⟨?_, fun dk d hdf => ?_, hw.outs⟩, ⟨hf.blocks, hf.txrecs, hf.uc, hf.unmined, hf.mb, fun k hk => ?_⟩,
      fun op b hob => hsub op b (find?_erase_eq_some.mp hob).2⟩
    · exact hw.wf.setCredit ⟨inp.hash, blk0, inp.index⟩ (some { cv with spent := true, spender := some ⟨rec.hash, bm.block, i⟩ })
        (by rw [hr0]; rfl) (fun nv e => by cases e; exact hl) rfl rfl hw.wf.nodupUC rfl rfl
        (by simp [liveAmount, hcv', hsp])
    · rw [find?_insert] at hdf
      split at hdf
      · rename_i e
        cases hdf; subst e
        refine ⟨⟨⟨rec, hf.txrecs ▸ hrec, hin⟩, hpb inp blk0 (hsub inp blk0 hu) (List.mem_of_getElem? hin), ?_,
          hnocred _ (hf.creditKeys _ (by rw [hcv']; rfl))⟩, _, find?_insert_self .., rfl, rfl⟩
        have := (List.getElem?_eq_some_iff.mp hout).1
        have := hw.outs _ _ hr0
        show inp.index < nullIndex
        simp only at *
        omega
      · exact (hw.deb.putCredit (s' := { s with credits := s.credits.insert _ _ }) rfl rfl _ _ rfl
          fun cv1 h1 => by rw [hcv'] at h1; cases h1; exact hsp) dk d hdf
    · apply hf.creditKeys
      rw [find?_insert] at hk
      split at hk
      · rename_i e; subst e; rw [hcv']; rfl
      · exact hk

theorem wf2_updateMinedBalance (hw : WF2 s0)
    (huc : ∀ op uc, s0.unminedCredits.find? op = some uc → op.hash = rec.hash → rec.outs[op.index]? = some uc.amount)
    (hpb : ∀ inp blk0, s0.unspent.find? inp = some blk0 → inp ∈ rec.ins → blk0.height ≤ bm.block.height) :
    WF2 (updateMinedBalance s0 rec bm.block) := by
  rw [updateMinedBalance_eq]
  dsimp only
  obtain ⟨hwA, hfA, _⟩ := List.foldlRecOn (motive := SpendInv s0) (withIdx rec.ins) (spendInput rec bm.block)
    (b := (s0, s0.minedBalance)) ⟨hw, ⟨rfl, rfl, rfl, rfl, rfl, fun _ h => h⟩, fun _ _ h => h⟩
    fun a h p hp => spendInv_spendInput hrec hnocred hpb ((mem_withIdx0 ..).mp hp) h
  generalize (withIdx rec.ins).foldl (spendInput rec bm.block) (s0, s0.minedBalance) = a at hwA hfA ⊢
  have hB := wf2_moveCredits (unminedCreditsOf a.1 rec.hash) a.1 a.2 hwA (hfA.txrecs ▸ hrec)
    (fun p hp => by
      rw [unminedCreditsOf, List.mem_filter, hfA.uc, mem_iff_find? _ hw.wf.nodupUC, decide_eq_true_eq] at hp
      refine ⟨huc p.1 p.2 hp.1 hp.2, ?_⟩
      cases hc : a.1.credits.find? ⟨rec.hash, bm.block, p.1.index⟩ with
      | none => rfl
      | some v => exact absurd rfl (hnocred _ (hfA.creditKeys _ (by rw [hc]; rfl))))
    (by rw [unminedCreditsOf, hfA.uc]; exact nodup_indices_of_same_hash _ hw.wf.nodupUC rec.hash)
  have hmb : ((unminedCreditsOf a.1 rec.hash).foldl (moveCredit rec bm.block) (a.1, a.2)).1.minedBalance =
      a.1.minedBalance :=
    loop_inv (f := moveCredit rec bm.block) (fun b : Store × Int => b.1.minedBalance = a.1.minedBalance)
      (fun _ _ hb => hb) _ rfl
  generalize (unminedCreditsOf a.1 rec.hash).foldl (moveCredit rec bm.block) (a.1, a.2) = b at hB hmb ⊢
  obtain ⟨sB, balB⟩ := b
  dsimp only at hB hmb ⊢
  split
  · exact hB
  · rename_i hne
    rwa [Decidable.not_not.mp hne, ← hfA.mb, ← hmb] at hB

end

theorem wf2_confirmCore {s : Store} {rec : Tx} {bm : BlockMeta} (hw : WF2 s) (hp : ConfirmPre2 s rec bm) :
    WF2 (confirmCore s rec bm) := by
  have hw1 : WF2 (updateMinedBalance (recordTx s rec bm) rec bm.block) := by
    refine wf2_updateMinedBalance (by rw [recordTx_fields]; exact find?_insert_self ..) (fun k hk => ?_)
      (wf2_recordTx hw hp) (fun op uc hf => ?_) (fun inp blk0 hu => ?_)
    · rw [recordTx_fields] at hk
      obtain ⟨cv, hc⟩ := Option.isSome_iff_exists.mp hk
      obtain ⟨_, rec0, _, _, _, hr0, _⟩ := hw.wf.listed k cv hc
      exact hp.pre.fresh k.txKey (by rw [hr0]; rfl)
    · rw [recordTx_fields] at hf; exact hp.pre.ucValid op uc hf
    · rw [recordTx_fields] at hu; exact hp.parentsBelow inp blk0 hu
  unfold confirmCore
  dsimp only
  split
  · exact (upath_deleteUnminedTx _ rec).wf2 hw1
  · exact hw1

theorem wf2_insertMinedTx {s s' : Store} {rec : Tx} {bm : BlockMeta} (hw : WF2 s) (hp : ConfirmPre2 s rec bm)
    (h : insertMinedTx s rec bm = .ok s') : WF2 s' := by
  rw [insertMinedTx_core] at h
  split at h
  · cases h
  · obtain ⟨s3, hds, h⟩ := bind_ok_iff.mp h
    cases h
    exact ((upath_removeDoubleSpends hds).trans (UPath.foldl upath_unlockOutputRaw rec.ins s3)).wf2
      (wf2_confirmCore hw hp)

/-- no debit can be recorded for the input of a coinbase: it is the null outpoint, whose index no credit has -/
theorem no_coinbase_debit {rec : Tx} (hcb : rec.isCoinBase = true) {j : Nat} {ck : CredKey}
    (hin : rec.ins[j]? = some ck.outPoint) : ¬ ck.index < nullIndex := by
  unfold Tx.isCoinBase at hcb
  split at hcb
  · rename_i i0 hins
    rw [hins] at hin
    cases j with
    | zero =>
      cases Option.some.inj hin
      simp only [Bool.and_eq_true, beq_iff_eq] at hcb
      exact fun h => Nat.lt_irrefl _ (hcb.1 ▸ h)
    | succ j => cases hin
  · cases hcb

end TxStore
