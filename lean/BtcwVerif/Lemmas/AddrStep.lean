import BtcwVerif.Model.AddrDeriveStep
import BtcwVerif.Lemmas.Util
/-!
What every proof about `step` and `run` of the `AddrDerive` model starts from.  Every operation but `Create` first passes the
dead-state guard (not created, poisoned): `step_lift`.  The state after a history has three spellings: `(run cfg hd ops).1`,
the model's (a fold only up to `run_eq_foldl`, because of its `[]` arm); `runState hd ops`, the state without the write stream
(`run_fst_eq`); and `(runLog hd ops).1`, the state with the issue log (`runLog_fst`, Lemmas/AddrIdxRun.lean).
-/
set_option linter.unusedSectionVars false
namespace AddrDerive
open AddrSym

variable {K P : Type} [DecidableEq K] [DecidableEq P]

theorem step_lift {Q : State K P × Res K × List Row → Prop} {s : State K P} (hdead : ∀ e, Q (s, .err e, []))
    {r : State K P × Res K × List Row} (hlive : Q r) :
    Q (if (!s.created) = true then (s, .err .notCreated, []) else if s.poisoned = true then (s, .err .poisoned, []) else r) :=
  ite_ind (fun _ => hdead _) fun _ => ite_ind (fun _ => hdead _) fun _ => hlive

theorem run_eq_foldl (cfg : Cfg) (hd : HD K P) (ops : List (Op K P)) :
    run cfg hd ops = ops.foldl (fun acc op => let r := step cfg hd acc.1 op; (r.1, acc.2 ++ r.2.2)) (emptyState, []) := by
  cases ops <;> rfl

def runState (hd : HD K P) (ops : List (Op K P)) : State K P := ops.foldl (fun s op => (step Cfg.fixed hd s op).1) emptyState

theorem run_fst_eq (hd : HD K P) (ops : List (Op K P)) : (run Cfg.fixed hd ops).1 = runState hd ops := by
  rw [run_eq_foldl]
  exact foldl_fst _ _ (fun _ _ => rfl) ops (emptyState, [])

theorem runState_append (hd : HD K P) (ops qs : List (Op K P)) :
    runState hd (ops ++ qs) = qs.foldl (fun s op => (step Cfg.fixed hd s op).1) (runState hd ops) :=
  List.foldl_append

theorem runState_snoc (hd : HD K P) (ops : List (Op K P)) (op : Op K P) :
    runState hd (ops ++ [op]) = (step Cfg.fixed hd (runState hd ops) op).1 :=
  runState_append hd ops [op]

end AddrDerive
