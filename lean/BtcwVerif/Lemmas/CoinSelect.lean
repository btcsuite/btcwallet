import BtcwVerif.Model.CoinSelect
/-!
Lemmas about `Model/CoinSelect.lean`: arrangement, the author loop and its fuel bound, the shape of every successful
`createTx`, and what recording a transaction does to the view.

Names: the model is namespace `CoinSelect`, this file and `Props/C06.lean` are `C06`.  `CoinSelect.author` / `fetch` /
`estimateVSize` / `feeFor` model `txauthor.NewUnsignedTransaction` only as far as C06 needs it (which coins become inputs);
its size and fee constants are written by hand and NOT tied to the generated code.  The arithmetic of that function is the
subject of `Model/Author.lean` (C07, tied by `C07_gen_*`): a change of author.go goes there, and here only if it changes
which inputs are fetched.
-/
namespace C06
open CoinSelect

theorem findEligible_nodup {V : View} (hV : (V.coins.map (·.op)).Nodup) (r : Request) : ((findEligibleOutputs V r).map (·.op)).Nodup :=
  hV.sublist ((List.filter_sublist.trans List.filter_sublist).map _)

theorem insertDesc_perm (c : Coin) (l : List Coin) : (insertDesc c l).Perm (c :: l) := by
  induction l with
  | nil => exact List.Perm.refl _
  | cons d ds ih =>
    simp only [insertDesc]
    split
    · exact List.Perm.refl _
    · exact (List.Perm.cons d ih).trans (List.Perm.swap c d ds)

theorem sortDesc_perm (l : List Coin) : (sortDesc l).Perm l := by
  induction l with
  | nil => exact List.Perm.refl _
  | cons c cs ih => exact (insertDesc_perm c _).trans (List.Perm.cons c ih)

theorem shuffle_perm (js : List Nat) (l : List Coin) : (shuffle js l).Perm l := by
  induction js generalizing l with
  | nil => exact List.Perm.refl _
  | cons j js ih =>
    simp only [shuffle]
    split
    · exact List.Perm.refl _
    · rename_i x hx
      have hmem : x ∈ l := List.mem_of_getElem? hx
      exact (List.Perm.cons x (ih _)).trans (List.perm_cons_erase hmem).symm

theorem arrange_sub (s : Strategy) (rate : Int) (E : List Coin) :
    ∃ F, (arrange s rate E).Perm F ∧ F.Sublist E := by
  cases s with
  | largest => exact ⟨E, sortDesc_perm E, List.Sublist.refl E⟩
  | random draws => exact ⟨_, shuffle_perm draws _, List.filter_sublist⟩

theorem arrange_mem {s : Strategy} {rate : Int} {E : List Coin} {c : Coin} (h : c ∈ arrange s rate E) : c ∈ E := by
  obtain ⟨F, hp, hs⟩ := arrange_sub s rate E
  exact hs.subset (hp.mem_iff.mp h)

theorem arrange_nodup {s : Strategy} {rate : Int} {E : List Coin} (h : (E.map (·.op)).Nodup) :
    ((arrange s rate E).map (·.op)).Nodup := by
  obtain ⟨F, hp, hs⟩ := arrange_sub s rate E
  exact (hp.map _).nodup_iff.mpr (List.Nodup.sublist (hs.map _) h)

theorem fetch_spec (target : Int) (taken rest : List Coin) :
    ∃ k, fetch target taken rest = (taken ++ rest.take k, rest.drop k) := by
  induction rest generalizing taken with
  | nil => exact ⟨0, by simp [fetch]⟩
  | cons c cs ih =>
    simp only [fetch]
    split
    · obtain ⟨k, hk⟩ := ih (taken ++ [c])
      exact ⟨k + 1, by simp [hk]⟩
    · exact ⟨0, by simp⟩

theorem author_succ (r : Request) (fuel : Nat) (fee : Int) {taken rest : List Coin} {p : List Coin × List Coin}
    (hp : fetch (sumOutputs r.outputs + fee) taken rest = p) :
    author r (fuel + 1) fee taken rest =
      if total p.1 < sumOutputs r.outputs + fee then .error .insufficient
      else if total p.1 - sumOutputs r.outputs < feeOfInputs r p.1 then author r fuel (feeOfInputs r p.1) p.1 p.2
      else .ok (p.1, feeOfInputs r p.1) := by
  subst hp; rfl

theorem author_spec (r : Request) (fuel : Nat) : ∀ (fee : Int) (taken rest : List Coin) {res : List Coin × Int},
    author r fuel fee taken rest = .ok res → ∃ k, res.1 = taken ++ rest.take k := by
  induction fuel with
  | zero => exact fun _ _ _ _ h => nomatch h
  | succ n ih =>
    intro fee taken rest res h
    obtain ⟨k, hk⟩ := fetch_spec (sumOutputs r.outputs + fee) taken rest
    rw [author_succ r n fee hk] at h
    by_cases h1 : total (taken ++ rest.take k) < sumOutputs r.outputs + fee
    · rw [if_pos h1] at h; cases h
    · rw [if_neg h1] at h
      by_cases h2 : total (taken ++ rest.take k) - sumOutputs r.outputs < feeOfInputs r (taken ++ rest.take k)
      · rw [if_pos h2] at h
        obtain ⟨k', hk'⟩ := ih _ _ _ h
        exact ⟨k + k', by rw [hk', List.append_assoc, List.take_add]⟩
      · rw [if_neg h2] at h
        cases h
        exact ⟨k, rfl⟩

theorem lookupEligible_some {E : List Coin} {op : OutPoint} {c : Coin} (h : lookupEligible E op = some c) :
    c ∈ E ∧ c.op = op := by
  unfold lookupEligible at h
  have hop : (c.op == op) = true := List.find?_some (p := fun x : Coin => x.op == op) h
  exact ⟨List.mem_reverse.mp (List.mem_of_find?_eq_some h), beq_iff_eq.mp hop⟩

theorem selectLoop_cons_ok {E : List Coin} {op : OutPoint} {ops seen : List OutPoint} {acc cs : List Coin}
    (h : selectLoop E (op :: ops) seen acc = .ok cs) :
    op ∉ seen ∧ ∃ c, lookupEligible E op = some c ∧ selectLoop E ops (op :: seen) (acc ++ [c]) = .ok cs := by
  rw [selectLoop] at h
  by_cases hs : seen.contains op = true
  · rw [if_pos hs] at h; cases h
  · rw [if_neg hs] at h
    refine ⟨fun hm => hs (List.contains_iff_mem.mpr hm), ?_⟩
    cases hl : lookupEligible E op with
    | none => rw [hl] at h; cases h
    | some c => rw [hl] at h; exact ⟨c, rfl, h⟩

theorem selectLoop_spec (E : List Coin) (sel seen : List OutPoint) (acc : List Coin) {cs : List Coin}
    (h : selectLoop E sel seen acc = .ok cs) :
    ∃ new, cs = acc ++ new ∧ new.map (·.op) = sel ∧ (∀ c ∈ new, c ∈ E) ∧ sel.Nodup ∧ ∀ o ∈ sel, o ∉ seen := by
  induction sel generalizing seen acc with
  | nil => cases h; exact ⟨[], (List.append_nil _).symm, rfl, fun _ h => (List.not_mem_nil h).elim, List.nodup_nil,
      fun _ h => (List.not_mem_nil h).elim⟩
  | cons op ops ih =>
    obtain ⟨hseen, c, hc, h⟩ := selectLoop_cons_ok h
    obtain ⟨hcE, hcop⟩ := lookupEligible_some hc
    obtain ⟨new, h1, h2, h3, h4, h5⟩ := ih _ _ h
    refine ⟨c :: new, ?_, ?_, List.forall_mem_cons.mpr ⟨hcE, h3⟩,
      List.nodup_cons.mpr ⟨fun hm => h5 op hm List.mem_cons_self, h4⟩,
      List.forall_mem_cons.mpr ⟨hseen, fun o ho hs => h5 o ho (List.mem_cons_of_mem _ hs)⟩⟩
    · rw [h1, List.append_assoc, List.singleton_append]
    · rw [List.map_cons, hcop, h2]

theorem source_spec {E : List Coin} {r : Request} {taken rest : List Coin} (hE : (E.map (·.op)).Nodup)
    (h : sourceWith (fun E s => selectLoop E s [] []) E r = .ok (taken, rest)) :
    (∀ c ∈ taken ++ rest, c ∈ E) ∧ ((taken ++ rest).map (·.op)).Nodup ∧
    (r.selected ≠ [] → rest = [] ∧ taken.map (·.op) = r.selected) := by
  unfold sourceWith at h
  by_cases hemp : r.selected.isEmpty = true
  · rw [if_pos hemp] at h
    cases h
    exact ⟨fun c hc => arrange_mem hc, arrange_nodup hE, fun hne => absurd (List.isEmpty_iff.mp hemp) hne⟩
  · rw [if_neg hemp] at h
    dsimp only at h
    cases hcs : selectLoop E r.selected [] [] with
    | error e => rw [hcs] at h; cases h
    | ok cs =>
      rw [hcs] at h
      cases h
      obtain ⟨new, rfl, h2, h3, h4, _⟩ := selectLoop_spec _ _ _ _ hcs
      rw [List.append_nil]
      exact ⟨h3, h2 ▸ h4, fun _ => ⟨rfl, h2⟩⟩

/-- Every successful `createTx` spends a duplicate-free list of coins taken from `findEligibleOutputs`. -/
theorem createTx_shape {V : View} {r : Request} {tx : Authored} (hV : (V.coins.map (·.op)).Nodup)
    (h : createTx V r = .ok tx) :
    (∀ c ∈ tx.ins, c ∈ findEligibleOutputs V r) ∧ (tx.ins.map (·.op)).Nodup ∧
    (r.selected ≠ [] → tx.ins.map (·.op) = r.selected) := by
  unfold createTx createTxWith at h
  cases hsrc : sourceWith (fun E s => selectLoop E s [] []) (findEligibleOutputs V r) r with
  | error e => rw [hsrc] at h; cases h
  | ok p =>
    obtain ⟨taken, rest⟩ := p
    rw [hsrc] at h
    dsimp only at h
    obtain ⟨hmem, hnd, hselx⟩ := source_spec (findEligible_nodup hV r) hsrc
    cases hres : author r (rest.length + 2) (initialFee r) taken rest with
    | error e => rw [hres] at h; cases h
    | ok res =>
      rw [hres] at h
      cases h
      obtain ⟨k, hk⟩ := author_spec _ _ _ _ _ hres
      have hsub : (taken ++ rest.take k).Sublist (taken ++ rest) :=
        List.Sublist.append (List.Sublist.refl _) (List.take_sublist k rest)
      show (∀ c ∈ res.1, _) ∧ (res.1.map _).Nodup ∧ (_ → res.1.map _ = _)
      rw [hk]
      refine ⟨fun c hc => hmem c (hsub.subset hc), List.Nodup.sublist (hsub.map _) hnd, fun hne => ?_⟩
      obtain ⟨rfl, ht⟩ := hselx hne
      rw [List.take_nil, List.append_nil]
      exact ht

/-- the function `publishAccepted` maps over the coins of the view (the model writes it as a lambda; `mem_publishAccepted`
holds because the two are the same term) -/
def mark (t : Authored) (d : Coin) : Coin :=
  if t.ins.any (·.op == d.op) then { d with spentByKnown := true } else d

theorem mark_cases (t : Authored) (d : Coin) : (mark t d).op = d.op ∧
    ((∃ i ∈ t.ins, i.op = d.op) ∧ (mark t d).spentByKnown = true ∨ (∀ i ∈ t.ins, i.op ≠ d.op) ∧ mark t d = d) := by
  unfold mark
  by_cases h : t.ins.any (·.op == d.op) = true
  · rw [if_pos h]
    obtain ⟨i, hi, hio⟩ := List.any_eq_true.mp h
    exact ⟨rfl, .inl ⟨⟨i, hi, beq_iff_eq.mp hio⟩, rfl⟩⟩
  · rw [if_neg h]
    exact ⟨rfl, .inr ⟨fun i hi hio => h (List.any_eq_true.mpr ⟨i, hi, beq_iff_eq.mpr hio⟩), rfl⟩⟩

theorem mem_publishAccepted {V : View} {t : Authored} {new : List Coin} {c : Coin} :
    c ∈ (publishAccepted V t new).coins ↔ (∃ d ∈ V.coins, mark t d = c) ∨ c ∈ new :=
  List.mem_append.trans (or_congr_left List.mem_map)

theorem publishAccepted_spent {V : View} {t : Authored} {new : List Coin} {c : Coin}
    (hc : c ∈ (publishAccepted V t new).coins) (hunspent : c.spentByKnown = false) :
    c ∈ new ∨ ∀ i ∈ t.ins, i.op ≠ c.op := by
  rcases mem_publishAccepted.mp hc with ⟨d, _, rfl⟩ | h
  · rcases (mark_cases t d).2 with ⟨_, hs⟩ | ⟨hno, he⟩
    · rw [hs] at hunspent; cases hunspent
    · exact .inr (he.symm ▸ hno)
  · exact .inl h

def Marked (V : View) (used : List OutPoint) : Prop :=
  ∀ o ∈ used, (∃ c ∈ V.coins, c.op = o) ∧ ∀ c ∈ V.coins, c.op = o → c.spentByKnown = true

theorem marked_step {V : View} {used : List OutPoint} {t : Authored} {new : List Coin}
    (hm : Marked V used) (hins : ∀ i ∈ t.ins, i ∈ V.coins)
    (hnew : ∀ n ∈ new, ∀ c ∈ V.coins, c.op ≠ n.op) :
    Marked (publishAccepted V t new) (t.ins.map (·.op) ++ used) := by
  intro o ho
  obtain ⟨d, hd, hdo⟩ : ∃ c ∈ V.coins, c.op = o := by
    rcases List.mem_append.mp ho with h | h
    · obtain ⟨i, hi, hio⟩ := List.mem_map.mp h
      exact ⟨i, hins i hi, hio⟩
    · exact (hm o h).1
  refine ⟨⟨_, mem_publishAccepted.mpr (.inl ⟨d, hd, rfl⟩), (mark_cases t d).1.trans hdo⟩, fun c hc hco => ?_⟩
  rcases mem_publishAccepted.mp hc with ⟨d', hd', rfl⟩ | hn
  · obtain ⟨hop, ⟨_, hs⟩ | ⟨hno, he⟩⟩ := mark_cases t d'
    · exact hs
    · -- not spent by `t`: then `o` is not an input of `t`, so it was used, and marked, before
      rw [he] at hco ⊢
      rcases List.mem_append.mp ho with h | h
      · obtain ⟨i, hi, hio⟩ := List.mem_map.mp h
        exact absurd (hio.trans hco.symm) (hno i hi)
      · exact (hm o h).2 d' hd' hco
  · exact absurd (hdo.trans hco.symm) (hnew c hn d hd)

theorem fetch_snd_length (target : Int) (taken rest : List Coin) : (fetch target taken rest).2.length ≤ rest.length := by
  obtain ⟨k, hk⟩ := fetch_spec target taken rest
  rw [hk]; exact List.length_drop ▸ Nat.sub_le ..

theorem fetch_hungry {target : Int} {taken : List Coin} (rest : List Coin) (h : total taken < target) :
    (fetch target taken rest).2.length < rest.length ∨ total (fetch target taken rest).1 < target := by
  cases rest with
  | nil => exact .inr h
  | cons c cs =>
    rw [fetch, if_pos h]
    exact .inl (Nat.lt_succ_of_le (fetch_snd_length ..))

/-- a round that starts below its target takes a coin or ends the loop; one that goes on ends below the next target -/
theorem author_fuel (r : Request) (fuel : Nat) : ∀ (fee : Int) (taken rest : List Coin) (k : Nat),
    rest.length + 2 ≤ fuel ∨ total taken < sumOutputs r.outputs + fee ∧ rest.length + 1 ≤ fuel →
    author r (fuel + k) fee taken rest = author r fuel fee taken rest := by
  induction fuel with
  | zero => exact fun _ _ _ _ h => (h.elim (Nat.not_succ_le_zero _) fun h => Nat.not_succ_le_zero _ h.2).elim
  | succ f ih =>
    intro fee taken rest k h
    have hlen := fetch_snd_length (sumOutputs r.outputs + fee) taken rest
    have hhun := fetch_hungry (target := sumOutputs r.outputs + fee) (taken := taken) rest
    generalize hp : fetch (sumOutputs r.outputs + fee) taken rest = p at hlen hhun
    rw [Nat.add_right_comm f 1 k, author_succ r _ fee hp, author_succ r _ fee hp]
    by_cases h1 : total p.1 < sumOutputs r.outputs + fee
    · rw [if_pos h1, if_pos h1]
    · rw [if_neg h1, if_neg h1]
      by_cases h2 : total p.1 - sumOutputs r.outputs < feeOfInputs r p.1
      · rw [if_pos h2, if_pos h2]
        refine ih _ _ _ k (.inr ⟨Int.lt_add_of_sub_left_lt h2, ?_⟩)
        rcases h with h | ⟨hh, h⟩
        · exact Nat.le_of_succ_le_succ (Nat.le_trans (Nat.succ_le_succ (Nat.succ_le_succ hlen)) h)
        · exact Nat.le_trans ((hhun hh).resolve_right h1) (Nat.le_of_succ_le_succ h)
      · rw [if_neg h2, if_neg h2]

end C06
