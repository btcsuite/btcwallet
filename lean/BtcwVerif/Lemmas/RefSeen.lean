import BtcwVerif.Lemmas.RefDetails
/-!
# Refinement, event *seen*: `insertMemPoolTx` + unconfirmed `addCredit` realise `Ledger.apply (.seen t cr)`
The event *confirmed* (RefChain, RefConfirmed) takes from here `LWF.extend` (a transaction becomes known), `addCredit1` with its
`lookup_…`/`lwf_…`/`foldl_…` lemmas (one step of `Ledger.addCredits`) and `good_foldlM` (a loop of store calls against a loop of
ledger steps).
-/
namespace TxStore
open KMap Ledger

theorem validRefs_iff {L : Ledger} {t : Tx} :
    validRefs L t = true ↔ ∀ i ∈ t.ins, ∀ q ∈ known L, q.1.hash = i.hash → i.index < q.1.outs.length := by
  unfold validRefs
  simp only [List.all_eq_true, Bool.or_eq_true, bne_iff_ne, ne_eq, decide_eq_true_eq]
  exact forall_congr' fun i => forall_congr' fun _ => forall_congr' fun q => forall_congr' fun _ => Decidable.imp_iff_not_or.symm

/-- `consistent`, `extra` and `bound` of a *seen* event for a transaction not yet known, as propositions (`seenFresh_of`) -/
structure SeenFresh (L : Ledger) (t : Tx) (cr : List (Nat × Bool)) : Prop where
  fresh : ∀ p ∈ known L, p.1.hash ≠ t.hash
  crValid : ∀ c ∈ cr, c.1 < t.outs.length
  notCb : t.isCoinBase = false
  noChild : ∀ p ∈ known L, ∀ i ∈ p.1.ins, i.hash ≠ t.hash
  noConflict : ∀ i ∈ t.ins, spentConfirmed L i = false
  refs : ∀ i ∈ t.ins, ∀ q ∈ known L, q.1.hash = i.hash → i.index < q.1.outs.length
  bound : t.outs.length ≤ nullIndex
  noSelf : ∀ i ∈ t.ins, i.hash ≠ t.hash

theorem seenFresh_of {L : Ledger} {t : Tx} {cr : List (Nat × Bool)} (hc : Consistent L (.seen t cr))
    (hf : isKnown L t.hash = false) : SeenFresh L t cr := by
  have h1 := hc.cons
  have h2 := hc.extra
  obtain ⟨hb, hs⟩ := hc.bound t rfl
  simp only [consistent, hf, Bool.not_false, Bool.not_true, Bool.false_or, Bool.and_eq_true, List.all_eq_true,
    Bool.or_eq_true, bne_iff_ne, ne_eq, beq_iff_eq, Prod.forall, decide_eq_true_eq, Bool.forall_bool,
    Bool.not_eq_eq_eq_not] at h1
  simp only [Ledger.extra, hf, Bool.not_true, Bool.false_or, Bool.and_eq_true, List.all_eq_true,
    Bool.not_eq_eq_eq_not] at h2
  obtain ⟨⟨⟨_, c2⟩, c3⟩, c4⟩ := h1
  exact ⟨isKnown_false_iff.mp hf, fun ⟨a, b⟩ h => match b, h with | false, h => (c2 a).1 h | true, h => (c2 a).2 h,
    c3, fun p hp => c4 p.1 p.2 hp, h2.1, validRefs_iff.mp h2.2, hb, hs⟩

theorem foldl_put_eq (h : Nat) (l : List OutPoint) (a : Store) :
    l.foldl (fun s inp => putRawUnminedInput s inp h) a =
      { a with unminedInputs := (l.foldl (fun s inp => putRawUnminedInput s inp h) a).unminedInputs } :=
  loop_inv (fun s : Store => s = { a with unminedInputs := s.unminedInputs }) (fun s _ hs => by rw [hs]; rfl) l rfl

theorem mem_spendHashes_foldl_put (h : Nat) (op : OutPoint) (x : Nat) : ∀ (l : List OutPoint) (a : Store),
    x ∈ spendHashes (l.foldl (fun s inp => putRawUnminedInput s inp h) a) op ↔
      x ∈ spendHashes a op ∨ (x = h ∧ op ∈ l) := by
  intro l
  induction l with
  | nil => intro a; simp
  | cons k t ih =>
    intro a
    rw [List.foldl_cons, ih, spendHashes_put]
    by_cases e : k = op
    · subst e
      simp only [if_true, List.mem_append, List.mem_cons, List.not_mem_nil, or_false, true_or, and_true]
      exact or_iff_left_of_imp fun h1 => Or.inr h1.1
    · simp [e, Ne.symm e]

section
variable {s : Store} {L : Ledger} {t : Tx} {cr : List (Nat × Bool)}

theorem insertMemPoolTx_fresh (hg : Good s L) (hf : ∀ p ∈ known L, p.1.hash ≠ t.hash) :
    insertMemPoolTx s t = .ok (t.ins.foldl (fun s inp => putRawUnminedInput s inp t.hash)
      { s with unmined := s.unmined.insert t.hash t }) := by
  obtain ⟨o, ho, hiff⟩ := txDetails_total hg t.hash
  have hnone : o = none := by
    cases o with
    | none => rfl
    | some d =>
      obtain ⟨p, hp, e⟩ := hiff.mp rfl
      exact absurd e (hf p hp)
  subst hnone
  have hany : ((withIdx t.outs).any fun x => match x with | (i, _) => s.unspent.contains ⟨t.hash, i⟩) = false := by
    rw [List.any_eq_false]
    rintro ⟨i, v⟩ _
    show ¬ (s.unspent.find? ⟨t.hash, i⟩).isSome = true
    rw [Bool.not_eq_true, Option.isSome_eq_false_iff, Option.isNone_iff_eq_none]
    refine Option.eq_none_iff_forall_ne_some.mpr fun blk hu => ?_
    obtain ⟨u, bm, hm, e1, _⟩ := (unspent_iff hg _ _).mp hu
    exact hf _ (known_of_mined hm) e1.symm
  unfold insertMemPoolTx
  rw [ho]
  simp only [hany]
  simp

def addPool (L : Ledger) (t : Tx) : Ledger := { L with pool := L.pool ++ [t] }

theorem known_addPool (L : Ledger) (t : Tx) : known (addPool L t) = known L ++ [(t, none)] := by
  simp [known, addPool, chainTxs]

theorem le_sum_of_mem : ∀ (l : List Nat) (a : Nat), a ∈ l → a ≤ l.sum := by
  intro l
  induction l with
  | nil => intro a h; cases h
  | cons x t ih =>
    intro a h
    rw [List.sum_cons]
    rcases List.mem_cons.mp h with rfl | h'
    · omega
    · have := ih a h'; omega

/-- the clauses of `LWF` that speak of the known transactions only (spends are acyclic, inputs name existing outputs,
the output bound) still hold when one transaction joins that spends only from them and from which none of them spends -/
theorem LWF.extend (hl : LWF L) (hfresh : ∀ p ∈ known L, p.1.hash ≠ t.hash)
    (hnc : ∀ p ∈ known L, ∀ i ∈ p.1.ins, i.hash ≠ t.hash)
    (hrefs : ∀ i ∈ t.ins, ∀ q ∈ known L, q.1.hash = i.hash → i.index < q.1.outs.length)
    (hb : t.outs.length ≤ nullIndex) (hns : ∀ i ∈ t.ins, i.hash ≠ t.hash) {K' : List (Tx × Option BlockMeta)}
    (hK' : ∀ p ∈ K', p ∈ known L ∨ p.1 = t) :
    (∃ rk : Nat → Nat, ∀ p ∈ K', ∀ i ∈ p.1.ins, ∀ q ∈ K', q.1.hash = i.hash → rk i.hash < rk p.1.hash) ∧
    (∀ p ∈ K', ∀ i ∈ p.1.ins, ∀ q ∈ K', q.1.hash = i.hash → i.index < q.1.outs.length) ∧
    (∀ p ∈ K', p.1.outs.length ≤ nullIndex) := by
  obtain ⟨rk, hrk⟩ := hl.rank
  refine ⟨⟨fun x => if x = t.hash then ((known L).map fun p => rk p.1.hash).sum + 1 else rk x, ?_⟩, ?_, ?_⟩
  · intro p hp i hi q hq e
    rcases hK' q hq with hq' | hq'
    · have h1 : i.hash ≠ t.hash := e ▸ hfresh q hq'
      rcases hK' p hp with hp' | hp'
      · simp only [h1, hfresh p hp', if_false]
        exact hrk p hp' i hi q hq' e
      · simp only [h1, hp', if_false, if_true]
        have := le_sum_of_mem ((known L).map fun p => rk p.1.hash) _ (List.mem_map.mpr ⟨q, hq', rfl⟩)
        rw [← e]; omega
    · rw [hq'] at e
      rcases hK' p hp with hp' | hp'
      · exact absurd e.symm (hnc p hp' i hi)
      · exact absurd e.symm (hns i (hp' ▸ hi))
  · intro p hp i hi q hq e
    rcases hK' p hp with hp' | hp' <;> rcases hK' q hq with hq' | hq'
    · exact hl.validRefs p hp' i hi q hq' e
    · exact absurd (hq' ▸ e).symm (hnc p hp' i hi)
    · exact hrefs i (hp' ▸ hi) q hq' e
    · exact absurd (hq' ▸ e).symm (hns i (hp' ▸ hi))
  · intro p hp
    rcases hK' p hp with hp' | hp'
    · exact hl.outsBound p hp'
    · rw [hp']; exact hb

theorem lwf_addPool (hl : LWF L) (hs : SeenFresh L t cr) :
    LWF (addPool L t) := by
  have hmem : ∀ p, p ∈ known (addPool L t) ↔ p ∈ known L ∨ p = (t, none) := fun p => by rw [known_addPool]; simp
  obtain ⟨h1, h2, h3⟩ := hl.extend hs.fresh hs.noChild hs.refs hs.bound hs.noSelf (K' := known (addPool L t))
    fun p hp => ((hmem p).mp hp).imp_right fun e => by rw [e]
  refine { hl with hashes := ?_, creditKnown := ?_, poolNoCb := ?_, parents := ?_, rank := h1, validRefs := h2,
                   outsBound := h3 }
  · rw [known_addPool, List.map_append, List.nodup_append]
    refine ⟨hl.hashes, by simp, ?_⟩
    intro a ha b hb
    simp only [List.map_cons, List.map_nil, List.mem_singleton] at hb
    obtain ⟨p, hp, rfl⟩ := List.mem_map.mp ha
    rw [hb]; exact hs.fresh p hp
  · intro p hp
    obtain ⟨q, hq, h⟩ := hl.creditKnown p hp
    exact ⟨q, (hmem q).mpr (Or.inl hq), h⟩
  · intro u hu
    rcases List.mem_append.mp hu with hu | hu
    · exact hl.poolNoCb u hu
    · cases List.mem_singleton.mp hu; exact hs.notCb
  · intro p hp i hi q hq e
    rcases (hmem q).mp hq with hq' | rfl
    · exact hl.parents p hp i hi q hq' e
    · exact absurd e.symm (hs.noChild _ (known_of_mined hp) i hi)

theorem noConflict_addPool (hn : NoConflict L) (ht : ∀ i ∈ t.ins, spentConfirmed L i = false) :
    NoConflict (addPool L t) := by
  intro u hu i hi
  rcases List.mem_append.mp hu with hu | hu
  · exact hn u hu i hi
  · cases List.mem_singleton.mp hu; exact ht i hi

theorem mem_poolSpenders_addPool {op : OutPoint} {h : Nat} :
    h ∈ poolSpenders (addPool L t) op ↔ h ∈ poolSpenders L op ∨ (h = t.hash ∧ op ∈ t.ins) := by
  simp only [mem_poolSpenders, addPool, List.mem_append, List.mem_singleton]
  constructor
  · rintro ⟨u, hu | rfl, h1, h2⟩
    · exact Or.inl ⟨u, hu, h1, h2⟩
    · exact Or.inr ⟨h2.symm, h1⟩
  · rintro (⟨u, hu, h⟩ | ⟨rfl, h1⟩)
    · exact ⟨u, Or.inl hu, h⟩
    · exact ⟨t, Or.inr rfl, h1, rfl⟩

theorem refines_addPool (hg : Good s L)
    (hf : ∀ p ∈ known L, p.1.hash ≠ t.hash) :
    Refines (t.ins.foldl (fun s inp => putRawUnminedInput s inp t.hash) { s with unmined := s.unmined.insert t.hash t })
      (addPool L t) := by
  have hr := hg.ref
  rw [foldl_put_eq]
  exact { hr with
    unmined := Holds.insert hr.unmined
      (fun v h => hf _ (known_of_pool (mem_expUnmined.mp h).1) (mem_expUnmined.mp h).2.symm)
      (fun p => by simp [expUnmined, addPool])
    -- the new transaction has no credits yet
    ucredits := Holds.congr hr.ucredits fun ⟨k, v⟩ => by
      simp only [mem_expUnminedCredits, addPool, List.mem_append, List.mem_singleton]
      constructor
      · rintro ⟨u, hu | rfl, h1, h2, h3⟩
        · exact ⟨u, hu, h1, h2, h3⟩
        · obtain ⟨q, hq, e, _⟩ := hg.lwf.credit_known h3
          exact absurd (e.trans h1) (hf q hq)
      · rintro ⟨u, hu, h⟩; exact ⟨u, Or.inl hu, h⟩
    uinputs := fun op h => by
      show h ∈ spendHashes (t.ins.foldl (fun s inp => putRawUnminedInput s inp t.hash)
        { s with unmined := s.unmined.insert t.hash t }) op ↔ _
      rw [mem_spendHashes_foldl_put, mem_poolSpenders_addPool]
      exact or_congr_left (hr.uinputs op h)
    uinputsNE := loop_inv InputsNE (fun a k => inputsNE_put a k t.hash) t.ins hr.uinputsNE
    nodupUnmined := nodupKeys_insert _ _ _ hr.nodupUnmined }

theorem good_insertMemPool (hg : Good s L)
    (hs : SeenFresh L t cr) :
    ∃ s1, insertMemPoolTx s t = .ok s1 ∧ Good s1 (addPool L t) := by
  have h := insertMemPoolTx_fresh hg hs.fresh
  exact ⟨_, h, (upath_insertMemPoolTx h).wf2 hg.wf2, lwf_addPool hg.lwf hs, refines_addPool hg hs.fresh⟩

/-- one step of `Ledger.addCredits` -/
def addCredit1 (L : Ledger) (t : Tx) (c : Nat × Bool) : Ledger :=
  { L with credit := if c.1 < t.outs.length && (lookup L.credit ⟨t.hash, c.1⟩).isNone then
      L.credit ++ [(⟨t.hash, c.1⟩, c.2)] else L.credit }

theorem addCredit1_of_some {c : Nat × Bool} {chg : Bool}
    (h : lookup L.credit ⟨t.hash, c.1⟩ = some chg) : addCredit1 L t c = L := by
  simp [addCredit1, h]

theorem addCredit1_of_none {c : Nat × Bool} (hc : c.1 < t.outs.length)
    (h : lookup L.credit ⟨t.hash, c.1⟩ = none) :
    addCredit1 L t c = { L with credit := L.credit ++ [(⟨t.hash, c.1⟩, c.2)] } := by
  simp [addCredit1, h, hc]

theorem lookup_append_one {α : Type} (l : List (OutPoint × α)) (k : OutPoint) (v : α) (op : OutPoint) :
    lookup (l ++ [(k, v)]) op = (lookup l op).or (if k = op then some v else none) := by
  rw [lookup_eq_find?, lookup_eq_find?, find?_append]; rfl

theorem lookup_addCredit1 {c : Nat × Bool} (hc : c.1 < t.outs.length)
    (h : lookup L.credit ⟨t.hash, c.1⟩ = none) (op : OutPoint) :
    lookup (addCredit1 L t c).credit op = if op = ⟨t.hash, c.1⟩ then some c.2 else lookup L.credit op := by
  rw [addCredit1_of_none hc h, lookup_append_one]
  by_cases e : op = ⟨t.hash, c.1⟩
  · subst e; simp [h]
  · cases lookup L.credit op <;> simp [e, eq_comm]

theorem lookup_addCredit1_ne {c : Nat × Bool} {op : OutPoint} (hne : op.hash ≠ t.hash) :
    lookup (addCredit1 L t c).credit op = lookup L.credit op := by
  unfold addCredit1
  split
  · rw [lookup_append_one, if_neg (by rintro rfl; exact hne rfl), Option.or_none]
  · rfl

theorem lwf_addCredit1 (hl : LWF L) (c : Nat × Bool) (hk : ∃ ob, (t, ob) ∈ known L) :
    LWF (addCredit1 L t c) := by
  cases hlk : lookup L.credit ⟨t.hash, c.1⟩ with
  | some chg => rw [addCredit1_of_some hlk]; exact hl
  | none =>
    by_cases hc : c.1 < t.outs.length
    · rw [addCredit1_of_none hc hlk]
      refine { hl with creditKeys := ?_, creditKnown := ?_ }
      · rw [List.map_append, List.nodup_append]
        refine ⟨hl.creditKeys, by simp, ?_⟩
        intro a ha b hb
        simp only [List.map_cons, List.map_nil, List.mem_singleton] at hb
        obtain ⟨p, hp, rfl⟩ := List.mem_map.mp ha
        rw [hb]
        exact (lookup_eq_none_iff L.credit _).mp hlk p hp
      · intro p hp
        rcases List.mem_append.mp hp with hp | hp
        · exact hl.creditKnown p hp
        · cases List.mem_singleton.mp hp
          obtain ⟨ob, hob⟩ := hk
          exact ⟨(t, ob), hob, rfl, hc⟩
    · have : addCredit1 L t c = L := by simp [addCredit1, hc]
      rw [this]; exact hl

theorem foldl_addCredit1 (t : Tx) : ∀ (cr : List (Nat × Bool)) (L0 : Ledger),
    cr.foldl (fun L c => addCredit1 L t c) L0 = { L0 with credit := addCredits L0.credit t cr } := by
  intro cr
  induction cr with
  | nil => intro L0; rfl
  | cons c r ih =>
    intro L0
    obtain ⟨i, chg⟩ := c
    rw [List.foldl_cons, ih]
    simp only [addCredits, List.foldl_cons, addCredit1]

theorem noConflict_foldl_addCredit1 (t : Tx) (cr : List (Nat × Bool)) (L : Ledger) (h : NoConflict L) :
    NoConflict (cr.foldl (fun L c => addCredit1 L t c) L) := by
  rw [foldl_addCredit1]; exact h

theorem mem_expUnminedCredits_addCredit1 (hl : LWF L) (ht : t ∈ L.pool) {c : Nat × Bool}
    {amt : Int} (ha : t.outs[c.1]? = some amt) (hn : lookup L.credit ⟨t.hash, c.1⟩ = none) (p : OutPoint × UCredit) :
    p ∈ expUnminedCredits (addCredit1 L t c) ↔ p ∈ expUnminedCredits L ∨ p = (⟨t.hash, c.1⟩, ⟨amt, c.2⟩) := by
  obtain ⟨op, uc⟩ := p
  have hc := (List.getElem?_eq_some_iff.mp ha).1
  simp only [mem_expUnminedCredits, lookup_addCredit1 hc hn, show (addCredit1 L t c).pool = L.pool from rfl]
  by_cases e : op = ⟨t.hash, c.1⟩
  · subst e
    simp only [if_true, hn, reduceCtorEq, and_false, exists_false, false_or, Prod.mk.injEq, true_and, Option.some.injEq]
    constructor
    · rintro ⟨u, hu, h1, h2, h3⟩
      cases hl.pool_unique hu ht h1.symm
      rw [ha] at h2
      cases uc; simp_all
    · rintro rfl; exact ⟨t, ht, rfl, ha, rfl⟩
  · simp [e]

theorem good_addCredit_unmined (hg : Good s L) (ht : t ∈ L.pool) (c : Nat × Bool)
    (hc : c.1 < t.outs.length) :
    ∃ s1, addCredit s t none c.1 c.2 = .ok s1 ∧ Good s1 (addCredit1 L t c) := by
  have hr := hg.ref
  obtain ⟨amt, hamt⟩ : ∃ amt, t.outs[c.1]? = some amt := ⟨t.outs[c.1], List.getElem?_eq_getElem hc⟩
  unfold addCredit
  simp only [hamt, latestTxRecord_none hg fun _ hp => hg.lwf.pool_not_mined ht hp, Option.isSome_none, Bool.false_eq_true, if_false, contains_eq]
  cases hl : lookup L.credit ⟨t.hash, c.1⟩ with
  | some chg =>
    rw [(hr.ucredits_iff _ ⟨amt, chg⟩).mpr ⟨t, ht, rfl, hamt, hl⟩, addCredit1_of_some hl]
    exact ⟨s, rfl, hg⟩
  | none =>
    have hfresh : ∀ uc, (⟨t.hash, c.1⟩, uc) ∉ expUnminedCredits L := fun uc h => by
      obtain ⟨_, _, _, _, h3⟩ := mem_expUnminedCredits.mp h
      rw [hl] at h3; cases h3
    rw [Holds.find?_eq_none hr.ucredits hfresh]
    refine ⟨_, rfl, wf2_of_sameMined hg.wf2 (.refl s) (nodupKeys_insert _ _ _ hg.wf2.wf.nodupUC),
      lwf_addCredit1 hg.lwf c ⟨_, known_of_pool ht⟩, ?_⟩
    exact { hr with
      credits := Holds.congr hr.credits (mem_expCredits_congr rfl fun p hp op e =>
        lookup_addCredit1_ne (e ▸ hg.lwf.pool_not_mined ht hp))
      ucredits := Holds.insert hr.ucredits hfresh (mem_expUnminedCredits_addCredit1 hg.lwf ht hamt hl) }

theorem good_foldlM {α : Type} {f : Store → α → M Store} {g : Ledger → α → Ledger} {I : Ledger → Prop} :
    ∀ (l : List α), (∀ a ∈ l, ∀ s L, Good s L → I L → ∃ s', f s a = .ok s' ∧ Good s' (g L a) ∧ I (g L a)) →
      ∀ {s : Store} {L : Ledger}, Good s L → I L → ∃ s', l.foldlM f s = .ok s' ∧ Good s' (l.foldl g L) := by
  intro l
  induction l with
  | nil => intro _ s L hg _; exact ⟨s, rfl, hg⟩
  | cons a r ih =>
    intro h s L hg hi
    obtain ⟨s1, h1, hg1, hi1⟩ := h a List.mem_cons_self s L hg hi
    obtain ⟨s2, h2, hg2⟩ := ih (fun a' ha' => h a' (List.mem_cons_of_mem _ ha')) hg1 hi1
    exact ⟨s2, by rw [List.foldlM_cons, h1, bind_ok, h2], hg2⟩

theorem good_addCredits_unmined (cr : List (Nat × Bool)) (hg : Good s L)
    (ht : t ∈ L.pool) (hv : ∀ c ∈ cr, c.1 < t.outs.length) :
    ∃ s', cr.foldlM (fun s (c : Nat × Bool) => addCredit s t none c.1 c.2) s = .ok s' ∧
      Good s' (cr.foldl (fun L c => addCredit1 L t c) L) :=
  good_foldlM (g := fun L c => addCredit1 L t c) (I := fun L => t ∈ L.pool) cr
    (fun c hc _ _ hg hi => (good_addCredit_unmined hg hi c (hv c hc)).imp fun _ h => ⟨h.1, h.2, hi⟩) hg ht

end

/-- **event *seen***: on a good pair, for a chain-consistent delivery of an unconfirmed transaction, the store calls
succeed and the resulting store refines the ledger after `Ledger.apply` -/
theorem good_seen {s : Store} {L : Ledger} (hg : Good s L) {t : Tx} {cr : List (Nat × Bool)} (now : Nat)
    (hc : Consistent L (.seen t cr)) :
    ∃ s', stepEvent s now (.seen t cr) = .ok s' ∧ Good s' (Ledger.apply L (.seen t cr)) ∧
      (NoConflict L → NoConflict (Ledger.apply L (.seen t cr))) := by
  unfold stepEvent addRelevantTx insertTx
  cases hk : isKnown L t.hash with
  | true =>
    obtain ⟨o, ho, hiff⟩ := txDetails_total hg t.hash
    obtain ⟨d, rfl⟩ := Option.isSome_iff_exists.mp (hiff.mpr (isKnown_iff.mp hk))
    have h1 : insertMemPoolTx s t = .error Err.duplicate := by
      unfold insertMemPoolTx; rw [ho]; rfl
    simp only [h1, Ledger.apply, hk, if_true]
    exact ⟨s, rfl, hg, fun h => h⟩
  | false =>
    have hs := seenFresh_of hc hk
    obtain ⟨s1, h1, hg1⟩ := good_insertMemPool hg hs
    obtain ⟨s2, h2, hg2⟩ := good_addCredits_unmined cr hg1 (by simp [addPool]) hs.crValid
    have hL : Ledger.apply L (.seen t cr) = cr.foldl (fun L c => addCredit1 L t c) (addPool L t) := by
      rw [foldl_addCredit1]
      simp [Ledger.apply, hk, addPool]
    rw [hL]
    refine ⟨s2, ?_, hg2, fun hn => noConflict_foldl_addCredit1 t cr _ (noConflict_addPool hn hs.noConflict)⟩
    simp only [h1, pure_eq, bind_ok, Bool.false_and, Bool.false_eq_true, if_false]
    rw [h2]; rfl

end TxStore
