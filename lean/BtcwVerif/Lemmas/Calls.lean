import BtcwVerif.Lemmas.WFRollback
/-! Histories of store calls and the preservation of `WF2` along every chain-consistent history. -/
namespace TxStore


/-- one call of the store API -/
inductive Call
  | insertUnmined (rec : Tx)
  | addCreditUnmined (rec : Tx) (i : Nat) (chg : Bool)
  | insertMined (rec : Tx) (bm : BlockMeta)
  | addCreditMined (rec : Tx) (bm : BlockMeta) (i : Nat) (chg : Bool)
  | removeUnmined (rec : Tx)
  | rollback (height : Int)
  | lock (id : Nat) (op : OutPoint) (d : Int)
  | unlock (id : Nat) (op : OutPoint)
  | sweep

/-- effect at clock `now`; a failing call leaves the store unchanged (the DB transaction rolls back) -/
def Call.run (s : Store) (now : Nat) : Call → Store
  | .insertUnmined rec => match insertTx s rec none with | .ok (_, s') => s' | .error _ => s
  | .addCreditUnmined rec i chg => match addCredit s rec none i chg with | .ok s' => s' | .error _ => s
  | .insertMined rec bm => match insertTx s rec (some bm) with | .ok (_, s') => s' | .error _ => s
  | .addCreditMined rec bm i chg => match addCredit s rec (some bm) i chg with | .ok s' => s' | .error _ => s
  | .removeUnmined rec => match removeUnminedTx s rec with | .ok s' => s' | .error _ => s
  | .rollback h => match TxStore.rollback s h with | .ok s' => s' | .error _ => s
  | .lock id op d => match lockOutput s now id op d with | .ok (_, s') => s' | .error _ => s
  | .unlock id op => match unlockOutput s now id op with | .ok s' => s' | .error _ => s
  | .sweep => deleteExpiredLockedOutputs s now

/-- chain consistency, read on the store at the moment of the call.
* `InsertTx(rec, block)`: either a redelivery (already recorded in that block), or the transaction is recorded in no
  block, the block at that height (if any) has that hash, the credits it spends sit at or below that height (parents
  first), it has at most 2^32−1 outputs, and the unconfirmed credits kept under its hash are outputs of it;
* `AddCredit(rec, block, i)`: the transaction is recorded in that block;
* everything else — `Rollback` to any height, unconfirmed inserts and credits, removals, leases — is unconditional. -/
def Call.Pre (s : Store) : Call → Prop
  | .insertMined rec bm => s.txrecs.contains ⟨rec.hash, bm.block⟩ = true ∨ ConfirmPre2 s rec bm
  | .addCreditMined rec bm _ _ => s.txrecs.find? ⟨rec.hash, bm.block⟩ = some rec
  | _ => True

theorem insertTx_ok {s s' : Store} {rec : Tx} {block : Option BlockMeta} {ex : Bool}
    (h : insertTx s rec block = .ok (ex, s')) :
    s' = s ∨ (match block with | none => insertMemPoolTx s rec | some bm => insertMinedTx s rec bm) = .ok s' := by
  unfold insertTx at h
  dsimp only at h
  split at h
  · cases h; exact .inl rfl
  · cases h
  · rename_i h2; cases h; exact .inr h2

theorem wf2_run (s : Store) (now : Nat) (c : Call) (hw : WF2 s) (hp : c.Pre s) : WF2 (c.run s now) := by
  cases c with simp only [Call.run]
  | sweep => exact (upath_sweep s now).wf2 hw
  | insertUnmined rec =>
    split
    · obtain rfl | h2 := insertTx_ok ‹_›
      · exact hw
      · exact (upath_insertMemPoolTx (s := s) h2).wf2 hw
    · exact hw
  | addCreditUnmined rec i chg =>
    split
    · exact (upath_addCredit_unmined ‹_›).wf2 hw
    · exact hw
  | insertMined rec bm =>
    split
    · obtain rfl | h2 := insertTx_ok ‹_›
      · exact hw
      · replace h2 : insertMinedTx s rec bm = .ok _ := h2
        rcases hp with hdup | hpre
        · rw [insertMinedTx_core, if_pos hdup] at h2; cases h2
        · exact wf2_insertMinedTx hw hpre h2
    · exact hw
  | addCreditMined rec bm i chg =>
    split
    · exact wf2_addCredit_mined hw ‹_› hp
    · exact hw
  | removeUnmined rec =>
    split
    · exact (upath_removeConflict _ _ _ _ ‹_›).wf2 hw
    · exact hw
  | rollback height =>
    split
    · exact wf2_rollback hw ‹_›
    · exact hw
  | lock id op d =>
    split
    · exact (upath_lockOutput ‹_›).wf2 hw
    · exact hw
  | unlock id op =>
    split
    · exact (upath_unlockOutput ‹_›).wf2 hw
    · exact hw

/-- run a history of calls; every call comes with the clock value at which it is made -/
def runCalls : Store → List (Nat × Call) → Store
  | s, [] => s
  | s, p :: t => runCalls (p.2.run s p.1) t

/-- the consistency precondition holds at every step of the history -/
def PreAll : Store → List (Nat × Call) → Prop
  | _, [] => True
  | s, p :: t => p.2.Pre s ∧ PreAll (p.2.run s p.1) t

theorem wf2_runCalls (s : Store) (hw : WF2 s) (ops : List (Nat × Call)) (hp : PreAll s ops) :
    WF2 (runCalls s ops) := by
  induction ops generalizing s with
  | nil => exact hw
  | cons p t ih => exact ih _ (wf2_run s p.1 p.2 hw hp.1) hp.2


theorem inv_runCalls (ops : List (Nat × Call)) (hp : PreAll Store.empty ops) : Inv (runCalls Store.empty ops) :=
  inv_of_wf _ (wf2_runCalls _ wf2_empty ops hp).wf

end TxStore
