import BtcwVerif.Lemmas.AddrInvOps
/-!
`ConvertToWatchingOnly` is an `Ok` move (`opConvertWO_ok`).  The operation has no branch but maps every row, every cached
account and every cached address object: `Stripped` relates the heaps, and one lemma per view (`acctRow_convertWO` …
`douAt_convertWO`) says that the view afterwards is the old one mapped.
-/
set_option linter.unusedSectionVars false
namespace AddrDerive

variable {K P : Type} [DecidableEq K] [DecidableEq P] {hd : HD K P} {s s' : State K P} {sc : Scope} {acct : Nat} {sm : ScopeMem K P}
  {sd : ScopeDisk K P} {ai : AcctInfo K P}

def Stripped (heap heap' : List (Obj K P)) : Prop :=
  heap'.length = heap.length ∧ ∀ idx : Nat, heap'[idx]? = heap[idx]? ∨ ∃ o, heap[idx]? = some o ∧ heap'[idx]? = some (stripObj o)

theorem stripObj_idem (o : Obj K P) : stripObj (stripObj o) = stripObj o := by
  cases o with
  | key k => rfl
  | scr sc =>
    by_cases hk : sc.kind = 0 <;> simp [stripObj, hk]

theorem Stripped.refl (heap : List (Obj K P)) : Stripped heap heap := ⟨rfl, fun _ => Or.inl rfl⟩

theorem Stripped.trans {h1 h2 h3 : List (Obj K P)} (a : Stripped h1 h2) (b : Stripped h2 h3) : Stripped h1 h3 := by
  refine ⟨b.1.trans a.1, fun idx => ?_⟩
  rcases b.2 idx with hb | ⟨o, hb1, hb2⟩
  · rw [hb]; exact a.2 idx
  · rcases a.2 idx with ha | ⟨o0, ha1, ha2⟩
    · exact Or.inr ⟨o, by rw [← ha]; exact hb1, hb2⟩
    · rw [ha2] at hb1; cases hb1
      exact Or.inr ⟨o0, ha1, by rw [hb2, stripObj_idem]⟩

theorem stripCached_spec : ∀ (l : List Nat) (heap : List (Obj K P)), Stripped heap (stripCached heap l) := by
  intro l
  induction l with
  | nil => intro heap; exact Stripped.refl heap
  | cons i t ih =>
    intro heap
    unfold stripCached
    split
    · rename_i o ho
      refine Stripped.trans ?_ (ih _)
      refine ⟨length_setAt _ _ _, fun idx => ?_⟩
      rw [getElem?_setAt_of_some ho]
      by_cases hi : i = idx
      · subst hi; exact Or.inr ⟨o, ho, if_pos rfl⟩
      · exact Or.inl (if_neg hi)
    · exact ih _

theorem Stripped.key {h1 h2 : List (Obj K P)} (a : Stripped h1 h2) {idx : Nat} {o' : KeyObj K P} (h : h2[idx]? = some (.key o')) :
    ∃ o, h1[idx]? = some (.key o) ∧ (o' = o ∨ o' = { o with privEnc := none }) := by
  rcases a.2 idx with ha | ⟨o, ha1, ha2⟩
  · exact ⟨o', by rw [← ha]; exact h, Or.inl rfl⟩
  · rw [ha2] at h
    cases o with
    | key k =>
      simp [stripObj] at h
      exact ⟨k, ha1, Or.inr h.symm⟩
    | scr sc =>
      simp only [stripObj] at h
      split at h <;> simp at h

theorem Stripped.key' {h1 h2 : List (Obj K P)} (a : Stripped h1 h2) {idx : Nat} {o : KeyObj K P} (h : h1[idx]? = some (.key o)) :
    ∃ o', h2[idx]? = some (.key o') ∧ (o' = o ∨ o' = { o with privEnc := none }) := by
  rcases a.2 idx with ha | ⟨o0, ha1, ha2⟩
  · exact ⟨o, by rw [ha]; exact h, Or.inl rfl⟩
  · rw [h] at ha1; cases ha1
    exact ⟨_, ha2, Or.inr rfl⟩

theorem stripAddrRow_chain (cfg : Cfg) (r : AddrRow) (a b i : Nat) (h : stripAddrRow cfg r = .chain a b i) : r = .chain a b i := by
  cases r with
  | chain a' b' i' => simpa [stripAddrRow] using h
  | imp k c hp => simp [stripAddrRow] at h
  | scr k kd s e =>
    rcases kd with _ | _ | n
    · simp [stripAddrRow] at h
    · cases s <;> simp [stripAddrRow] at h
    · cases s <;> simp [stripAddrRow] at h
      split at h <;> cases h

theorem rowPub_strip (r : AcctRow K P) : rowPub (stripAcctRow r) = rowPub r := by cases r <;> rfl
theorem rowPriv_strip (r : AcctRow K P) : rowPriv (stripAcctRow r) = none := by cases r <;> rfl

section convert
variable (cfg : Cfg) (s : State K P) (hw : s.mem.watchOnly = false)
-- every lemma of this section takes `cfg s hw`, in this order and explicitly, before its own arguments
include hw

theorem getSD_convertWO (sc : Scope) : getSD (opConvertWO cfg s).1 sc = (getSD s sc).map fun sd => (stripScope cfg sc sd).1 := by
  simp only [opConvertWO, hw, Bool.false_eq_true, if_false, getSD, List.map_map]
  exact alookup_map s.disk.scopes (fun k sd => (stripScope cfg k sd).1) sc

theorem getSM_convertWO (sc : Scope) : getSM (opConvertWO cfg s).1 sc = (getSM s sc).map fun sm => woScope (lockScope sm) := by
  simp only [opConvertWO, hw, Bool.false_eq_true, if_false, getSM, doLock, List.map_map]
  exact alookup_map s.mem.scopes (fun _ sm => woScope (lockScope sm)) sc

theorem heap_convertWO : Stripped s.mem.heap (opConvertWO cfg s).1.mem.heap := by
  simp only [opConvertWO, hw, Bool.false_eq_true, if_false]
  exact stripCached_spec _ _

theorem flags_convertWO : (opConvertWO cfg s).1.root = s.root ∧ (opConvertWO cfg s).1.imports = s.imports ∧
    (opConvertWO cfg s).1.mem.watchOnly = true ∧ (opConvertWO cfg s).1.disk.watchOnly = true ∧
    (opConvertWO cfg s).1.mem.locked = true ∧ (opConvertWO cfg s).1.disk.rootPriv = none := by
  simp [opConvertWO, hw, doLock]

theorem acctRow_convertWO (sc : Scope) (a : Nat) : acctRow (opConvertWO cfg s).1 sc a = (acctRow s sc a).map stripAcctRow := by
  unfold acctRow
  rw [getSD_convertWO cfg s hw]
  cases getSD s sc with
  | none => rfl
  | some sd => exact alookup_map sd.accts (fun _ r => stripAcctRow r) a

theorem addrRowAt_convertWO (sc : Scope) (id : AddrId P) :
    addrRowAt (opConvertWO cfg s).1 sc id = (addrRowAt s sc id).map (stripAddrRow cfg) := by
  unfold addrRowAt
  rw [getSD_convertWO cfg s hw]
  cases getSD s sc with
  | none => rfl
  | some sd => exact alookup_map sd.addrs (fun _ r => stripAddrRow cfg r) id

theorem cacheAt_convertWO (sc : Scope) (a : Nat) :
    cacheAt (opConvertWO cfg s).1 sc a = (cacheAt s sc a).map fun ai => woAcct (lockAcct ai) := by
  unfold cacheAt
  rw [getSM_convertWO cfg s hw]
  cases getSM s sc with
  | none => rfl
  | some sm =>
    simp only [Option.map_some, Option.bind_some, woScope, lockScope, List.map_map]
    exact alookup_map sm.acctInfo (fun _ ai => woAcct (lockAcct ai)) a

theorem douAt_convertWO (sc : Scope) : douAt (opConvertWO cfg s).1 sc = douAt s sc := by
  unfold douAt
  rw [getSM_convertWO cfg s hw]
  cases getSM s sc <;> rfl

end convert

theorem rowIdx_strip (r : AcctRow K P) : rowIdx (stripAcctRow r) = rowIdx r := by cases r <;> rfl

/-- Every clause is re-proved, because flags, keys and heap all change; each holds because the rows keep their public keys, a
    watching-only database is asked nothing about private ones, and an object loses at most its private key. -/
theorem opConvertWO_ok (cfg : Cfg) (h : Inv hd s) : Ok hd s (opConvertWO cfg s).1 := by
  cases hw : s.mem.watchOnly with
  | true => simp only [opConvertWO, hw, if_true]; exact .refl h
  | false =>
    refine ⟨?_, .same (fun hn => ?_) (fun sc a => ?_) fun sc a ai' hc => ?_⟩
    rotate_left
    · simp only [opConvertWO, hw, Bool.false_eq_true, if_false]
      exact ⟨by simp only [doLock, List.map_map, Function.comp_def]; exact hn.m,
        by simp only [List.map_map, Function.comp_def]; exact hn.d⟩
    · rw [acctRow_convertWO cfg s hw]
      cases acctRow s sc a with
      | none => rfl
      | some r => simp [rowIdx_strip]
    · rw [cacheAt_convertWO cfg s hw] at hc
      obtain ⟨ai, h0, rfl⟩ := Option.map_eq_some_iff.mp hc
      exact ⟨ai, h0, rfl, rfl⟩
    have hsd := getSD_convertWO cfg s hw
    have hheap := heap_convertWO cfg s hw
    obtain ⟨hroot, himp, hmw, hdw, hlk, hrp⟩ := flags_convertWO cfg s hw
    have hacct := acctRow_convertWO cfg s hw
    have haddr := addrRowAt_convertWO cfg s hw
    have hcache := cacheAt_convertWO cfg s hw
    have hdou := douAt_convertWO cfg s hw
    generalize (opConvertWO cfg s).1 = s' at *
    refine ⟨by rw [hmw, hdw], fun _ => hlk, ⟨fun r hr => (by rw [hrp] at hr; cases hr), ?_, ?_, ?_, ?_⟩, ?_, ?_, ?_, ?_⟩
    · intro sc ck hc
      simp only [coinAt, hsd] at hc
      cases hx : getSD s sc <;> simp [hx, stripScope] at hc
    · intro sc lo hlo
      have : lastAt s sc = some lo := by
        simp only [lastAt, hsd] at hlo ⊢
        cases hx : getSD s sc with
        | none => simp [hx] at hlo
        | some sd => simpa [hx, stripScope] using hlo
      obtain ⟨l, h1, h2⟩ := h.disk.last sc lo this
      exact ⟨l, h1, fun a ha => h2 a (by rwa [hacct, Option.isSome_map] at ha)⟩
    · intro sc a r hr
      rw [hacct] at hr
      obtain ⟨r0, hx, rfl⟩ := Option.map_eq_some_iff.mp hr
      have := h.disk.row sc a r0 hx
      cases r0 with
      | dflt pub priv ne ni name =>
        obtain ⟨root, ak, h1, h2, h3, _⟩ := this
        exact ⟨root, ak, (by rw [hroot]; exact h1), h2, h3, fun k hk => (by cases hk)⟩
      | wo pub fp ne ni name schema ci => simpa [stripAcctRow, RowKeyOK, himp] using this
    · intro sc id a b i hr
      rw [haddr] at hr
      obtain ⟨r0, hx, hr⟩ := Option.map_eq_some_iff.mp hr
      cases stripAddrRow_chain cfg r0 a b i hr
      obtain ⟨row, p, cls, h1, h2, h3⟩ := h.disk.addr sc id a b i hx
      exact ⟨stripAcctRow row, p, cls, (by rw [hacct, h1]; rfl), (by rw [rowPub_strip]; exact h2), h3⟩
    · intro sc a ai hc
      rw [hcache] at hc
      obtain ⟨ai0, hx, rfl⟩ := Option.map_eq_some_iff.mp hc
      obtain ⟨row, hr, hok⟩ := h.cache sc a ai0 hx
      exact ⟨stripAcctRow row, (by rw [hacct, hr]; rfl), (by rw [rowPub_strip]; exact hok.pub), (by rw [rowPriv_strip]; rfl),
        fun _ => rfl, fun hl => (by rw [hlk] at hl; cases hl)⟩
    · intro o' ho'
      obtain ⟨idx, hidx⟩ := List.getElem?_of_mem ho'
      obtain ⟨o, ho, hcase⟩ := hheap.key hidx
      -- the rows keep their public keys, and a watching-only database is asked nothing about private ones
      have hko : KeyObjOK hd s' o := (h.heap o (List.mem_of_getElem? ho)).transfer fun row h1 =>
        ⟨stripAcctRow row, by rw [hacct, h1]; rfl, rowPub_strip row, fun hw => by rw [hdw] at hw; cases hw⟩
      rcases hcase with rfl | rfl
      · exact hko
      · exact ⟨nofun, hko.chained, hko.imported⟩
    · intro sc e he
      rw [hdou] at he
      obtain ⟨o, ho, hdo⟩ := h.dou sc e he
      obtain ⟨o', ho', hcase⟩ := hheap.key' ho
      have hdo' : DouObj hd s' sc e o := hdo.mono fun x => by rwa [hcache, Option.isSome_map]
      rcases hcase with rfl | rfl
      · exact ⟨o', ho', hdo'⟩
      · exact ⟨_, ho', hdo'.notImp, hdo'.scope, hdo'.branch, hdo'.index, hdo'.cached, hdo'.pub⟩
    · intro idx o ho hni hpa hw
      rw [hmw] at hw; cases hw

end AddrDerive
