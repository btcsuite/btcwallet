import BtcwVerif.Lemmas.KMap
/-!
# Sortedness of the buckets (`KMap`) in bbolt key order

`KOrd.lt` of every key type of the store is a strict total order (`LawfulKOrd`); `insert` (bbolt `Put`) and `erase`
(bbolt `Delete`) keep a bucket strictly ascending (`Sorted`).  Used by `Lemmas/SortedStore.lean` to carry "every bucket
is in key order" along every sequence of store operations, which fixes the ORDER of the records the queries return.
-/
namespace TxStore

class LawfulKOrd (κ : Type) [KOrd κ] : Prop where
  irrefl : ∀ a : κ, KOrd.lt a a = false
  trans : ∀ a b c : κ, KOrd.lt a b = true → KOrd.lt b c = true → KOrd.lt a c = true
  total : ∀ a b : κ, KOrd.lt a b = false → a ≠ b → KOrd.lt b a = true

/-- `LawfulKOrd` for a relation that is not the `KOrd` instance of its type: the key orders are built from relations on
parts of a key (`StrictTotal.lex`) -/
structure StrictTotal {α : Type} (lt : α → α → Bool) : Prop where
  irrefl : ∀ a, lt a a = false
  trans : ∀ a b c, lt a b = true → lt b c = true → lt a c = true
  total : ∀ a b, lt a b = false → a ≠ b → lt b a = true

/-- every key of `db.go` is a concatenation of big-endian fields, so bbolt's byte order is lexicographic in them -/
theorem StrictTotal.lex {α β γ : Type} [DecidableEq α] {lt1 : α → α → Bool} {lt2 : β → β → Bool}
    (h1 : StrictTotal lt1) (h2 : StrictTotal lt2) (f : γ → α) (g : γ → β)
    (inj : ∀ x y, f x = f y → g x = g y → x = y) :
    StrictTotal fun x y : γ => lt1 (f x) (f y) || (decide (f x = f y) && lt2 (g x) (g y)) where
  irrefl a := by simp [h1.irrefl, h2.irrefl]
  trans a b c := by
    simp only [Bool.or_eq_true, Bool.and_eq_true, decide_eq_true_eq]
    rintro (hab | ⟨e1, hab⟩) (hbc | ⟨e2, hbc⟩)
    · exact .inl (h1.trans _ _ _ hab hbc)
    · exact .inl (e2 ▸ hab)
    · exact .inl (e1 ▸ hbc)
    · exact .inr ⟨e1.trans e2, h2.trans _ _ _ hab hbc⟩
  total a b := by
    simp only [Bool.or_eq_false_iff, Bool.and_eq_false_iff, decide_eq_false_iff_not, Bool.or_eq_true,
      Bool.and_eq_true, decide_eq_true_eq]
    rintro ⟨h, hg⟩ hne
    by_cases e : f a = f b
    · refine .inr ⟨e.symm, h2.total _ _ (hg.resolve_left (not_not_intro e)) fun eg => hne (inj a b e eg)⟩
    · exact .inl (h1.total _ _ h e)

theorem StrictTotal.nat : StrictTotal fun a b : Nat => decide (a < b) where
  irrefl a := by simp
  trans a b c := by simp only [decide_eq_true_eq]; omega
  total a b := by simp only [decide_eq_true_eq, decide_eq_false_iff_not]; omega

theorem LawfulKOrd.of {κ : Type} [KOrd κ] (h : StrictTotal (KOrd.lt : κ → κ → Bool)) : LawfulKOrd κ :=
  ⟨h.irrefl, h.trans, h.total⟩

instance : LawfulKOrd Nat := .of .nat

theorem StrictTotal.natPair {γ : Type} (f g : γ → Nat) (inj : ∀ x y, f x = f y → g x = g y → x = y) :
    StrictTotal fun x y : γ => decide (f x < f y ∨ (f x = f y ∧ g x < g y)) := by
  have e : (fun x y : γ => decide (f x < f y ∨ (f x = f y ∧ g x < g y))) =
      fun x y => decide (f x < f y) || (decide (f x = f y) && decide (g x < g y)) := by
    funext a b; simp [Bool.decide_or, Bool.decide_and]
  rw [e]; exact StrictTotal.nat.lex .nat f g inj

theorem StrictTotal.block : StrictTotal Block.lt :=
  .natPair Block.height Block.hash fun x y h1 h2 => by cases x; cases y; simp_all

instance : LawfulKOrd Block := .of .block

instance : LawfulKOrd OutPoint :=
  .of (.natPair OutPoint.hash OutPoint.index fun x y h1 h2 => by cases x; cases y; simp_all)

instance : LawfulKOrd TxKey := .of <|
  StrictTotal.nat.lex .block TxKey.hash TxKey.block (fun x y h1 h2 => by cases x; cases y; simp_all)

instance : LawfulKOrd CredKey := .of <|
  StrictTotal.nat.lex (.lex .block .nat Prod.fst Prod.snd fun _ _ => Prod.ext) CredKey.hash (fun k => (k.block, k.index))
    (fun x y h1 h2 => by cases x; cases y; simp_all)

theorem Block.lt_iff (a b : Block) : a.lt b = true ↔ a.height < b.height ∨ (a.height = b.height ∧ a.hash < b.hash) := by
  simp [Block.lt]

theorem TxKey.lt_iff (a b : TxKey) :
    KOrd.lt a b = true ↔ a.hash < b.hash ∨ (a.hash = b.hash ∧ a.block.lt b.block = true) := by
  simp [KOrd.lt]

theorem CredKey.lt_iff (a b : CredKey) :
    KOrd.lt a b = true ↔ a.hash < b.hash ∨ (a.hash = b.hash ∧
      (a.block.lt b.block = true ∨ (a.block = b.block ∧ a.index < b.index))) := by
  simp [KOrd.lt]

namespace KMap
variable {κ ν : Type}

/-- strictly ascending keys (bbolt cursor order) -/
def Sorted [KOrd κ] (m : KMap κ ν) : Prop := m.Pairwise (fun p q => KOrd.lt p.1 q.1 = true)

theorem sorted_nil [KOrd κ] : Sorted ([] : KMap κ ν) := List.Pairwise.nil

theorem sorted_filter [KOrd κ] (m : KMap κ ν) (f : κ × ν → Bool) (h : Sorted m) : Sorted (m.filter f) :=
  List.Pairwise.filter _ h

theorem sorted_erase [DecidableEq κ] [KOrd κ] (m : KMap κ ν) (k : κ) (h : Sorted m) : Sorted (erase m k) :=
  sorted_filter m _ h

theorem sorted_place [DecidableEq κ] [KOrd κ] [LawfulKOrd κ] (m : KMap κ ν) (k : κ) (v : ν) (hs : Sorted m)
    (hk : k ∉ keys m) : Sorted (place m k v) := by
  induction m with
  | nil => exact List.pairwise_singleton _ _
  | cons p t ih =>
    obtain ⟨hp, ht⟩ := List.pairwise_cons.mp hs
    have hkp : k ≠ p.1 := fun e => hk (e ▸ List.mem_cons_self)
    unfold place
    split
    · rename_i h2
      refine List.pairwise_cons.mpr ⟨fun x hx => ?_, hs⟩
      rcases List.mem_cons.mp hx with rfl | hx'
      · exact h2
      · exact LawfulKOrd.trans _ _ _ h2 (hp x hx')
    · rename_i h2
      refine List.pairwise_cons.mpr ⟨fun x hx => ?_, ih ht fun h => hk (List.mem_cons_of_mem _ h)⟩
      rcases List.mem_cons.mp ((place_perm t k v).mem_iff.mp hx) with rfl | hx'
      · exact LawfulKOrd.total _ _ (by simpa using h2) hkp
      · exact hp x hx'

theorem sorted_insert [DecidableEq κ] [KOrd κ] [LawfulKOrd κ] (m : KMap κ ν) (k : κ) (v : ν) (hs : Sorted m) :
    Sorted (insert m k v) :=
  sorted_place _ _ _ (sorted_erase m k hs) (not_mem_keys_erase_self m k)

theorem sorted_set [DecidableEq κ] [KOrd κ] [LawfulKOrd κ] (m : KMap κ ν) (k : κ) (o : Option ν) (hs : Sorted m) :
    Sorted (set m k o) := by
  cases o
  · exact sorted_erase m k hs
  · exact sorted_insert m k _ hs

theorem nodupKeys_of_sorted' [DecidableEq κ] [KOrd κ] [LawfulKOrd κ] (m : KMap κ ν) (h : Sorted m) : NodupKeys m := by
  unfold NodupKeys keys
  rw [List.Nodup, List.pairwise_map]
  refine h.imp ?_
  intro a b hab e
  rw [e, LawfulKOrd.irrefl] at hab
  cases hab

/-! ### the block bucket: `Nat` keys, sortedness written with `<` on the key list (`WF.sorted`) -/

theorem sorted_nat_iff (m : KMap Nat ν) : Sorted m ↔ (m.map (·.1)).Pairwise (· < ·) := by
  simp [Sorted, List.pairwise_map, KOrd.lt]

theorem _root_.TxStore.nodupKeys_of_sorted {ν : Type} (m : KMap Nat ν) (h : (m.map (·.1)).Pairwise (· < ·)) : NodupKeys m :=
  nodupKeys_of_sorted' m ((sorted_nat_iff m).mpr h)

theorem sorted_insert_nat (m : KMap Nat ν) (k : Nat) (v : ν)
    (hs : (m.map (·.1)).Pairwise (· < ·)) : ((insert m k v).map (·.1)).Pairwise (· < ·) :=
  (sorted_nat_iff _).mp (sorted_insert m k v ((sorted_nat_iff m).mpr hs))

theorem sorted_erase_nat (m : KMap Nat ν) (k : Nat)
    (hs : (m.map (·.1)).Pairwise (· < ·)) : ((erase m k).map (·.1)).Pairwise (· < ·) :=
  (sorted_nat_iff _).mp (sorted_erase m k ((sorted_nat_iff m).mpr hs))

/-- the last entry of an ascending `Nat`-keyed bucket: found, maximal, and erasing it leaves the initial segment -/
theorem last_nat (init : KMap Nat ν) (h : Nat) (v : ν) (hs : ((init ++ [(h, v)]).map (·.1)).Pairwise (· < ·)) :
    find? (init ++ [(h, v)]) h = some v ∧ (∀ h' v', find? (init ++ [(h, v)]) h' = some v' → h' ≤ h) ∧
      erase (init ++ [(h, v)]) h = init := by
  have hlt : ∀ q ∈ init, q.1 < h := fun q hq =>
    (List.pairwise_append.mp (List.map_append ▸ hs)).2.2 q.1 (List.mem_map.mpr ⟨q, hq, rfl⟩) h (by simp)
  refine ⟨find?_of_mem _ (nodupKeys_of_sorted' _ ((sorted_nat_iff _).mpr hs)) (by simp), fun h' v' hf => ?_, ?_⟩
  · rcases List.mem_append.mp (mem_of_find? _ hf) with hm | hm
    · exact Nat.le_of_lt (hlt _ hm)
    · simp only [List.mem_singleton, Prod.mk.injEq] at hm
      omega
  · unfold erase
    rw [List.filter_append, List.filter_eq_self.mpr fun q hq => by simp [Nat.ne_of_lt (hlt q hq)]]
    simp

end KMap
theorem erase_of_all_ne {ν : Type} (m : KMap Nat ν) (k : Nat) (h : ∀ p ∈ m, p.1 ≠ k) : KMap.erase m k = m :=
  List.filter_eq_self.mpr fun p hp => by simpa using h p hp

theorem place_of_all_gt {ν : Type} (m : KMap Nat ν) (k : Nat) (v : ν) (h : ∀ p ∈ m, k < p.1) :
    KMap.place m k v = (k, v) :: m := by
  cases m with
  | nil => rfl
  | cons q r =>
    have : KOrd.lt k q.1 = true := decide_eq_true (h q List.mem_cons_self)
    simp [KMap.place, this]

theorem insert_cons_nat {ν : Type} (k' : Nat) (v' : ν) (m : KMap Nat ν) (k : Nat) (v : ν) (hm : ∀ p ∈ m, k' < p.1) :
    KMap.insert ((k', v') :: m) k v =
      if k' = k then (k, v) :: m else if k < k' then (k, v) :: (k', v') :: m else (k', v') :: KMap.insert m k v := by
  unfold KMap.insert
  by_cases e : k' = k
  · subst e
    have he : KMap.erase ((k', v') :: m) k' = m := by
      show List.filter _ _ = _
      rw [List.filter_cons]
      simp only [decide_true, Bool.not_true, Bool.false_eq_true, if_false]
      exact erase_of_all_ne m k' fun p hp => Nat.ne_of_gt (hm p hp)
    rw [if_pos rfl, he, place_of_all_gt m k' v hm]
  · have he : KMap.erase ((k', v') :: m) k = (k', v') :: KMap.erase m k := by
      show List.filter _ _ = _
      rw [List.filter_cons]; simp [e]; rfl
    rw [if_neg e, he]
    by_cases e2 : k < k'
    · rw [if_pos e2, erase_of_all_ne m k fun p hp => by have := hm p hp; omega]
      have : KOrd.lt k k' = true := decide_eq_true e2
      simp [KMap.place, this]
    · rw [if_neg e2]
      have : KOrd.lt k k' = false := decide_eq_false e2
      simp [KMap.place, this]

end TxStore
