import BtcwVerif.Lemmas.InvPres
/-! `rollback` taken apart: its per-input and per-output steps as explicit writes (`rbInputCore`, `rbEraseCore`), one transaction
whose record is there (`rbTxPure`, `rbTx_ok`), its three phases (`rbLoop`, `rbDel`, the clean-up by `dsOuter`, `setBal`: `rollback_eq`;
`rbMid` is the store when the clean-up starts, with the final counter), and what it does to the block records: blocks at or above
the height are deleted, blocks below are kept. -/
namespace TxStore
open KMap

/-- `rbInput` without the write to the unmined-inputs bucket -/
def rbInputCore (rec : Tx) (blk : Block) (r : RB) (i : Nat) (inp : OutPoint) : RB :=
  match r.s.debits.find? ⟨rec.hash, blk, i⟩ with
  | none => r
  | some d =>
    match r.s.credits.find? d.credKey with
    | none => { r with s := { r.s with debits := r.s.debits.erase ⟨rec.hash, blk, i⟩ } }
    | some cv =>
      { r with bal := r.bal + cv.amount,
               s := { r.s with credits := r.s.credits.insert d.credKey { cv with spent := false, spender := none },
                               debits := r.s.debits.erase ⟨rec.hash, blk, i⟩,
                               unspent := r.s.unspent.insert inp d.credKey.block } }

theorem rbInput_eq (rec : Tx) (blk : Block) (r : RB) (i : Nat) (inp : OutPoint) :
    rbInput rec blk r (i, inp) = rbInputCore rec blk { r with s := putRawUnminedInput r.s inp rec.hash } i inp := by
  unfold rbInput rbInputCore
  simp only
  cases hd : (putRawUnminedInput r.s inp rec.hash).debits.find? ⟨rec.hash, blk, i⟩ with
  | none => rfl
  | some d =>
    simp only
    cases hc : (putRawUnminedInput r.s inp rec.hash).credits.find? d.credKey with
    | none => simp [unspendRawCredit, hc, contains_eq]
    | some cv => simp [unspendRawCredit, hc, contains_eq]

/-- common part of `rbOutput` (credit moves to the unconfirmed bucket) and `rbCoinbaseOut` (credit is dropped) -/
def rbEraseCore (rec : Tx) (blk : Block) (r : RB) (i : Nat) (value : Int) (toUnmined : Bool) : RB :=
  match r.s.credits.find? ⟨rec.hash, blk, i⟩ with
  | none => r
  | some v =>
    let uc := if toUnmined then r.s.unminedCredits.insert ⟨rec.hash, i⟩ ⟨v.amount, v.change⟩ else r.s.unminedCredits
    if r.s.unspent.contains ⟨rec.hash, i⟩ then
      { r with bal := r.bal - value,
               s := { r.s with unminedCredits := uc, credits := r.s.credits.erase ⟨rec.hash, blk, i⟩,
                               unspent := r.s.unspent.erase ⟨rec.hash, i⟩ } }
    else { r with s := { r.s with unminedCredits := uc, credits := r.s.credits.erase ⟨rec.hash, blk, i⟩ } }

theorem rbOutput_eq (rec : Tx) (blk : Block) (r : RB) (i : Nat) (value : Int) :
    rbOutput rec blk r (i, value) = rbEraseCore rec blk r i value true := by
  unfold rbOutput rbEraseCore
  simp only
  cases r.s.credits.find? ⟨rec.hash, blk, i⟩ with
  | none => rfl
  | some v =>
    simp only [if_true]

theorem rbCoinbaseOut_eq (rec : Tx) (blk : Block) (r : RB) (i : Nat) (value : Int) :
    (rbCoinbaseOut rec blk r (i, value)).s = (rbEraseCore rec blk r i value false).s ∧
    (rbCoinbaseOut rec blk r (i, value)).bal = (rbEraseCore rec blk r i value false).bal ∧
    (rbCoinbaseOut rec blk r (i, value)).cb = r.cb ++ [⟨rec.hash, i⟩] := by
  unfold rbCoinbaseOut rbEraseCore
  simp only
  cases hc : r.s.credits.find? ⟨rec.hash, blk, i⟩ with
  | none =>
    have hcc : r.s.credits.contains ⟨rec.hash, blk, i⟩ = false := by simp [contains_eq, hc]
    simp only [hcc, Bool.not_false, if_true]
    refine ⟨?_, ?_, ?_⟩ <;> first | rfl | trivial
  | some v =>
    have hcc : r.s.credits.contains ⟨rec.hash, blk, i⟩ = true := by simp [contains_eq, hc]
    by_cases hu : r.s.unspent.contains ⟨rec.hash, i⟩ = true
    · simp only [hcc, hu, Bool.not_true, Bool.false_eq_true, if_false, if_true]
      refine ⟨?_, ?_, ?_⟩ <;> first | rfl | trivial
    · simp only [hcc, hu, Bool.not_true, Bool.false_eq_true, if_false]
      refine ⟨?_, ?_, ?_⟩ <;> first | rfl | trivial

/-- the first writes of `rbTx`: the record goes; a non-coinbase is unconfirmed again -/
def rbStart (blk : Block) (r : RB) (rec : Tx) : RB :=
  { r with s := { r.s with txrecs := r.s.txrecs.erase ⟨rec.hash, blk⟩,
                           unmined := if rec.isCoinBase then r.s.unmined else r.s.unmined.insert rec.hash rec } }

/-- `rbTx` on a record that is there: an input loop (empty for a coinbase), then an output loop -/
def rbTxPure (blk : Block) (r : RB) (rec : Tx) : RB :=
  (withIdx rec.outs).foldl (if rec.isCoinBase then rbCoinbaseOut rec blk else rbOutput rec blk)
    ((if rec.isCoinBase then [] else withIdx rec.ins).foldl (rbInput rec blk) (rbStart blk r rec))

theorem rbTx_ok {blk : Block} {r : RB} {rec : Tx} (h : r.s.txrecs.find? ⟨rec.hash, blk⟩ = some rec) :
    rbTx blk r rec.hash = .ok (rbTxPure blk r rec) := by
  unfold rbTx rbTxPure rbStart
  rw [h]
  simp only
  cases rec.isCoinBase <;> rfl

def RB.view (r : RB) : KMap Nat BlockRec × KMap TxKey Tx := (r.s.blocks, r.s.txrecs)

theorem rbInputCore_view (rec : Tx) (blk : Block) (r : RB) (i : Nat) (inp : OutPoint) :
    (rbInputCore rec blk r i inp).view = r.view := by
  unfold rbInputCore
  split
  · rfl
  · split <;> rfl

theorem rbEraseCore_view (rec : Tx) (blk : Block) (r : RB) (i : Nat) (value : Int) (tu : Bool) :
    (rbEraseCore rec blk r i value tu).view = r.view := by
  unfold rbEraseCore
  split
  · rfl
  · dsimp only
    split <;> rfl

theorem rbTx_frame {blk : Block} {r r' : RB} {tx : Nat} (h : rbTx blk r tx = .ok r') :
    r'.s.blocks = r.s.blocks ∧ r'.s.txrecs = r.s.txrecs.erase ⟨tx, blk⟩ := by
  have keep : ∀ {α : Type} {f : RB → α → RB}, (∀ x a, (f x a).view = x.view) → ∀ (l : List α) (x : RB),
      (l.foldl f x).view = x.view :=
    fun hf l x => loop_inv (fun y : RB => y.view = x.view) (fun y a hy => (hf y a).trans hy) l rfl
  unfold rbTx at h
  split at h
  · cases h
  · rename_i rec _
    dsimp only at h
    split at h <;> cases h
    · exact Prod.mk.inj (keep (fun x a => by rw [RB.view, (rbCoinbaseOut_eq rec blk x a.1 a.2).1]; exact rbEraseCore_view ..) _ _)
    · exact Prod.mk.inj ((keep (fun x a => by rw [rbOutput_eq]; exact rbEraseCore_view ..) _ _).trans
        (keep (fun x a => by rw [rbInput_eq]; exact rbInputCore_view ..) _ _))

theorem foldlM_rb_blocks {α : Type} (f : RB → α → M RB) (hf : ∀ r a r', f r a = .ok r' → r'.s.blocks = r.s.blocks) :
    ∀ (l : List α) (r r' : RB), l.foldlM f r = .ok r' → r'.s.blocks = r.s.blocks :=
  fun l r => Ensures.foldlM (P := fun x : RB => x.s.blocks = r.s.blocks) (fun x a hx x' h => (hf x a x' h).trans hx) l r rfl

def eraseBlocks (B : KMap Nat BlockRec) (L : List (Nat × BlockRec)) : KMap Nat BlockRec :=
  L.foldl (fun B p => B.erase p.1) B

theorem foldl_eraseBlocks_store (L : List (Nat × BlockRec)) (s : Store) :
    L.foldl (fun s p => { s with blocks := s.blocks.erase p.1 }) s = { s with blocks := eraseBlocks s.blocks L } := by
  induction L generalizing s with
  | nil => rfl
  | cons p t ih =>
    simp only [List.foldl_cons, eraseBlocks]
    rw [ih]; rfl

theorem eraseBlocks_eq_filter (B : KMap Nat BlockRec) : ∀ (l : List (Nat × BlockRec)),
    eraseBlocks B l = B.filter (fun q => !(l.map (·.1)).contains q.1) := by
  intro l
  induction l generalizing B with
  | nil => exact (List.filter_eq_self.mpr fun _ _ => rfl).symm
  | cons p t ih =>
    show eraseBlocks (B.erase p.1) t = _
    rw [ih]
    unfold KMap.erase
    rw [List.filter_filter]
    refine List.filter_congr fun q _ => ?_
    rw [List.map_cons, List.contains_cons, Bool.not_or, Bool.and_comm]
    rfl

theorem eraseBlocks_filter (B : KMap Nat BlockRec) (q : Nat → Bool) :
    eraseBlocks B (B.filter fun x => q x.1).reverse = B.filter fun x => !q x.1 := by
  rw [eraseBlocks_eq_filter]
  refine List.filter_congr fun x hx => congrArg _ (Bool.eq_iff_iff.mpr ?_)
  simp only [List.contains_iff_mem, List.mem_map, List.mem_reverse, List.mem_filter]
  exact ⟨fun ⟨y, hy, e⟩ => e ▸ hy.2, fun hq => ⟨x, ⟨hx, hq⟩, rfl⟩⟩

/-- the blocks `rollback s height` detaches, highest first -/
def detached (s : Store) (height : Int) : List (Nat × BlockRec) :=
  s.blocks.reverse.takeWhile fun p => !decide ((p.1 : Int) < height)

/-- in a bucket in height order the walk down from the top visits exactly the records at or above `h` (`top_window`), so
what is left when they are erased is the records below `h` -/
theorem eraseBlocks_detached (s : Store) (h : Int) (hs : (s.blocks.map (·.1)).Pairwise (· < ·)) :
    eraseBlocks s.blocks (detached s h) = s.blocks.filter fun p => decide ((p.1 : Int) < h) := by
  rw [detached, top_window _ _ hs, eraseBlocks_filter s.blocks fun n => !decide ((n : Int) < h)]
  simp only [Bool.not_not]

/-- the main loop of `rollback`, over the block records at or above `h` (`detached`), highest first -/
def rbLoop (s : Store) (h : Int) : M RB :=
  (detached s h).foldlM (fun r (p : Nat × BlockRec) => p.2.txs.foldlM (rbTx ⟨p.1, p.2.hash⟩) r) ⟨s, s.minedBalance, []⟩

/-- the store when the coinbase clean-up starts: the loop's store without the visited block records -/
def rbDel (s : Store) (h : Int) (r : RB) : Store :=
  (detached s h).foldl (fun s p => { s with blocks := s.blocks.erase p.1 }) r.s

def setBal (b : Int) (s : Store) : Store := { s with minedBalance := b }

/-- the three phases of `rollback`: main loop, deletion of the block records, removal of the unconfirmed spenders of
detached coinbase outputs; the counter takes the running balance of the main loop -/
theorem rollback_eq (s : Store) (h : Int) :
    rollback s h = (do
      let r ← rbLoop s h
      let s' ← r.cb.foldlM (dsOuter fun _ => false) (rbDel s h r)
      pure (setBal r.bal s')) :=
  rfl

theorem rbLoop_blocks {s : Store} {h : Int} {r : RB} (hr : rbLoop s h = .ok r) : r.s.blocks = s.blocks :=
  foldlM_rb_blocks _ (fun _ _ _ hstep => foldlM_rb_blocks _ (fun _ _ _ h => (rbTx_frame h).1) _ _ _ hstep) _ _ _ hr

/-- the store `rollback` has built when the coinbase clean-up starts, with the counter it will get at the end -/
def rbMid (s : Store) (h : Int) (r : RB) : Store := setBal r.bal (rbDel s h r)

theorem rbMid_fields (s : Store) (h : Int) (r : RB) :
    rbMid s h r = { r.s with blocks := eraseBlocks r.s.blocks (detached s h), minedBalance := r.bal } := by
  unfold rbMid rbDel
  rw [foldl_eraseBlocks_store]
  rfl

theorem UPath.setBal {a b : Store} (x : Int) (h : UPath a b) : UPath (setBal x a) (setBal x b) := by
  induction h with
  | refl => exact .refl _
  | unmined k o _ ih => exact .unmined k o ih
  | uc k o _ ih => exact .uc k o ih
  | ui k o _ ih => exact .ui k o ih
  | locked k o _ ih => exact .locked k o ih

theorem rollback_ok {s s' : Store} {height : Int} (h : rollback s height = .ok s') :
    ∃ r, rbLoop s height = .ok r ∧ UPath (rbMid s height r) s' := by
  obtain ⟨r, hr, h⟩ := bind_ok_iff.mp (rollback_eq s height ▸ h)
  obtain ⟨s2, hs2, h⟩ := bind_ok_iff.mp h
  cases h
  exact ⟨r, hr, (UPath.foldlM (fun _ _ _ => upath_dsOuter) hs2).setBal r.bal⟩

/-- `Rollback` leaves of the block records (in height order, as bbolt keeps them) exactly those below the height -/
theorem rollback_blocks {s s' : Store} {height : Int} (h : rollback s height = .ok s')
    (hs : (s.blocks.map (·.1)).Pairwise (· < ·)) :
    s'.blocks = s.blocks.filter fun p => decide ((p.1 : Int) < height) := by
  obtain ⟨r, hr, hu⟩ := rollback_ok h
  rw [hu.same.1, rbMid_fields, rbLoop_blocks hr]
  exact eraseBlocks_detached s height hs

end TxStore
