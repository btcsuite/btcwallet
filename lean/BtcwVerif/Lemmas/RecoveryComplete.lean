/-
Completeness of the recovery batch loop (C16): the loops over blocks and batches (the stages of one round are in
Lemmas/RecoveryLoop.lean).  The loop invariant `LoopInv` (`PInv` persistent part, `MInv` in-memory part; `Scanned` = the invariant together with the hypotheses on the chain, of which the look-ahead is kept for
the blocks still to come) is carried over one block (hit, or skipped = a hit with empty findings), `FilterBlocks` over a batch,
`recoverScopedAddresses`, `Resurrect` and the batch loop `recoverChain`.  Then: the balance, the conclusion `Complete`
of C16 read off the invariant, soundness of the executable checkers for the hypotheses (Lemmas/RecoveryDefs.lean), what a finished recovery
leaves for a later one over an extended chain, and `Quiet` (recovery leases nothing, stores nothing unmined).
-/
import BtcwVerif.Lemmas.RecoveryLoop

namespace Recovery

/-! Statement vocabulary of Props/C16.lean in this file: `PInv`, `MInv`, `Complete`, `Quiet`. -/

/-- Persistent part (database): after the blocks `pre` of chain `c` have been processed. -/
structure PInv (scopes : List Nat) (c pre : Chain) (st : State) : Prop where
  scopes_eq : st.scopes = scopes
  /-- every wallet key paid so far is below the branch's next index and marked used -/
  paid : ∀ k ∈ paidKeys (allTxs pre), scopes.contains k.scope = true →
    k.index < st.nextOf (k.scope, k.internal) ∧ k ∈ st.used
  /-- the credits are exactly the wallet outputs created so far, spent iff spent so far -/
  credits : st.credits = specCredits scopes (allTxs pre)
  /-- every transaction so far that pays the wallet or spends a wallet output is recorded at its height -/
  txs_rec : ∀ h blk, (h, blk) ∈ pre → ∀ tx ∈ blk, touches scopes (wops scopes (allTxs c)) tx = true →
    (tx.id, h) ∈ st.txs
  txs_ids : ∀ p ∈ st.txs, ∃ t ∈ allTxs pre, t.id = p.1

/-- In-memory part (`RecoveryState`). -/
structure MInv (W : Nat) (scopes : List Nat) (invalid : BranchId → List Nat) (c pre : Chain) (st : State) : Prop where
  window_eq : st.window = W
  branch : BrOK W scopes invalid st
  watched_sub : ∀ op ∈ st.watched, op ∈ wops scopes (allTxs c)
  /-- every wallet output created and not spent so far is a watched outpoint -/
  watched_sup : ∀ op ∈ wops scopes (allTxs pre), spentIn (allTxs pre) op = false → op ∈ st.watched

abbrev LoopInv (W : Nat) (scopes : List Nat) (invalid : BranchId → List Nat) (c pre : Chain) (st : State) : Prop :=
  PInv scopes c pre st ∧ MInv W scopes invalid c pre st

/-- `ExpAt` for every branch of every recovered scope: what `expState` has and `block_ready` needs. -/
def Exp (W : Nat) (scopes : List Nat) (invalid : BranchId → List Nat) (st : State) : Prop :=
  ∀ br, scopes.contains br.1 = true → ExpAt W invalid st br

/-- Where a scan of `c` stands: the chain is well-formed, `st` is a loop state after the blocks `p`, and the blocks after `p`
    satisfy the look-ahead hypothesis with the window in use.  Nothing is asked of the blocks of `p` (0 of them from seed;
    a resumed recovery may have scanned them with another window). -/
structure Scanned (W : Nat) (scopes : List Nat) (invalid : BranchId → List Nat) (c p : Chain) (st : State) : Prop where
  wf : ChainWF scopes invalid c
  la : LookAheadFrom W scopes p.length c
  inv : LoopInv W scopes invalid c p st

section
variable {W : Nat} {scopes : List Nat} {invalid : BranchId → List Nat} {c : Chain}

theorem nextAfter_le {pre : Chain} {st : State} (hp : PInv scopes c pre st) (br : BranchId)
    (hbr : scopes.contains br.1 = true) : nextAfter (allTxs pre) br ≤ st.nextOf br := by
  apply invBound_le_iff.mpr
  intro i hi
  simp only [paidIdx, List.mem_map, List.mem_filter, Bool.and_eq_true, beq_iff_eq] at hi
  obtain ⟨k, ⟨hk, hs, hint⟩, rfl⟩ := hi
  have := (hp.paid k hk (by rw [hs]; exact hbr)).1
  rw [hs, hint] at this
  exact this

theorem wops_untouched (scopes : List Nat) (ops : List OutPoint) : ∀ (blk : Block),
    (∀ tx ∈ blk, touches scopes ops tx = false) → wops scopes blk = [] := by
  intro blk
  induction blk with
  | nil => intro _; rfl
  | cons tx rest ih =>
    intro h
    rw [wops_cons, wouts_eq_nil scopes tx.id tx.outs 0 (touches_eq_false.mp (h tx List.mem_cons_self)).1,
      ih (fun t ht => h t (List.mem_cons_of_mem _ ht))]
    rfl

theorem paidKeys_untouched (scopes : List Nat) (ops : List OutPoint) (blk : Block)
    (h : ∀ tx ∈ blk, touches scopes ops tx = false) : ∀ k ∈ paidKeys blk, scopes.contains k.scope = true → False := by
  intro k hk hs
  obtain ⟨tx, htx, o, ho, hko⟩ := mem_paidKeys.mp hk
  have := List.any_eq_false.mp (touches_eq_false.mp (h tx htx)).1 o ho
  rw [isW_some hko, hs] at this
  exact this rfl

theorem applyFound_eq (st : State) (h : Nat) (f : Found) (st1 : State)
    (hs : (branchIds st.scopes).foldl (efStep f.keys) st = st1) :
    applyFound st h f = f.txs.foldl (fun st tx => addRelevantTx st tx h)
      { st1 with watched := f.outpoints.foldl (fun w op => w.insert op) st1.watched } := by
  subst hs; rfl

theorem applyFound_nil (st : State) (h : Nat) : applyFound st h ⟨[], [], []⟩ = st := by
  have : ∀ (ids : List BranchId), ids.foldl (efStep []) st = st := fun ids => by
    induction ids with
    | nil => rfl
    | cons k ids ih => exact ih
  exact (applyFound_eq st h _ _ (this _)).trans rfl

/-- The state `recoverScoped` hands to `filterBlocks` (Model/Recovery.lean: `{ expandAll invalid st with calls := … }`). -/
def expState (invalid : BranchId → List Nat) (st : State) : State :=
  { expandAll invalid st with calls := st.calls + 1 }

theorem recoverScoped_nil (invalid : BranchId → List Nat) (fuel : Nat) (st : State) :
    recoverScoped invalid fuel st [] = st := by cases fuel <;> rfl

/-- The test `rest.isEmpty` before the recursive call makes no difference. -/
theorem recoverScoped_succ (invalid : BranchId → List Nat) (fuel : Nat) (st : State) (batch : Chain)
    (hne : batch ≠ []) :
    recoverScoped invalid (fuel + 1) st batch =
      match filterBlocks (expState invalid st) batch 0 with
      | none => expState invalid st
      | some (i, h, f) => recoverScoped invalid fuel (applyFound (expState invalid st) h f) (batch.drop (i + 1)) := by
  rw [recoverScoped, if_neg (mt List.isEmpty_iff.mp hne)]
  show (match filterBlocks (expState invalid st) batch 0 with | none => _ | some (i, h, f) => _) = _
  cases filterBlocks (expState invalid st) batch 0 with
  | none => rfl
  | some r =>
    by_cases hb : (batch.drop (r.1 + 1)).isEmpty = true
    · simp only [if_pos hb]
      rw [List.isEmpty_iff.mp hb, recoverScoped_nil]
      rfl
    · simp only [if_neg hb]
      rfl

theorem expState_inv {p : Chain} {st : State}
    (hs : Scanned W scopes invalid c p st) :
    Scanned W scopes invalid c p (expState invalid st) ∧ Exp W scopes invalid (expState invalid st) := by
  obtain ⟨hwf, hla, hp, hm⟩ := hs
  obtain ⟨⟨brs, e1⟩, e2, e3⟩ := expandAll_spec st hp.scopes_eq hm.branch
  unfold expState
  generalize expandAll invalid st = st1 at e1 e2 e3
  subst e1
  exact ⟨⟨hwf, hla, ⟨hp.scopes_eq, hp.paid, hp.credits, hp.txs_rec, hp.txs_ids⟩,
    ⟨hm.window_eq, e2, hm.watched_sub, hm.watched_sup⟩⟩, e3⟩

theorem drop_length_succ_append {α : Type} (a : List α) (x : α) (b : List α) :
    (a ++ x :: b).drop (a.length + 1) = b := by
  rw [List.append_cons, show a.length + 1 = (a ++ [x]).length by simp, List.drop_left]

/-- `Resurrect` (restart, or re-entry of `recovery`).  `W` is whatever window the state carries now: a caller that resumes
    with another window sets it first (`pinv_window`); `PInv` does not read it. -/
theorem resurrect_inv {p q : Chain} {st : State}
    (e : c = p ++ q) (hp : PInv scopes c p st) (hw : st.window = W) :
    LoopInv W scopes invalid c p (resurrect invalid st) := by
  have eT : allTxs c = allTxs p ++ allTxs q := by rw [e, allTxs_append]
  have hwat : (resurrect invalid st).watched = (st.credits.filter (fun c => !c.spent)).map (·.op) := rfl
  refine ⟨⟨hp.scopes_eq, hp.paid, hp.credits, hp.txs_rec, hp.txs_ids⟩, hw, fun br hbr => ?_, fun op hop => ?_,
    fun op hop hsp => ?_⟩
  · have hb : (resurrect invalid st).branch br = resurrectBranch st.window (invalid br) (st.nextOf br) :=
      lookupD_map_mem (fun k => resurrectBranch st.window (invalid k) (st.nextOf k)) _ _ br
        (hp.scopes_eq ▸ (mem_branchIds scopes br).mpr hbr)
    rw [hb, hw]
    obtain ⟨h1, h3, h4⟩ := resurrect_ok W (invalid br) (st.nextOf br)
    exact ⟨h1, h4, h3⟩
  · rw [hwat] at hop
    simp only [hp.credits, specCredits, List.mem_map, List.mem_filter] at hop
    obtain ⟨cr, ⟨⟨pr, hpr, rfl⟩, _⟩, rfl⟩ := hop
    rw [eT, wops_append]
    exact List.mem_append_left _ (List.mem_map.mpr ⟨pr, hpr, rfl⟩)
  · simp only [wops, List.mem_map] at hop
    obtain ⟨pr, hpr, rfl⟩ := hop
    rw [hwat]
    simp only [hp.credits, specCredits, List.mem_map, List.mem_filter]
    exact ⟨⟨pr.1, pr.2, spentIn (allTxs p) pr.1⟩, ⟨⟨pr, hpr, rfl⟩, by simp [hsp]⟩, rfl⟩

theorem recoverChain_nil (invalid : BranchId → List Nat) (batchSize fuel : Nat) (st : State) (cuts : Nat → Bool)
    (n : Nat) : recoverChain invalid batchSize fuel st [] cuts n = st := by cases fuel <;> rfl

theorem recoverChain_succ (invalid : BranchId → List Nat) (batchSize fuel : Nat) (st : State) {blocks : Chain}
    (hne : blocks ≠ []) (cuts : Nat → Bool) (n : Nat) :
    recoverChain invalid batchSize (fuel + 1) st blocks cuts n =
      recoverChain invalid batchSize fuel
        (if cuts n then resurrect invalid (recoverBatch invalid st (blocks.take (max batchSize 1)))
          else recoverBatch invalid st (blocks.take (max batchSize 1)))
        (blocks.drop (max batchSize 1)) cuts (n + 1) := by
  rw [recoverChain, if_neg (mt List.isEmpty_iff.mp hne)]

theorem init_inv (W : Nat) (scopes : List Nat) (c : Chain) : PInv scopes c [] (State.init W scopes) :=
  ⟨rfl, fun _ h => absurd h List.not_mem_nil, rfl, fun _ _ hm => absurd hm List.not_mem_nil,
   fun _ hx => absurd hx List.not_mem_nil⟩

/-- Where `LookAhead`, `ChainWF.valid`, `.nodbl` and `Exp` are consumed, and nowhere else: with the horizons expanded, `LookAhead` and
    `ChainWF.valid` make every paid key a watched one, `ChainWF.order`/`.nodbl` and `watched_sup` every spent wallet output
    a watched or just-found one — the two things `filterBlock_spec` asks for.  So the filter reports exactly the truth. -/
theorem block_ready {p q : Chain} {h : Nat} {blk : Block}
    {st : State} (e : c = p ++ (h, blk) :: q) (hs : Scanned W scopes invalid c p st) (hx : Exp W scopes invalid st) :
    (filterBlock st blk ⟨[], [], []⟩).txs = blk.filter (touches scopes (wops scopes (allTxs c))) ∧
    (∀ k, k ∈ (filterBlock st blk ⟨[], [], []⟩).keys ↔ k ∈ paidKeys blk ∧ scopes.contains k.scope = true) ∧
    (∀ op, op ∈ (filterBlock st blk ⟨[], [], []⟩).outpoints ↔ op ∈ wops scopes blk) := by
  obtain ⟨hwf, hla, hp, hm⟩ := hs
  have eT : allTxs c = allTxs p ++ blk ++ allTxs q := by rw [e]; exact allTxs_split p h blk q
  refine
    have ⟨f1, f3, f4⟩ := filterBlock_spec st scopes (wops scopes (allTxs c)) blk ⟨[], [], []⟩ ?_ ?_
    ⟨f1, fun k => (f3 k).trans ⟨fun h => h.resolve_left List.not_mem_nil, Or.inr⟩,
      fun op => (f4 op).trans ⟨fun h => h.resolve_left List.not_mem_nil, Or.inr⟩⟩
  · -- a paid wallet key is below `nextUnfound + W` and valid, hence watched
    intro tx htx o ho k hk
    rw [watchesKey, hp.scopes_eq]
    cases hc : scopes.contains k.scope
    · rfl
    · have hkb : k ∈ paidKeys blk := mem_paidKeys.mpr ⟨tx, htx, o, ho, hk⟩
      have h1 := hla p h blk q e (Nat.le_refl _) k hkb hc
      have h2 := nextAfter_le hp (k.scope, k.internal) hc
      obtain ⟨_, _, hnu⟩ := hm.branch (k.scope, k.internal) hc
      have hv := hwf.valid k (by rw [eT, paidKeys_append, paidKeys_append]; simp [hkb]) hc
      exact List.contains_iff_mem.mpr (hx (k.scope, k.internal) hc k.index
        (hnu ▸ Nat.lt_of_lt_of_le h1 (Nat.add_le_add_right h2 W)) hv)
  · intro a tx b hab op hop
    have eT' : allTxs c = (allTxs p ++ a) ++ tx :: (b ++ allTxs q) := by rw [eT, hab]; simp
    refine ⟨fun hops => ?_, fun h => ?_⟩
    · -- a wallet outpoint spent in the block was created before the spending transaction and not spent before
      have := created_before hwf eT' hop hops
      rw [wops_append] at this
      exact (List.mem_append.mp this).elim
        (fun ht => Or.inl (hm.watched_sup op ht (spentIn_eq_false.mpr fun t' ht' =>
          hwf.nodbl _ tx _ eT' op hop hops t' (List.mem_append_left _ ht'))))
        (fun ht => Or.inr (Or.inr ht))
    · rcases h with h | h | h
      · exact hm.watched_sub op h
      · exact absurd h List.not_mem_nil
      · rw [eT', wops_append, wops_append]
        exact List.mem_append_left _ (List.mem_append_right _ h)

/-- One block advances the invariant: `block_ready` says the findings are the truth, `extendFold_spec` and
    `relevantFold_spec` what `applyFound` does with them; the rest is the nine clauses, old part and new part each. -/
theorem hit_block {p q : Chain} {h : Nat} {blk : Block}
    {st : State} (e : c = p ++ (h, blk) :: q) (hs : Scanned W scopes invalid c p st) (hx : Exp W scopes invalid st) :
    Scanned W scopes invalid c (p ++ [(h, blk)]) (applyFound st h (filterBlock st blk ⟨[], [], []⟩)) := by
  obtain ⟨f1, f3, f4⟩ := block_ready e hs hx
  obtain ⟨hwf, hla, hp, hm⟩ := hs
  have eT : allTxs c = allTxs p ++ blk ++ allTxs q := by rw [e]; exact allTxs_split p h blk q
  generalize filterBlock st blk ⟨[], [], []⟩ = f at f1 f3 f4
  have hids : ∀ k ∈ branchIds st.scopes, scopes.contains k.1 = true :=
    fun k hk => (mem_branchIds scopes k).mp (hp.scopes_eq ▸ hk)
  obtain ⟨g, s5⟩ := extendFold_spec f.keys (branchIds st.scopes) st hids hm.branch
  obtain ⟨brs, nx, us, s1⟩ := g.frame
  rw [s1] at g s5
  have hknown : ∀ k ∈ paidKeys blk, scopes.contains k.scope = true →
      k.index < ({ st with branches := brs, next := nx, used := us } : State).nextOf (k.scope, k.internal) ∧
      k ∈ us :=
    fun k hk hs => s5 k ((f3 k).mpr ⟨hk, hs⟩) (hp.scopes_eq ▸ (mem_branchIds scopes _).mpr hs)
  obtain ⟨us', um, ls, r1, r2⟩ := relevantFold_spec hwf (fun _ h => h) h blk (allTxs p) (allTxs q)
    { st with branches := brs, next := nx, used := us,
              watched := f.outpoints.foldl (fun w op => w.insert op) st.watched }
    eT hp.scopes_eq hp.credits hp.txs_ids (fun k hk hs => (hknown k hk hs).1)
  rw [applyFound_eq st h f _ s1, f1, show _ = _ from r1]
  refine ⟨hwf, hla.mono (by rw [List.length_append]; exact Nat.le_add_right _ _), ?_, ?_⟩
  · refine ⟨hp.scopes_eq, fun k hk hs => ?_, by rw [allTxs_snoc], fun h' blk' hmem tx htx ht => ?_, fun x hx' => ?_⟩
    · rw [allTxs_snoc, paidKeys_append] at hk
      rcases List.mem_append.mp hk with hk | hk
      · obtain ⟨h1, h2⟩ := hp.paid k hk hs
        exact ⟨Nat.lt_of_lt_of_le h1 (g.nextOf_le _), r2 k (g.used_sub k h2)⟩
      · obtain ⟨h1, h2⟩ := hknown k hk hs
        exact ⟨h1, r2 k h2⟩
    · rcases List.mem_append.mp hmem with hmem | hmem
      · exact List.mem_append_left _ (hp.txs_rec h' blk' hmem tx htx ht)
      · cases List.mem_singleton.mp hmem
        exact List.mem_append_right _ (List.mem_map.mpr ⟨tx, List.mem_filter.mpr ⟨htx, ht⟩, rfl⟩)
    · rw [allTxs_snoc]
      rcases List.mem_append.mp hx' with hx' | hx'
      · obtain ⟨t, ht, hid⟩ := hp.txs_ids x hx'
        exact ⟨t, List.mem_append_left _ ht, hid⟩
      · obtain ⟨tx, htx, rfl⟩ := List.mem_map.mp hx'
        exact ⟨tx, List.mem_append_right _ (List.mem_filter.mp htx).1, rfl⟩
  · refine ⟨hm.window_eq, g.ok, fun op hop => ?_, fun op hop hsp => (mem_foldl_insert f.outpoints st.watched op).mpr ?_⟩
    · rcases (mem_foldl_insert f.outpoints st.watched op).mp hop with h' | h'
      · exact hm.watched_sub op h'
      · rw [eT, wops_append, wops_append]
        exact List.mem_append_left _ (List.mem_append_right _ ((f4 op).mp h'))
    · rw [allTxs_snoc, wops_append] at hop
      rw [allTxs_snoc, spentIn_append, Bool.or_eq_false_iff] at hsp
      exact (List.mem_append.mp hop).imp (fun hop => hm.watched_sup op hop hsp.1) (f4 op).mpr

/-- A block none of whose transactions touches the wallet is a hit with empty findings. -/
theorem skip_block {p q : Chain} {h : Nat} {blk : Block} {st : State} (e : c = p ++ (h, blk) :: q)
    (hs : Scanned W scopes invalid c p st) (hx : Exp W scopes invalid st)
    (hu : ∀ tx ∈ blk, touches scopes (wops scopes (allTxs c)) tx = false) :
    Scanned W scopes invalid c (p ++ [(h, blk)]) st := by
  obtain ⟨f1, f3, f4⟩ := block_ready e hs hx
  have hhit := hit_block e hs hx
  generalize filterBlock st blk ⟨[], [], []⟩ = f at f1 f3 f4 hhit
  obtain ⟨ks, os, ts⟩ := f
  have hk : ks = [] := List.eq_nil_iff_forall_not_mem.mpr fun k hk =>
    paidKeys_untouched scopes _ blk hu k ((f3 k).mp hk).1 ((f3 k).mp hk).2
  have ho : os = [] := List.eq_nil_iff_forall_not_mem.mpr fun op hop =>
    List.not_mem_nil (wops_untouched scopes _ blk hu ▸ (f4 op).mp hop)
  have ht : ts = [] := f1.trans (List.filter_eq_nil_iff.mpr fun tx htx => by rw [hu tx htx]; exact Bool.false_ne_true)
  rw [hk, ho, ht, applyFound_nil] at hhit
  exact hhit

theorem filterBlocks_spec (st : State)
    (hx : Exp W scopes invalid st) :
    ∀ (batch p q : Chain) (i0 : Nat), c = p ++ batch ++ q → Scanned W scopes invalid c p st →
    (filterBlocks st batch i0 = none → Scanned W scopes invalid c (p ++ batch) st) ∧
    (∀ i h f, filterBlocks st batch i0 = some (i, h, f) → ∃ a blk b, batch = a ++ (h, blk) :: b ∧ i = i0 + a.length ∧
      Scanned W scopes invalid c (p ++ a ++ [(h, blk)]) (applyFound st h f)) := by
  intro batch
  induction batch with
  | nil =>
    intro p q i0 _ hs
    exact ⟨fun _ => (List.append_nil p).symm ▸ hs, fun _ _ _ h => nomatch h⟩
  | cons hb rest ih =>
    obtain ⟨h, blk⟩ := hb
    intro p q i0 e hs
    have e1 : c = p ++ (h, blk) :: (rest ++ q) := e.trans (List.append_assoc p _ q)
    obtain ⟨f1, _, _⟩ := block_ready e1 hs hx
    rw [filterBlocks]
    by_cases hemp : (filterBlock st blk ⟨[], [], []⟩).txs.isEmpty = true
    · rw [if_pos hemp]
      rw [List.isEmpty_iff, f1, List.filter_eq_nil_iff] at hemp
      obtain ⟨q1, q2⟩ := ih (p ++ [(h, blk)]) q (i0 + 1) (by rw [e, List.append_assoc p [(h, blk)] rest]; rfl)
        (skip_block e1 hs hx fun tx htx => eq_false_of_ne_true (hemp tx htx))
      rw [List.append_assoc] at q1
      refine ⟨q1, fun i h' f hs => ?_⟩
      obtain ⟨a, blk', b, r1, r2, r3⟩ := q2 i h' f hs
      exact ⟨(h, blk) :: a, blk', b, by rw [r1]; rfl, by rw [r2, List.length_cons, Nat.add_assoc, Nat.add_comm 1],
        by rw [List.append_assoc p] at r3; exact r3⟩
    · rw [if_neg hemp]
      refine ⟨fun hn => (nomatch hn), fun i h' f hs => ?_⟩
      cases hs
      exact ⟨[], blk, rest, rfl, rfl, by rw [List.append_nil]; exact hit_block e1 hs hx⟩

theorem recoverScoped_spec :
    ∀ (fuel : Nat) (batch p q : Chain) (st : State), c = p ++ batch ++ q → batch.length < fuel →
    Scanned W scopes invalid c p st → Scanned W scopes invalid c (p ++ batch) (recoverScoped invalid fuel st batch) := by
  intro fuel
  induction fuel with
  | zero => intro _ _ _ _ _ hl; exact absurd hl (Nat.not_lt_zero _)
  | succ fuel ih =>
    intro batch p q st e hl hs
    by_cases hbe : batch = []
    · subst hbe; rw [recoverScoped_nil, List.append_nil]; exact hs
    · rw [recoverScoped_succ invalid fuel st batch hbe]
      obtain ⟨hs1, hx1⟩ := expState_inv hs
      obtain ⟨q1, q2⟩ := filterBlocks_spec (expState invalid st) hx1 batch p q 0 e hs1
      cases hfb : filterBlocks (expState invalid st) batch 0 with
      | none => exact q1 hfb
      | some r =>
        obtain ⟨i, h, f⟩ := r
        obtain ⟨a, blk, b, rfl, rfl, hs2⟩ := q2 i h f hfb
        show Scanned W scopes invalid c _ (recoverScoped invalid fuel _ (List.drop (0 + a.length + 1) _))
        have ea : p ++ (a ++ (h, blk) :: b) = p ++ a ++ [(h, blk)] ++ b := by simp
        rw [Nat.zero_add, drop_length_succ_append, ea]
        refine ih b (p ++ a ++ [(h, blk)]) q _ (by rw [e, ea]) ?_ hs2
        rw [List.length_append, List.length_cons] at hl
        exact Nat.lt_of_succ_lt_succ (Nat.lt_of_le_of_lt (Nat.le_add_left _ _) hl)

/-- `Wallet.recovery`: any batch size, any resume points. -/
theorem recoverChain_spec (batchSize : Nat) (cuts : Nat → Bool) :
    ∀ (fuel : Nat) (blocks p : Chain) (st : State) (i : Nat), c = p ++ blocks → blocks.length < fuel →
    Scanned W scopes invalid c p st →
    Scanned W scopes invalid c c (recoverChain invalid batchSize fuel st blocks cuts i) := by
  intro fuel
  induction fuel with
  | zero => intro _ _ _ _ _ hl; exact absurd hl (Nat.not_lt_zero _)
  | succ fuel ih =>
    intro blocks p st i e hl hs
    by_cases hbe : blocks = []
    · subst hbe; cases e.trans (List.append_nil p); rw [recoverChain_nil]; exact hs
    · rw [recoverChain_succ _ _ _ _ hbe]
      have e1 : c = p ++ blocks.take (max batchSize 1) ++ blocks.drop (max batchSize 1) := by
        rw [List.append_assoc, List.take_append_drop]; exact e
      have hs1 : Scanned W scopes invalid c _ (recoverBatch invalid st _) :=
        recoverScoped_spec _ _ p _ st e1 (Nat.lt_succ_self _) hs
      generalize recoverBatch invalid st _ = st1 at hs1 ⊢
      refine ih _ _ _ (i + 1) e1 ?_ ?_
      · rw [List.length_drop]
        exact Nat.lt_of_lt_of_le (Nat.sub_lt (List.length_pos_iff.mpr hbe)
          (Nat.lt_of_lt_of_le Nat.zero_lt_one (Nat.le_max_right _ _))) (Nat.le_of_lt_succ hl)
      · cases cuts i
        · exact hs1
        · exact ⟨hs1.wf, hs1.la, resurrect_inv e1 hs1.inv.1 hs1.inv.2.window_eq⟩

theorem recover_inv (hwf : ChainWF scopes invalid c) (hla : LookAhead W scopes c) (batchSize : Nat) (cuts : Nat → Bool) :
    LoopInv W scopes invalid c c (recover invalid W batchSize scopes c cuts) :=
  (recoverChain_spec batchSize cuts (c.length + 1) c [] _ 0 rfl (Nat.lt_succ_self _)
    ⟨hwf, hla.from _, resurrect_inv (p := []) rfl (init_inv W scopes c) rfl⟩).inv

end

theorem balance_fold (txs : List Tx) : ∀ (l : List (OutPoint × Nat)) (acc : Nat),
    ((l.map (fun p => (⟨p.1, p.2, spentIn txs p.1⟩ : Credit))).filter (fun c => !c.spent)).foldl
        (fun s c => s + c.amount) acc
      = acc + ((l.filter (fun p => !spentIn txs p.1)).map (·.2)).sum := by
  intro l
  induction l with
  | nil => intro acc; simp
  | cons a l ih =>
    intro acc
    cases hs : spentIn txs a.1
    · simp only [List.map_cons, List.filter_cons, hs, Bool.not_false, if_true, List.foldl_cons, List.sum_cons]
      rw [ih, Nat.add_assoc]
    · simp only [List.map_cons, List.filter_cons, hs, Bool.not_true, Bool.false_eq_true, if_false]
      exact ih acc

theorem balance_spec (scopes : List Nat) (txs : List Tx) (st : State) (h : st.credits = specCredits scopes txs)
    (hh : ∀ op, hidden st op = false) : balance st = ledgerBalance scopes txs := by
  unfold balance spendable ledgerBalance
  simp only [hh, Bool.not_false, Bool.and_true]
  rw [h, specCredits, balance_fold]
  simp

/-- The conclusion of C16 for a final state `st` after the chain `c`. -/
def Complete (scopes : List Nat) (c : Chain) (st : State) : Prop :=
  -- every used address of the recovered scopes is found (marked used) and the branch's next index is above it
  (∀ k ∈ paidKeys (allTxs c), scopes.contains k.scope = true →
      k ∈ st.used ∧ k.index < st.nextOf (k.scope, k.internal)) ∧
  -- every transaction paying to or spending from them is recorded, in its block
  (∀ h blk, (h, blk) ∈ c → ∀ tx ∈ blk,
      ((∃ o ∈ tx.outs, isW scopes o = true) ∨ (∃ op ∈ tx.ins, op ∈ wops scopes (allTxs c))) → (tx.id, h) ∈ st.txs) ∧
  -- the credits are exactly the wallet outputs of the chain, spent iff the chain spends them
  st.credits = specCredits scopes (allTxs c) ∧
  -- correct balance (`CalculateBalance` deliberately leaves out leased outputs and outputs spent by an unmined
  -- transaction — `hidden`; when there are none it is the ledger balance)
  ((∀ op, hidden st op = false) → balance st = ledgerBalance scopes (allTxs c))

theorem complete_of_pinv {scopes : List Nat} {c : Chain} {st : State} (hp : PInv scopes c c st) :
    Complete scopes c st := by
  refine ⟨fun k hk hs => ⟨(hp.paid k hk hs).2, (hp.paid k hk hs).1⟩, ?_, hp.credits,
    balance_spec scopes _ st hp.credits⟩
  intro h blk hmem tx htx ht
  apply hp.txs_rec h blk hmem tx htx
  simp only [touches, Bool.or_eq_true, List.any_eq_true, List.contains_iff_mem]
  exact ht

theorem allSplits_sound {α : Type} (P : List α → α → List α → Bool) : ∀ (l pre : List α),
    allSplits P pre l = true → ∀ a x b, l = a ++ x :: b → P (pre ++ a) x b = true := by
  intro l
  induction l with
  | nil => intro pre _ a x b h; cases a <;> cases h
  | cons y post ih =>
    intro pre h a x b hab
    simp only [allSplits, Bool.and_eq_true] at h
    cases a with
    | nil =>
      simp only [List.nil_append, List.cons.injEq] at hab
      obtain ⟨rfl, rfl⟩ := hab
      simpa using h.1
    | cons z a' =>
      simp only [List.cons_append, List.cons.injEq] at hab
      obtain ⟨rfl, hab⟩ := hab
      have := ih (pre ++ [y]) h.2 a' x b hab
      simpa using this

theorem checkWF_sound (scopes : List Nat) (invalid : BranchId → List Nat) (c : Chain)
    (h : checkWF scopes invalid c = true) : ChainWF scopes invalid c := by
  simp only [checkWF, Bool.and_eq_true, List.all_eq_true, Bool.or_eq_true, Bool.not_eq_true'] at h
  have hs := allSplits_sound _ (allTxs c) [] h.1
  simp only [List.nil_append, Bool.and_eq_true, List.all_eq_true, bne_iff_ne, Bool.or_eq_true, Bool.not_eq_true',
    Bool.eq_false_iff, ne_eq, List.contains_iff_mem] at hs
  exact ⟨fun pre tx post e => (hs pre tx post e).1.1, fun pre tx post e => (hs pre tx post e).1.2,
    fun pre tx post e op hop hops => ((hs pre tx post e).2 op hop).resolve_left (not_not_intro hops),
    fun k hk hs' => (h.2 k hk).resolve_left (by rw [hs']; exact Bool.noConfusion)⟩
theorem checkLA_sound (W : Nat) (scopes : List Nat) (c : Chain) (h : checkLA W scopes c = true) :
    LookAhead W scopes c := by
  intro pre hh blk post e k hk hs
  have := allSplits_sound _ c [] h pre (hh, blk) post e
  simp only [List.nil_append, List.all_eq_true, Bool.or_eq_true, Bool.not_eq_true', decide_eq_true_eq] at this
  exact (this k hk).resolve_left (by rw [hs]; exact Bool.noConfusion)

theorem checkLAFrom_sound (W : Nat) (scopes : List Nat) (n : Nat) (c : Chain) (h : checkLAFrom W scopes n c = true) :
    LookAheadFrom W scopes n c := by
  intro pre hh blk post e hn k hk hs
  have := allSplits_sound _ c [] h pre (hh, blk) post e
  simp only [List.nil_append, List.all_eq_true, Bool.or_eq_true, Bool.not_eq_true', decide_eq_true_eq] at this
  rcases this with h' | h'
  · exact absurd h' (Nat.not_lt.mpr hn)
  · exact (h' k hk).resolve_left (by rw [hs]; exact Bool.noConfusion)

/-- What a finished recovery over `p` left in the database is a valid starting point for the chain `p ++ rest`. -/
theorem pinv_extend {scopes : List Nat} {invalid : BranchId → List Nat} {p rest : Chain} {st : State}
    (hwf : ChainWF scopes invalid (p ++ rest)) (hp : PInv scopes p p st) : PInv scopes (p ++ rest) p st := by
  refine ⟨hp.scopes_eq, hp.paid, hp.credits, ?_, hp.txs_ids⟩
  intro h blk hmem tx htx ht
  apply hp.txs_rec h blk hmem tx htx
  simp only [touches, Bool.or_eq_true, List.any_eq_true, List.contains_iff_mem] at ht ⊢
  rcases ht with ht | ⟨op, hop, hops⟩
  · exact Or.inl ht
  · have htp : tx ∈ allTxs p := List.mem_flatMap.mpr ⟨(h, blk), hmem, htx⟩
    obtain ⟨a, b, hab⟩ := List.append_of_mem htp
    have e : allTxs (p ++ rest) = a ++ tx :: (b ++ allTxs rest) := by rw [allTxs_append, hab]; simp
    exact Or.inr ⟨op, hop, by rw [hab, wops_append]; exact List.mem_append_left _ (created_before hwf e hop hops)⟩

theorem pinv_window {scopes : List Nat} {c p : Chain} {st : State} (W : Nat) (hp : PInv scopes c p st) :
    PInv scopes c p { st with window := W } :=
  ⟨hp.scopes_eq, hp.paid, hp.credits, hp.txs_rec, hp.txs_ids⟩

/-! Recovery itself leases nothing and stores no unmined transaction. -/

def Quiet (st : State) : Prop := st.leased = [] ∧ st.unmined = []

theorem Quiet.hidden {st : State} (h : Quiet st) (op : OutPoint) : hidden st op = false := by
  simp [Recovery.hidden, h.1, h.2]

theorem quiet_foldl {α : Type} (f : State → α → State) (hf : ∀ st a, Quiet st → Quiet (f st a)) (l : List α) (st : State)
    (h : Quiet st) : Quiet (l.foldl f st) :=
  List.foldlRecOn l f h fun st hs a _ => hf st a hs

theorem quiet_extendFound (st : State) (k : BranchId) (idxs : List Nat) (h : Quiet st) :
    Quiet (extendFound st k idxs) := by
  cases idxs <;> exact h

theorem quiet_addRelevantTx (st : State) (tx : Tx) (height : Nat) (h : Quiet st) :
    Quiet (addRelevantTx st tx height) := by
  unfold addRelevantTx
  split
  · exact h
  · simp only [Quiet, h.1, h.2, List.filter_nil, and_self]

theorem quiet_applyFound (st : State) (height : Nat) (f : Found) (h : Quiet st) : Quiet (applyFound st height f) :=
  quiet_foldl _ (fun st tx hq => quiet_addRelevantTx st tx height hq) _ _
    (quiet_foldl (efStep f.keys) (fun st k hq => quiet_extendFound st k _ hq) (branchIds st.scopes) st h)

theorem quiet_recoverScoped (invalid : BranchId → List Nat) : ∀ (fuel : Nat) (st : State) (batch : Chain),
    Quiet st → Quiet (recoverScoped invalid fuel st batch) := by
  intro fuel
  induction fuel with
  | zero => intro st batch h; exact h
  | succ fuel ih =>
    intro st batch h
    by_cases hbe : batch = []
    · subst hbe; exact h
    · rw [recoverScoped_succ invalid fuel st batch hbe]
      have hx : Quiet (expState invalid st) := quiet_foldl (expStep invalid) (fun _ _ h => h) _ _ h
      cases filterBlocks (expState invalid st) batch 0 with
      | none => exact hx
      | some r => exact ih _ _ (quiet_applyFound _ _ _ hx)

theorem quiet_recoverChain (invalid : BranchId → List Nat) (batchSize : Nat) (cuts : Nat → Bool) :
    ∀ (fuel : Nat) (st : State) (blocks : Chain) (n : Nat), Quiet st →
    Quiet (recoverChain invalid batchSize fuel st blocks cuts n) := by
  intro fuel
  induction fuel with
  | zero => intro st blocks n h; exact h
  | succ fuel ih =>
    intro st blocks n h
    by_cases hbe : blocks = []
    · subst hbe; exact h
    · rw [recoverChain_succ _ _ _ _ hbe]
      have h1 : Quiet (recoverBatch invalid st (blocks.take (max batchSize 1))) := quiet_recoverScoped invalid _ _ _ h
      generalize recoverBatch invalid st _ = st1 at h1 ⊢
      exact ih _ _ _ (by cases cuts n <;> exact h1)

theorem quiet_recover (invalid : BranchId → List Nat) (W batchSize : Nat) (scopes : List Nat) (c : Chain)
    (cuts : Nat → Bool) : Quiet (recover invalid W batchSize scopes c cuts) :=
  quiet_recoverChain invalid batchSize cuts _ _ _ _ ⟨rfl, rfl⟩

end Recovery
