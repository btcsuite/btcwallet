import BtcwVerif.Model.TxStore
import BtcwVerif.Lemmas.Util
/-! Lookup laws of the sorted association lists used as buckets (`TxStore.KMap`). They hold for every list
(no sortedness needed), which keeps the invariants of the store model simple.  Order: the bucket API
(`find?`, `erase`, `place`, `insert`, `set`, key uniqueness), sums over a bucket, and at the end what the store proofs share:
facts about `Except`, `mapM`, `Nodup`, `withIdx`, loops, the cursor walk down the height-ordered block bucket
(`top_window`), `Ensures` (one rule per monadic construct, for walking an operation), and last the lookup-level forms
`find?_erase_eq`/`find?_insert_eq` and `perm_map_of_find?`. -/
namespace TxStore.KMap
variable {κ ν : Type} [DecidableEq κ]

@[simp] theorem find?_nil (k : κ) : find? ([] : KMap κ ν) k = none := rfl

theorem find?_cons (k' : κ) (v : ν) (t : KMap κ ν) (k : κ) :
    find? ((k', v) :: t) k = if k' = k then some v else find? t k := rfl

theorem erase_cons (p : κ × ν) (t : KMap κ ν) (k : κ) :
    erase (p :: t) k = if p.1 = k then erase t k else p :: erase t k := by
  by_cases h : p.1 = k <;> simp [erase, h]

theorem find?_erase (m : KMap κ ν) (k k' : κ) :
    find? (erase m k) k' = if k = k' then none else find? m k' := by
  induction m with
  | nil => simp [erase]
  | cons p t ih =>
    rw [erase_cons, find?_cons]
    by_cases h1 : p.1 = k
    · rw [if_pos h1, ih, h1]
      split <;> rfl
    · rw [if_neg h1, find?_cons, ih]
      by_cases h2 : k = k'
      · subst h2; simp [h1]
      · simp [h2]

@[simp] theorem find?_erase_self (m : KMap κ ν) (k : κ) : find? (erase m k) k = none := by simp [find?_erase]

theorem find?_erase_ne (m : KMap κ ν) {k k' : κ} (h : k ≠ k') : find? (erase m k) k' = find? m k' := by
  simp [find?_erase, h]

theorem find?_erase_eq_some {m : KMap κ ν} {k k' : κ} {v : ν} :
    find? (erase m k) k' = some v ↔ k ≠ k' ∧ find? m k' = some v := by
  rw [find?_erase]
  split <;> simp [*]

theorem find?_foldl_erase (ks : List κ) (m : KMap κ ν) (k : κ) :
    find? (ks.foldl erase m) k = if k ∈ ks then none else find? m k := by
  induction ks generalizing m with
  | nil => rfl
  | cons a t ih =>
    rw [List.foldl_cons, ih, find?_erase]
    by_cases h1 : k ∈ t <;> by_cases h2 : k = a <;> simp [h1, h2, eq_comm]

theorem find?_place [KOrd κ] (m : KMap κ ν) (k : κ) (v : ν) (k' : κ) (hm : find? m k = none) :
    find? (place m k v) k' = if k = k' then some v else find? m k' := by
  induction m with
  | nil => rfl
  | cons p t ih =>
    rw [find?_cons] at hm
    split at hm
    · cases hm
    · rename_i hpk
      unfold place
      split
      · rfl
      · rw [find?_cons, find?_cons, ih hm]
        by_cases h1 : p.1 = k'
        · rw [if_pos h1, if_neg (fun e : k = k' => hpk (h1.trans e.symm)), if_pos h1]
        · rw [if_neg h1, if_neg h1]

theorem find?_insert [KOrd κ] (m : KMap κ ν) (k : κ) (v : ν) (k' : κ) :
    find? (insert m k v) k' = if k = k' then some v else find? m k' := by
  unfold insert
  rw [find?_place _ _ _ _ (find?_erase_self m k), find?_erase]
  split <;> rfl

@[simp] theorem find?_insert_self [KOrd κ] (m : KMap κ ν) (k : κ) (v : ν) :
    find? (insert m k v) k = some v := by simp [find?_insert]

theorem find?_insert_ne [KOrd κ] (m : KMap κ ν) {k k' : κ} (v : ν) (h : k ≠ k') :
    find? (insert m k v) k' = find? m k' := by simp [find?_insert, h]

theorem contains_eq (m : KMap κ ν) (k : κ) : contains m k = (find? m k).isSome := rfl

theorem contains_eq_false {m : KMap κ ν} {k : κ} : contains m k = false ↔ find? m k = none := by
  rw [contains_eq, Option.isSome_eq_false_iff, Option.isNone_iff_eq_none]

theorem contains_eq_true {m : KMap κ ν} {k : κ} : contains m k = true ↔ ∃ v, find? m k = some v := by
  rw [contains_eq, Option.isSome_iff_exists]

/-- membership of an entry implies a successful lookup of *some* value (first match wins) -/
theorem find?_isSome_of_mem (m : KMap κ ν) {k : κ} {v : ν} (h : (k, v) ∈ m) : (find? m k).isSome := by
  induction m with
  | nil => cases h
  | cons p t ih =>
    rw [find?_cons]
    split
    · rfl
    · rcases List.mem_cons.mp h with rfl | h'
      · contradiction
      · exact ih h'

theorem mem_of_find? (m : KMap κ ν) {k : κ} {v : ν} (h : find? m k = some v) : (k, v) ∈ m := by
  induction m with
  | nil => cases h
  | cons p t ih =>
    rw [find?_cons] at h
    split at h
    · rename_i e
      cases h; subst e; exact List.mem_cons_self
    · exact List.mem_cons_of_mem _ (ih h)

/-! ### key uniqueness (what bbolt guarantees for a bucket); preserved by `insert` and `erase` with no order laws -/

def NodupKeys (m : KMap κ ν) : Prop := (keys m).Nodup

theorem nodupKeys_nil : NodupKeys ([] : KMap κ ν) := List.nodup_nil

theorem nodupKeys_cons {p : κ × ν} {t : KMap κ ν} : NodupKeys (p :: t) ↔ p.1 ∉ keys t ∧ NodupKeys t :=
  List.nodup_cons

theorem mem_keys_erase (m : KMap κ ν) (k x : κ) : x ∈ keys (erase m k) ↔ x ∈ keys m ∧ x ≠ k := by
  simp only [keys, erase, List.mem_map, List.mem_filter]
  constructor
  · rintro ⟨p, ⟨hp, hk⟩, rfl⟩
    exact ⟨⟨p, hp, rfl⟩, by simpa using hk⟩
  · rintro ⟨⟨p, hp, rfl⟩, hne⟩
    exact ⟨p, ⟨hp, by simpa using hne⟩, rfl⟩

theorem nodupKeys_erase (m : KMap κ ν) (k : κ) (h : NodupKeys m) : NodupKeys (erase m k) :=
  h.sublist (List.filter_sublist.map _)

omit [DecidableEq κ] in
theorem place_perm [KOrd κ] (m : KMap κ ν) (k : κ) (v : ν) : (place m k v).Perm ((k, v) :: m) := by
  induction m with
  | nil => exact .refl _
  | cons p t ih =>
    unfold place
    split
    · exact .refl _
    · exact (ih.cons p).trans (.swap _ _ _)

theorem mem_keys_place [KOrd κ] (m : KMap κ ν) (k : κ) (v : ν) (x : κ) :
    x ∈ keys (place m k v) ↔ x = k ∨ x ∈ keys m :=
  ((place_perm m k v).map (·.1)).mem_iff.trans List.mem_cons

theorem nodupKeys_place [KOrd κ] (m : KMap κ ν) (k : κ) (v : ν) (h : NodupKeys m) (hk : k ∉ keys m) :
    NodupKeys (place m k v) :=
  ((place_perm m k v).map fun p : κ × ν => p.1).nodup_iff.mpr (List.nodup_cons.mpr ⟨hk, h⟩)

theorem not_mem_keys_erase_self (m : KMap κ ν) (k : κ) : k ∉ keys (erase m k) :=
  fun h => ((mem_keys_erase m k k).mp h).2 rfl

theorem nodupKeys_insert [KOrd κ] (m : KMap κ ν) (k : κ) (v : ν) (h : NodupKeys m) : NodupKeys (insert m k v) :=
  nodupKeys_place _ _ _ (nodupKeys_erase m k h) (not_mem_keys_erase_self m k)

theorem mem_keys_iff_find? (m : KMap κ ν) (k : κ) : k ∈ keys m ↔ (find? m k).isSome := by
  constructor
  · intro h
    obtain ⟨p, hp, rfl⟩ := List.mem_map.mp h
    exact find?_isSome_of_mem m (v := p.2) hp
  · intro h
    obtain ⟨v, hv⟩ := Option.isSome_iff_exists.mp h
    exact List.mem_map.mpr ⟨(k, v), mem_of_find? m hv, rfl⟩

theorem find?_eq_none_iff (m : KMap κ ν) (k : κ) : find? m k = none ↔ k ∉ keys m := by
  rw [mem_keys_iff_find?, ← Option.not_isSome_iff_eq_none]

theorem find?_of_mem (m : KMap κ ν) {k : κ} {v : ν} (hn : NodupKeys m) (h : (k, v) ∈ m) : find? m k = some v := by
  induction m with
  | nil => cases h
  | cons p t ih =>
    obtain ⟨hp, ht⟩ := nodupKeys_cons.mp hn
    rw [find?_cons]
    rcases List.mem_cons.mp h with rfl | h'
    · exact if_pos rfl
    · rw [if_neg (fun e : p.1 = k => hp (e ▸ List.mem_map.mpr ⟨(k, v), h', rfl⟩))]
      exact ih ht h'

theorem mem_iff_find? (m : KMap κ ν) (hn : NodupKeys m) (k : κ) (v : ν) : (k, v) ∈ m ↔ find? m k = some v :=
  ⟨find?_of_mem m hn, mem_of_find? m⟩

theorem erase_of_find?_none (m : KMap κ ν) (k : κ) (h : find? m k = none) : erase m k = m := by
  rw [find?_eq_none_iff] at h
  exact List.filter_eq_self.mpr fun p hp => by
    have : p.1 ≠ k := fun e => h (e ▸ List.mem_map.mpr ⟨p, hp, rfl⟩)
    simp [this]

theorem find?_append (a b : KMap κ ν) (k : κ) : find? (a ++ b) k = (find? a k).or (find? b k) := by
  induction a with
  | nil => rfl
  | cons p t ih =>
    obtain ⟨k', v⟩ := p
    rw [List.cons_append, find?_cons, find?_cons, ih]
    split <;> rfl

theorem find?_filter_key (f : κ → Bool) (m : KMap κ ν) (k : κ) :
    find? (m.filter fun p => f p.1) k = if f k then find? m k else none := by
  induction m with
  | nil => split <;> rfl
  | cons p t ih =>
    obtain ⟨k', v⟩ := p
    rw [List.filter_cons, find?_cons]
    by_cases e : k' = k
    · subst e; cases h : f k' <;> simp [h, ih, find?_cons]
    · cases h : f k' <;> simp [ih, find?_cons, e]

theorem find?_filter_val (P : ν → Bool) (m : KMap κ ν) (k : κ) (hn : NodupKeys m) :
    find? (m.filter fun p => P p.2) k = (find? m k).filter P := by
  induction m with
  | nil => rfl
  | cons p t ih =>
    obtain ⟨hp, ht⟩ := nodupKeys_cons.mp hn
    obtain ⟨k', v⟩ := p
    rw [List.filter_cons, find?_cons]
    by_cases e : k' = k
    · subst e
      cases h : P v
      · simp [ih ht, (find?_eq_none_iff t k').mpr hp, Option.filter, h]
      · simp [find?_cons, Option.filter, h]
    · cases h : P v <;> simp [ih ht, find?_cons, e]

/-- bbolt `Put` (`some v`) or `Delete` (`none`) -/
def set [KOrd κ] (m : KMap κ ν) (k : κ) : Option ν → KMap κ ν
  | some v => insert m k v
  | none => erase m k

theorem find?_set [KOrd κ] (m : KMap κ ν) (k : κ) (o : Option ν) (k' : κ) :
    find? (set m k o) k' = if k = k' then o else find? m k' := by
  cases o
  · exact find?_erase m k k'
  · exact find?_insert m k _ k'

theorem nodupKeys_set [KOrd κ] (m : KMap κ ν) (k : κ) (o : Option ν) (h : NodupKeys m) : NodupKeys (set m k o) := by
  cases o
  · exact nodupKeys_erase m k h
  · exact nodupKeys_insert m k _ h

theorem erase_place_self [KOrd κ] (m : KMap κ ν) (k : κ) (v : ν) : erase (place m k v) k = erase m k := by
  induction m with
  | nil => simp [place, erase]
  | cons p t ih =>
    unfold place
    split
    · exact (erase_cons _ _ _).trans (if_pos rfl)
    · rw [erase_cons, erase_cons, ih]

theorem erase_erase (m : KMap κ ν) (k : κ) : erase (erase m k) k = erase m k := by
  unfold erase; rw [List.filter_filter]; simp

theorem erase_insert_self [KOrd κ] (m : KMap κ ν) (k : κ) (v : ν) : erase (insert m k v) k = erase m k := by
  unfold insert; rw [erase_place_self, erase_erase]

theorem insert_insert [KOrd κ] (m : KMap κ ν) (k : κ) (v w : ν) : insert (insert m k v) k w = insert m k w := by
  rw [insert, erase_insert_self]; rfl

theorem _root_.TxStore.perm_sum {l₁ l₂ : List Int} (h : l₁.Perm l₂) : l₁.sum = l₂.sum := by
  induction h with
  | nil => rfl
  | cons x _ ih => simp [ih]
  | swap x y l => simp only [List.sum_cons]; omega
  | trans _ _ ih1 ih2 => omega

theorem sum_erase (g : κ × ν → Int) (m : KMap κ ν) (k : κ) (hn : NodupKeys m) :
    ((erase m k).map g).sum = (m.map g).sum - (match find? m k with | some v => g (k, v) | none => 0) := by
  induction m with
  | nil => rfl
  | cons p t ih =>
    obtain ⟨hp, ht⟩ := nodupKeys_cons.mp hn
    rw [find?_cons, erase_cons, List.map_cons, List.sum_cons]
    by_cases h1 : p.1 = k
    · subst h1
      rw [if_pos rfl, if_pos rfl, erase_of_find?_none t _ ((find?_eq_none_iff t _).mpr hp)]
      show _ = g p + _ - g p
      omega
    · rw [if_neg h1, if_neg h1, List.map_cons, List.sum_cons, ih ht]
      omega

theorem sum_place [KOrd κ] (g : κ × ν → Int) (m : KMap κ ν) (k : κ) (v : ν) :
    ((place m k v).map g).sum = g (k, v) + (m.map g).sum :=
  perm_sum ((place_perm m k v).map g)

theorem sum_insert [KOrd κ] (g : κ × ν → Int) (m : KMap κ ν) (k : κ) (v : ν) (hn : NodupKeys m) :
    ((insert m k v).map g).sum =
      (m.map g).sum - (match find? m k with | some v0 => g (k, v0) | none => 0) + g (k, v) := by
  unfold insert
  rw [sum_place, sum_erase g m k hn]; omega

theorem sum_set [KOrd κ] (g : κ × ν → Int) (m : KMap κ ν) (k : κ) (o : Option ν) (hn : NodupKeys m) :
    ((set m k o).map g).sum = (m.map g).sum - (match find? m k with | some v0 => g (k, v0) | none => 0) +
      (match o with | some v => g (k, v) | none => 0) := by
  cases o
  · exact (sum_erase g m k hn).trans (Int.add_zero _).symm
  · exact sum_insert g m k _ hn

end TxStore.KMap

namespace TxStore
@[simp] theorem throw_eq {α : Type} (e : Err) : (throw e : M α) = Except.error e := rfl
@[simp] theorem pure_eq {α : Type} (a : α) : (pure a : M α) = Except.ok a := rfl
@[simp] theorem bind_ok {α β : Type} (a : α) (f : α → M β) : (Except.ok a >>= f) = f a := rfl
@[simp] theorem bind_error {α β : Type} (e : Err) (f : α → M β) : ((Except.error e : M α) >>= f) = Except.error e := rfl

theorem bind_ok_iff {α β : Type} {x : M α} {f : α → M β} {b : β} :
    (x >>= f) = .ok b ↔ ∃ a, x = .ok a ∧ f a = .ok b := by
  cases x with
  | error e => exact ⟨fun h => (nomatch h), fun ⟨_, h, _⟩ => (nomatch h)⟩
  | ok a => exact ⟨fun h => ⟨a, rfl, h⟩, fun ⟨_, h, h'⟩ => by cases h; exact h'⟩

theorem mapM_eq_ok {α β : Type} {f : α → M β} : ∀ {l : List α} {r : List β},
    l.mapM f = .ok r ↔ l.map f = r.map .ok
  | [], r => by cases r <;> simp [pure, Except.pure]
  | a :: t, r => by
    rw [List.mapM_cons, bind_ok_iff]
    simp only [bind_ok_iff, pure_eq, Except.ok.injEq, mapM_eq_ok (l := t)]
    constructor
    · rintro ⟨b, hb, bs, hbs, rfl⟩
      rw [List.map_cons, List.map_cons, hb, hbs]
    · intro h
      cases r with
      | nil => cases h
      | cons b bs =>
        rw [List.map_cons, List.map_cons, List.cons.injEq] at h
        exact ⟨b, h.1, bs, h.2, rfl⟩

theorem mem_mapM_ok {α β : Type} {f : α → M β} {l : List α} {r : List β} (h : l.mapM f = .ok r) {y : β}
    (hy : y ∈ r) : ∃ x ∈ l, f x = .ok y :=
  List.mem_map.mp (mapM_eq_ok.mp h ▸ List.mem_map_of_mem hy)

theorem mapM_ok_of_mem {α β : Type} {f : α → M β} {l : List α} {r : List β} (h : l.mapM f = .ok r) {x : α}
    (hx : x ∈ l) : ∃ y ∈ r, f x = .ok y :=
  (List.mem_map.mp (mapM_eq_ok.mp h ▸ List.mem_map_of_mem hx : f x ∈ r.map .ok)).imp fun _ h => ⟨h.1, h.2.symm⟩

section
variable {α β : Type}

theorem mapM_eq_map_of_forall (f : α → M β) (g : α → β) (l : List α)
    (h : ∀ x ∈ l, f x = .ok (g x)) : l.mapM f = .ok (l.map g) := by
  rw [mapM_eq_ok, List.map_map]
  exact List.map_congr_left h

theorem mapM_guard (c : α → Prop) [DecidablePred c] (e : Err) (g : α → β) {l : List α} {r : List β} :
    l.mapM (fun x => if c x then (.error e : M β) else .ok (g x)) = .ok r ↔ (∀ x ∈ l, ¬ c x) ∧ r = l.map g := by
  constructor
  · intro h
    have hc : ∀ x ∈ l, ¬ c x := fun x hx hcx => by
      obtain ⟨y, _, hy⟩ := mapM_ok_of_mem h hx
      rw [if_pos hcx] at hy; cases hy
    have := h.symm.trans (mapM_eq_map_of_forall _ g l fun x hx => if_neg (hc x hx))
    cases this
    exact ⟨hc, rfl⟩
  · rintro ⟨hc, rfl⟩
    exact mapM_eq_map_of_forall _ _ _ fun x hx => if_neg (hc x hx)

def okOr (d : α) : M α → α
  | .ok a => a
  | .error _ => d

theorem filterMap_congr' (f g : α → Option β) : ∀ (l : List α), (∀ x ∈ l, f x = g x) →
    l.filterMap f = l.filterMap g
  | [], _ => rfl
  | a :: t, h => by
    rw [List.filterMap_cons, List.filterMap_cons, h a List.mem_cons_self,
      filterMap_congr' f g t fun x hx => h x (List.mem_cons_of_mem _ hx)]

theorem flatMap_congr' (f g : α → List β) : ∀ (l : List α), (∀ x ∈ l, f x = g x) →
    l.flatMap f = l.flatMap g
  | [], _ => rfl
  | a :: t, h => by
    rw [List.flatMap_cons, List.flatMap_cons, h a List.mem_cons_self,
      flatMap_congr' f g t fun x hx => h x (List.mem_cons_of_mem _ hx)]

end

theorem nodup_of_nodup_map {α β : Type} (f : α → β) {l : List α} (h : (l.map f).Nodup) : l.Nodup :=
  List.Pairwise.of_map f (fun _ _ hne e => hne (e ▸ rfl)) h

theorem eq_of_nodup_map {α β : Type} (f : α → β) : ∀ (l : List α), (l.map f).Nodup →
    ∀ a ∈ l, ∀ b ∈ l, f a = f b → a = b :=
  fun _ h _ ha _ hb => h.inj_of_map ha hb

theorem nodup_flatMap_unique {α β : Type} (f : α → List β) : ∀ (l : List α), (l.flatMap f).Nodup →
    ∀ a ∈ l, ∀ b ∈ l, ∀ x, x ∈ f a → x ∈ f b → a = b := by
  intro l
  induction l with
  | nil => intro _ a ha; cases ha
  | cons c t ih =>
    intro hn a ha b hb x hxa hxb
    rw [List.flatMap_cons, List.nodup_append] at hn
    obtain ⟨_, h2, h3⟩ := hn
    rcases List.mem_cons.mp ha with rfl | ha'
    · rcases List.mem_cons.mp hb with rfl | hb'
      · rfl
      · exact absurd rfl (h3 x hxa x (List.mem_flatMap.mpr ⟨b, hb', hxb⟩))
    · rcases List.mem_cons.mp hb with rfl | hb'
      · exact absurd rfl (h3 x hxb x (List.mem_flatMap.mpr ⟨a, ha', hxa⟩))
      · exact ih h2 a ha' b hb' x hxa hxb

theorem nodup_map_filter {α β : Type} (f : α → β) (p : α → Bool) (l : List α) (h : (l.map f).Nodup) :
    ((l.filter p).map f).Nodup :=
  (List.filter_sublist.map f).nodup h

theorem nodup_of_sorted {l : List Nat} (h : l.Pairwise (· < ·)) : l.Nodup := h.imp Nat.ne_of_lt

theorem withIdx_eq_zipIdx {α : Type} : ∀ (l : List α) (n : Nat), withIdx l n = (l.zipIdx n).map fun p => (p.2, p.1) := by
  intro l
  induction l with
  | nil => intro n; rfl
  | cons x t ih => intro n; simp [withIdx, ih]

theorem mem_withIdx_iff {α : Type} (l : List α) (n i : Nat) (a : α) :
    (i, a) ∈ withIdx l n ↔ n ≤ i ∧ l[i - n]? = some a := by
  rw [withIdx_eq_zipIdx, ← List.mk_mem_zipIdx_iff_le_and_getElem?_sub, List.mem_map]
  exact ⟨fun ⟨_, h, e⟩ => by cases e; exact h, fun h => ⟨_, h, rfl⟩⟩

theorem mem_withIdx0 {α : Type} (l : List α) (i : Nat) (a : α) : (i, a) ∈ withIdx l ↔ l[i]? = some a := by
  rw [mem_withIdx_iff]; simp

theorem withIdx_map_fst_eq {α : Type} (l : List α) (n : Nat) : (withIdx l n).map (·.1) = List.range' n l.length := by
  rw [withIdx_eq_zipIdx, List.map_map]; exact List.zipIdx_map_snd n l

theorem withIdx_map_fst {α : Type} : ∀ (l : List α) (n : Nat) (i : Nat),
    i ∈ (withIdx l n).map (·.1) ↔ n ≤ i ∧ i < n + l.length := fun l n i => by
  rw [withIdx_map_fst_eq, List.mem_range'_1]

theorem withIdx_map_snd {α : Type} (l : List α) (n : Nat) : (withIdx l n).map (·.2) = l := by
  rw [withIdx_eq_zipIdx, List.map_map]; exact List.zipIdx_map_fst n l

theorem withIdx_fst_nodup {α : Type} (l : List α) (n : Nat) : ((withIdx l n).map (·.1)).Nodup := by
  rw [withIdx_map_fst_eq]; exact List.nodup_range'

theorem takeWhile_eq_filter {α : Type} (p : α → Bool) : ∀ (l : List α),
    l.Pairwise (fun a b => p b = true → p a = true) → l.takeWhile p = l.filter p := by
  intro l
  induction l with
  | nil => intro _; rfl
  | cons a t ih =>
    intro hp
    rw [List.pairwise_cons] at hp
    rw [List.takeWhile_cons, List.filter_cons]
    by_cases h : p a = true
    · rw [if_pos h, if_pos h, ih hp.2]
    · rw [if_neg h, if_neg h]
      exact (List.filter_eq_nil_iff.mpr fun b hb hpb => h (hp.1 b hb hpb)).symm

/-- a cursor walking down a height-ordered bucket while the height is not below `h` (pass 2 of `Balance`, `rollback`) visits
the records not below `h`, highest first -/
theorem top_window {ν : Type} (L : KMap Nat ν) (h : Int) (hs : (L.map (·.1)).Pairwise (· < ·)) :
    (L.reverse.takeWhile fun p => !decide ((p.1 : Int) < h)) = (L.filter fun p => !decide ((p.1 : Int) < h)).reverse := by
  rw [← List.filter_reverse]
  refine takeWhile_eq_filter _ _ (List.pairwise_reverse.mpr ((List.pairwise_map.mp hs).imp fun {a b} hab hb => ?_))
  simp only [Bool.not_eq_true', decide_eq_false_iff_not] at hb ⊢
  omega

theorem loop_inv {σ α : Type} (P : σ → Prop) {f : σ → α → σ} (hf : ∀ s a, P s → P (f s a)) (l : List α) {s : σ}
    (h : P s) : P (l.foldl f s) :=
  List.foldlRecOn l f h fun s hs a _ => hf s a hs

def Ensures {α : Type} (x : M α) (P : α → Prop) : Prop := ∀ a, x = .ok a → P a

theorem Ensures.pure {α : Type} {P : α → Prop} {a : α} (h : P a) : Ensures (pure a) P :=
  fun _ e => by cases e; exact h

theorem Ensures.throw {α : Type} {P : α → Prop} {e : Err} : Ensures (throw e : M α) P :=
  fun _ h => by cases h

theorem Ensures.ite {α : Type} {P : α → Prop} {c : Prop} [Decidable c] {x y : M α} (hx : c → Ensures x P)
    (hy : ¬ c → Ensures y P) : Ensures (if c then x else y) P :=
  ite_ind (P := (Ensures · P)) hx hy

theorem Ensures.bind {α β : Type} {x : M α} {f : α → M β} {Q : α → Prop} {P : β → Prop} (hx : Ensures x Q)
    (hf : ∀ a, Q a → Ensures (f a) P) : Ensures (x >>= f) P := by
  intro b h
  cases x with
  | error e => cases h
  | ok a => exact hf a (hx a rfl) b h

theorem Ensures.foldlM {α β : Type} {P : β → Prop} {f : β → α → M β} (hf : ∀ b a, P b → Ensures (f b a) P)
    (l : List α) (b : β) (hb : P b) : Ensures (l.foldlM f b) P := by
  induction l generalizing b with
  | nil => exact .pure hb
  | cons a t ih => rw [List.foldlM_cons]; exact (hf b a hb).bind ih

section
open KMap

/-- `find?_erase`, `find?_insert` with the looked-up key tested first, as lookup-level specifications write it -/
theorem find?_erase_eq {κ ν : Type} [DecidableEq κ] (m : KMap κ ν) (k k' : κ) :
    (m.erase k).find? k' = if k' = k then none else m.find? k' := by
  rw [find?_erase]; exact ite_congr (propext eq_comm) (fun _ => rfl) (fun _ => rfl)

theorem find?_insert_eq {κ ν : Type} [DecidableEq κ] [KOrd κ] (m : KMap κ ν) (k : κ) (v : ν) (k' : κ) :
    (m.insert k v).find? k' = if k' = k then some v else m.find? k' := by
  rw [find?_insert]; exact ite_congr (propext eq_comm) (fun _ => rfl) (fun _ => rfl)

theorem filter_perm_of_find?_iff {κ ν : Type} [DecidableEq κ] {m : KMap κ ν} (hm : NodupKeys m) (P : κ × ν → Bool)
    {l : List (κ × ν)} (hl : l.Nodup) (h : ∀ k v, (m.find? k = some v ∧ P (k, v) = true) ↔ (k, v) ∈ l) :
    (m.filter P).Perm l := by
  refine (List.perm_ext_iff_of_nodup (List.Nodup.sublist List.filter_sublist
    (nodup_of_nodup_map (·.1) (show (m.map (·.1)).Nodup from hm))) hl).mpr ?_
  rintro ⟨k, v⟩
  rw [List.mem_filter, mem_iff_find? _ hm, h]

theorem perm_map_of_find? {κ ν μ : Type} [DecidableEq κ] {a : KMap κ ν} {b : KMap κ μ} (f : ν → μ) (ha : NodupKeys a)
    (hb : NodupKeys b) (h : ∀ k, b.find? k = (a.find? k).map f) : b.Perm (a.map fun p => (p.1, f p.2)) := by
  refine (List.perm_ext_iff_of_nodup (nodup_of_nodup_map (·.1) (show (b.map (·.1)).Nodup from hb))
    (nodup_of_nodup_map (·.1) (by rw [List.map_map]; exact ha))).mpr ?_
  rintro ⟨k, w⟩
  rw [mem_iff_find? _ hb, h, Option.map_eq_some_iff, List.mem_map]
  exact ⟨fun ⟨v, hv, e⟩ => ⟨(k, v), mem_of_find? _ hv, by rw [e]⟩,
    fun ⟨p, hp, e⟩ => by cases e; exact ⟨p.2, find?_of_mem _ ha hp, rfl⟩⟩

end

end TxStore
