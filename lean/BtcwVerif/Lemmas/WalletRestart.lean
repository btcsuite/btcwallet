import BtcwVerif.Model.WalletRestart
import BtcwVerif.Lemmas.Util
/-! Lemmas about the `WalletRestart` model for C05 and C08 at the wallet level: `Loads` (cache traffic), `Outcome`
(shapes of a request's outcome, `step_cases`), coherence of the account cache.
Core Lean only. -/
namespace WalletRestart

/-- coherence of the account cache with the database: every cached account equals its database row, and rows exist
only up to the scope's last account.  Stated over the three components so that `cohR_setRow` can change rows, `last` and
the cache independently; `Coh` is its instance at a database and a memory. -/
structure CohR (rows : Scope → Acct → Option Row) (last : Scope → Acct) (accts : Scope → Acct → Option Row) : Prop where
  cache : ∀ sc a r, accts sc a = some r → rows sc a = some r
  bound : ∀ sc a r, rows sc a = some r → a ≤ last sc

def Coh (d : Disk) (m : Mem) : Prop := CohR d.rows d.last m.accts

theorem setRow_eq (f : Scope → Acct → Option Row) (sc a v sc' a') :
    setRow f sc a v sc' a' = if sc' = sc ∧ a' = a then v else f sc' a' := rfl

theorem setLast_eq (f : Scope → Acct) (sc v sc') : setLast f sc v sc' = if sc' = sc then v else f sc' := rfl

theorem run_invariant {P : State → Prop} {ops : List Op} (hstep : ∀ s, ∀ op ∈ ops, P s → P (step s op).1)
    {s : State} (h : P s) : P (run s ops) :=
  List.foldlRecOn ops _ h fun s hs op ho => hstep s op ho hs

section
variable (d : Disk) (m : Mem) (sc : Scope) (a : Acct)

theorem loadAcct_fst_eq :
    (loadAcct d m sc a).1 = match m.accts sc a with | some r => some r | none => d.rows sc a := by
  unfold loadAcct
  cases m.accts sc a with
  | some r => rfl
  | none => cases d.rows sc a <;> rfl

theorem loadAcct_accts (sc' a') :
    (loadAcct d m sc a).2.accts sc' a' =
      if sc' = sc ∧ a' = a ∧ m.accts sc a = none then d.rows sc a else m.accts sc' a' := by
  unfold loadAcct
  cases hm : m.accts sc a with
  | some r => simp
  | none =>
    cases hd : d.rows sc a with
    | none => simp; intro h1 h2; subst h1; subst h2; exact hm
    | some r => simp [setRow_eq]

theorem loadAcct_frame :
    (loadAcct d m sc a).2.addrs = m.addrs ∧ (loadAcct d m sc a).2.locked = m.locked ∧
    (loadAcct d m sc a).2.privOv = m.privOv := by
  unfold loadAcct
  cases m.accts sc a with
  | some r => exact ⟨rfl, rfl, rfl⟩
  | none => cases d.rows sc a <;> exact ⟨rfl, rfl, rfl⟩

theorem loadAcct_cached (r) (h : (loadAcct d m sc a).1 = some r) :
    (loadAcct d m sc a).2.accts sc a = some r := by
  rw [loadAcct_fst_eq] at h
  rw [loadAcct_accts]
  cases hm : m.accts sc a with
  | some x => rw [hm] at h; simp [h]
  | none => rw [hm] at h; simp [h]

theorem loadAcct_fst (h : Coh d m) : (loadAcct d m sc a).1 = d.rows sc a := by
  rw [loadAcct_fst_eq]
  cases hm : m.accts sc a with
  | some r => exact (h.cache sc a r hm).symm
  | none => rfl

end

theorem loadAcct_addrs (d : Disk) (m : Mem) (sc a) : (loadAcct d m sc a).2.addrs = m.addrs :=
  (loadAcct_frame d m sc a).1

theorem loadAcct_none {d : Disk} {m : Mem} {sc a} (h : (loadAcct d m sc a).1 = none) : (loadAcct d m sc a).2 = m := by
  unfold loadAcct at h ⊢
  cases hm : m.accts sc a with
  | some r => rfl
  | none =>
    cases hd : d.rows sc a with
    | none => rfl
    | some r => rw [hm, hd] at h; cases h

/-- `m'` is `m` after cache traffic: what is cached was cached in `m` or is allowed by `N`; `privOv` is untouched -/
structure Loads (N : Scope → Acct → Row → Prop) (m m' : Mem) : Prop where
  accts : ∀ sc a r, m'.accts sc a = some r → m.accts sc a = some r ∨ N sc a r
  privOv : m'.privOv = m.privOv

/-- The two `N` of this file.  `d.has`: what is loaded is a row of the database `d`.  `At sc a`: inside the ImportAccount dry run
the loads come from the transaction's view, not from the database, so all that is kept track of is WHICH account they
concern: `inval`, which runs on every exit of the dry run, then drops exactly that entry (`inval_loads`). -/
def Disk.has (d : Disk) : Scope → Acct → Row → Prop := fun sc a r => d.rows sc a = some r

def At (sc : Scope) (a : Acct) : Scope → Acct → Row → Prop := fun sc' a' _ => sc' = sc ∧ a' = a

namespace Loads

theorem refl (N) (m : Mem) : Loads N m m := ⟨fun _ _ _ h => .inl h, rfl⟩

theorem trans {N} {m m' m'' : Mem} (h1 : Loads N m m') (h2 : Loads N m' m'') : Loads N m m'' :=
  ⟨fun sc a r h => (h2.accts sc a r h).elim (h1.accts sc a r) .inr, h2.privOv.trans h1.privOv⟩

theorem coh {d : Disk} {m m' : Mem} (hl : Loads d.has m m') (h : Coh d m) : Coh d m' :=
  ⟨fun sc a r hr => (hl.accts sc a r hr).elim (h.cache sc a r) id, h.bound⟩

end Loads

theorem loadAcct_loads_of {N} (d : Disk) (m : Mem) (sc a) (hN : ∀ r, d.rows sc a = some r → N sc a r) :
    Loads N m (loadAcct d m sc a).2 := by
  refine ⟨fun sc' a' r hr => ?_, (loadAcct_frame d m sc a).2.2⟩
  rw [loadAcct_accts] at hr
  split at hr
  · rename_i hc; obtain ⟨h1, h2, _⟩ := hc; subst h1; subst h2; exact .inr (hN r hr)
  · exact .inl hr

theorem loadAcct_loads (d : Disk) (m : Mem) (sc a) : Loads d.has m (loadAcct d m sc a).2 :=
  loadAcct_loads_of d m sc a fun _ h => h

theorem loadAcct_loadsAt (d : Disk) (m : Mem) (sc a) : Loads (At sc a) m (loadAcct d m sc a).2 :=
  loadAcct_loads_of d m sc a fun _ _ => ⟨rfl, rfl⟩

theorem loadAcct_coh (d : Disk) (m : Mem) (sc a) (h : Coh d m) : Coh d (loadAcct d m sc a).2 :=
  (loadAcct_loads d m sc a).coh h

theorem lookupAddr_loads (d : Disk) (m : Mem) (sc ad) : Loads d.has m (lookupAddr d m sc ad).2 := by
  unfold lookupAddr
  cases m.addrs sc ad with
  | some a => exact .refl _ m
  | none =>
    dsimp only
    cases d.addrs sc ad with
    | none => exact .refl _ m
    | some a =>
      dsimp only
      have h := loadAcct_loads d m sc a
      cases (loadAcct d m sc a).1 with
      | none => exact h
      | some _ => exact ⟨h.accts, h.privOv⟩  -- `addrs` is not a field of `Loads`

theorem lookupAddr_locked (d : Disk) (m : Mem) (sc ad) : (lookupAddr d m sc ad).2.locked = m.locked := by
  unfold lookupAddr
  cases m.addrs sc ad <;> simp only []
  cases d.addrs sc ad <;> simp only []
  rename_i a
  have := (loadAcct_frame d m sc a).2.1
  cases (loadAcct d m sc a).1 <;> exact this

theorem foldl_loads {α N} (f : Mem → α → Mem) (hf : ∀ m x, Loads N m (f m x)) (l : List α) (m : Mem) :
    Loads N m (l.foldl f m) :=
  List.foldlRecOn l f (.refl N m) fun m' h x _ => h.trans (hf m' x)

theorem scanFunded_loads (d : Disk) (sc a) (l : List (Scope × Addr)) (m : Mem) :
    Loads d.has m (scanFunded d sc a l m).2 := by
  induction l generalizing m with
  | nil => exact .refl _ m
  | cons p rest ih => exact (lookupAddr_loads d m p.1 p.2).trans (ih _)

theorem sweepAccts_loads (d : Disk) (sc) (n : Nat) (m : Mem) : Loads d.has m (sweepAccts d sc n m) := by
  induction n with
  | zero => exact loadAcct_loads d m sc 0
  | succ k ih => exact ih.trans (loadAcct_loads d _ sc (k + 1))

theorem putAddr_priv (d : Disk) (sc a ad) : (putAddr d sc a ad).priv = d.priv := rfl

theorem issueLoop_frame (sc a key i) (n j : Nat) (d : Disk) (m : Mem) :
    (issueLoop sc a key i n j d m).2.1.accts = m.accts ∧ (issueLoop sc a key i n j d m).2.1.privOv = m.privOv ∧
    (issueLoop sc a key i n j d m).1.priv = d.priv := by
  induction n generalizing j d m with
  | zero => exact ⟨rfl, rfl, rfl⟩
  | succ k ih => exact ih _ _ _

theorem issue_cases (t : Tx) (sc a i n) :
    (∃ e, issue t sc a i n = ({ t with m := (loadAcct t.d t.m sc a).2 }, .error e)) ∨
    ∃ r, (loadAcct t.d t.m sc a).1 = some r ∧
      issue t sc a i n =
        let nxt := if i then r.int else r.ext
        let lp := issueLoop sc a r.key i n nxt t.d (loadAcct t.d t.m sc a).2
        ({ d := lp.1, m := lp.2.1, pend := t.pend ++ [⟨sc, a, i, nxt + n, lp.2.2⟩] }, .ok lp.2.2) := by
  unfold issue
  dsimp only
  cases (loadAcct t.d t.m sc a).1 with
  | none => exact .inl ⟨_, rfl⟩
  | some r =>
    dsimp only
    by_cases h1 : n > maxAddrs ∨ (if i = true then r.int else r.ext) + n > maxAddrs
    · exact .inl ⟨_, if_pos h1⟩
    · by_cases h2 : n > 0 ∧ (t.d.rows sc a).isNone
      · exact .inl ⟨_, (if_neg h1).trans (if_pos h2)⟩
      · exact .inr ⟨r, rfl, (if_neg h1).trans (if_neg h2)⟩

theorem issue_frame (t : Tx) (sc a i n) :
    (issue t sc a i n).1.m.accts = (loadAcct t.d t.m sc a).2.accts ∧ (issue t sc a i n).1.m.privOv = t.m.privOv ∧
    (issue t sc a i n).1.d.priv = t.d.priv := by
  have hl := (loadAcct_frame t.d t.m sc a).2.2
  rcases issue_cases t sc a i n with ⟨e, h⟩ | ⟨r, _, h⟩ <;> rw [h]
  · exact ⟨rfl, hl, rfl⟩
  · have h := issueLoop_frame sc a r.key i n (if i then r.int else r.ext) t.d (loadAcct t.d t.m sc a).2
    exact ⟨h.1, h.2.1.trans hl, h.2.2⟩

theorem issue_dpriv (t : Tx) (sc a i n) : (issue t sc a i n).1.d.priv = t.d.priv := (issue_frame t sc a i n).2.2

theorem issue_loads {N} (t : Tx) (sc a i n) (h : Loads N t.m (loadAcct t.d t.m sc a).2) :
    Loads N t.m (issue t sc a i n).1.m :=
  ⟨by rw [(issue_frame t sc a i n).1]; exact h.accts, (issue_frame t sc a i n).2.1⟩

theorem applyPend_privOv (m : Mem) (p : Pend) : (applyPend m p).privOv = m.privOv := by
  unfold applyPend
  split
  · rfl
  · simp only []
    split <;> rfl

theorem commit_privOv (t : Tx) : (commit t).mem.privOv = t.m.privOv := by
  unfold commit
  generalize t.m = m
  induction t.pend generalizing m with
  | nil => rfl
  | cons p rest ih => exact (ih _).trans (applyPend_privOv m p)

theorem commit_disk (t : Tx) : (commit t).disk = t.d := rfl
theorem rollback_disk (s : State) (t : Tx) : (rollback s t).disk = s.disk := rfl

def addRow (d : Disk) (sc : Scope) (row : Row) : Disk :=
  { d with rows := setRow d.rows sc (d.last sc + 1) (some row), last := setLast d.last sc (d.last sc + 1) }

/-- The shapes in which a request on accounts and addresses leaves the wallet `s` (as `r.1`, answering `r.2`).
`dry`: it is a dry run; `e`: it is an eager mutator (ImportAccount, RenameAccount) whose commit fails. -/
inductive Outcome (dry e : Bool) (s : State) : State × Res → Prop
  /-- nothing committed (read, refusal, dry run, failed commit of an issuing request): only cache loads -/
  | kept (m res) : Loads s.disk.has s.mem m → Outcome dry e s ({ s with mem := m }, res)
  /-- failed commit of an eager mutator: the cache keeps what was loaded from the transaction's view -/
  | stale (m) : e = true → m.privOv = s.mem.privOv → Outcome dry e s ({ s with mem := m }, .err .commitFail)
  /-- one address issued and committed -/
  | issued (m sc a i ad) : dry = false → Loads s.disk.has s.mem m →
      Outcome dry e s (commit (issue ⟨s.disk, m, []⟩ sc a i 1).1, .addr ad)
  /-- account `last + 1` created (ImportAccount, NextAccount) and loaded -/
  | created (sc row res) : dry = false → res.isErr = false →
      Outcome dry e s ({ disk := addRow s.disk sc row
                         mem := (loadAcct (addRow s.disk sc row) s.mem sc (s.disk.last sc + 1)).2 }, res)
  /-- account renamed on disk and, when cached, in the cache; then loaded -/
  | renamed (sc a r nm) : dry = false → s.disk.rows sc a = some r →
      Outcome dry e s
        ({ disk := { s.disk with rows := setRow s.disk.rows sc a (some { r with name := nm }) }
           mem := (loadAcct { s.disk with rows := setRow s.disk.rows sc a (some { r with name := nm }) }
             (match s.mem.accts sc a with
              | none => s.mem
              | some c => { s.mem with accts := setRow s.mem.accts sc a (some { c with name := nm }) }) sc a).2 }, .ok)
  /-- the harness's `fund` after the request that left `r`: a credit is recorded, then cache loads -/
  | funded (r ad l m) : dry = false → Outcome dry e s r → Loads r.1.disk.has r.1.mem m →
      Outcome dry e s ({ disk := { r.1.disk with funded := l }, mem := m }, .addr ad)

section
-- every lemma of this section takes the state `s` as its first explicit argument
variable {dry e : Bool} (s : State)

theorem Outcome.same (res : Res) : Outcome dry e s (s, res) := .kept s.mem res (.refl _ _)

/-- `m0` is arbitrary: `issue1` reads only the database of its state argument -/
theorem issue1_outcome (m0 m : Mem) (sc a i ab) (hab : dry = true → ab ≠ none)
    (hm : Loads s.disk.has s.mem m) : Outcome dry e s (issue1 ⟨s.disk, m0⟩ ⟨s.disk, m, []⟩ sc a i ab) := by
  have hk := hm.trans (issue_loads ⟨s.disk, m, []⟩ sc a i 1 (loadAcct_loads s.disk m sc a))
  unfold issue1
  dsimp only
  cases (issue ⟨s.disk, m, []⟩ sc a i 1).2 with
  | error _ => exact .kept _ _ hk
  | ok l =>
    cases l with
    | nil => exact .kept _ _ hk
    | cons ad _ =>
      cases ab with
      | some _ => exact .kept _ _ hk
      | none =>
        cases dry with
        | true => exact absurd rfl (hab rfl)
        | false => exact .issued m sc a i ad rfl hm

theorem stepNewAddr_outcome (sc a i cf) : Outcome false e s (stepNewAddr s sc a i cf) :=
  issue1_outcome s s.mem s.mem sc a i _ (fun h => nomatch h) (.refl _ _)

theorem stepCurAddr_outcome (sc a) : Outcome false e s (stepCurAddr s sc a) := by
  have hl := loadAcct_loads s.disk s.mem sc a
  have hn : Outcome false e s (stepNewAddr { s with mem := (loadAcct s.disk s.mem sc a).2 } sc a false) :=
    issue1_outcome s _ _ sc a false _ (fun h => nomatch h) hl
  unfold stepCurAddr
  dsimp only
  cases (loadAcct s.disk s.mem sc a).1 with
  | none => exact .kept _ _ hl
  | some r => exact ite_ind (fun _ => hn) fun _ => ite_ind (fun _ => hn) fun _ => .kept _ _ hl

theorem stepFund_outcome (sc a) : Outcome false e s (stepFund s sc a) := by
  have h1 : Outcome false e s (stepNewAddr s sc a false) := stepNewAddr_outcome s sc a false false
  unfold stepFund
  dsimp only
  generalize stepNewAddr s sc a false = r at h1 ⊢
  cases r.2 with
  | addr ad =>
    have hl := lookupAddr_loads r.1.disk r.1.mem sc ad
    exact .funded r ad _ _ rfl h1 ⟨hl.accts, hl.privOv⟩
  | _ => exact h1

theorem stepCreateTx_outcome (sc a dry huge nf cf) :
    Outcome dry false s (stepCreateTx s sc a dry huge nf cf) := by
  have h1 := loadAcct_loads s.disk s.mem sc a
  have h2 := h1.trans (scanFunded_loads s.disk sc a s.disk.funded (loadAcct s.disk s.mem sc a).2)
  unfold stepCreateTx
  refine ite_ind (fun _ => .same s _) fun _ => ?_
  dsimp only
  cases (loadAcct s.disk s.mem sc a).1 with
  | none => exact .kept _ _ h1
  | some r =>
    refine ite_ind (fun _ => .kept _ _ h2) fun _ => ?_
    exact issue1_outcome s s.mem _ sc a true _ (fun hd => by rw [if_pos hd]; nofun) h2

theorem stepFundPsbt_outcome (sc a c) : Outcome false false s (stepFundPsbt s sc a c) := by
  cases c with
  | none => exact stepCreateTx_outcome s sc a false false false false
  | some i =>
    simp only [stepFundPsbt]
    cases s.disk.funded[i]? with
    | none => exact .same s _
    | some c =>
      dsimp only
      have h1 := (lookupAddr_loads s.disk s.mem c.1 c.2).trans (loadAcct_loads s.disk _ sc a)
      cases (loadAcct s.disk (lookupAddr s.disk s.mem c.1 c.2).2 sc a).1 with
      | none => exact .kept _ _ h1
      | some r => exact issue1_outcome s s.mem _ sc a true none (fun h => nomatch h) h1

theorem inval_loads {N} {m m' : Mem} {sc a} (h : Loads (At sc a) m m') : Loads N m (inval m' sc a) := by
  refine ⟨fun sc' a' r hr => ?_, h.privOv⟩
  simp only [inval, setRow_eq] at hr
  split at hr
  · cases hr
  · exact .inl ((h.accts sc' a' r hr).resolve_right ‹_›)

theorem stepImport_outcome (dry sc nm key n cf) :
    Outcome dry (!dry && cf) s (stepImport s dry sc nm key n cf) := by
  unfold stepImport stepImportWith
  refine ite_ind (fun _ => .same s _) fun _ => ?_
  dsimp only
  refine ite_ind (fun _ => .same s _) fun _ => ite_ind (fun _ => .same s _) fun _ => ?_
  generalize hd : ({ s.disk with rows := setRow s.disk.rows sc (s.disk.last sc + 1) (some ⟨nm, key, 0, 0⟩),
                                 last := setLast s.disk.last sc (s.disk.last sc + 1) } : Disk) = d1
  have a1 := loadAcct_loadsAt d1 s.mem sc (s.disk.last sc + 1)
  cases hld : (loadAcct d1 s.mem sc (s.disk.last sc + 1)).1 with
  | none => rw [loadAcct_none hld]; exact .same s _
  | some r =>
    cases dry with
    | false =>
      cases cf with
      | true => exact .stale _ rfl a1.privOv
      | false => subst hd; exact .created sc _ _ rfl rfl
    | true =>
      simp only [Bool.not_true, Bool.false_eq_true, if_false]
      generalize (loadAcct d1 s.mem sc (s.disk.last sc + 1)).2 = m1 at a1 ⊢
      have a2 := a1.trans (issue_loads ⟨d1, m1, []⟩ sc (s.disk.last sc + 1) false n (loadAcct_loadsAt _ _ _ _))
      generalize issue ⟨d1, m1, []⟩ sc (s.disk.last sc + 1) false n = e1 at a2 ⊢
      cases e1.2 with
      | error _ => exact .kept _ _ (inval_loads a2)
      | ok ext =>
        dsimp only
        have a3 := a2.trans (issue_loads e1.1 sc (s.disk.last sc + 1) true n (loadAcct_loadsAt _ _ _ _))
        generalize issue e1.1 sc (s.disk.last sc + 1) true n = e2 at a3 ⊢
        cases e2.2 with
        | error _ => exact .kept _ _ (inval_loads a3)
        | ok int =>
          dsimp only
          have a4 := a3.trans (loadAcct_loadsAt e2.1.d e2.1.m sc (s.disk.last sc + 1))
          cases (loadAcct e2.1.d e2.1.m sc (s.disk.last sc + 1)).1 <;> exact .kept _ _ (inval_loads a4)

theorem stepRename_outcome (sc a nm cf) : Outcome false cf s (stepRename s sc a nm cf) := by
  unfold stepRename
  refine ite_ind (fun _ => .same s _) fun _ => ite_ind (fun _ => .same s _) fun _ => ?_
  cases hrow : s.disk.rows sc a with
  | none => exact .same s _
  | some r =>
    dsimp only
    cases cf with
    | true =>
      refine .stale _ rfl ((loadAcct_frame _ _ sc a).2.2.trans ?_)
      cases s.mem.accts sc a <;> rfl
    | false => exact .renamed sc a r nm rfl hrow

theorem stepNewAcct_outcome (sc nm) : Outcome false e s (stepNewAcct s sc nm) := by
  unfold stepNewAcct
  refine ite_ind (fun _ => .same s _) fun _ => ?_
  dsimp only
  exact ite_ind (fun _ => .same s _) fun _ => ite_ind (fun _ => .same s _) fun _ => .created sc _ _ rfl rfl

theorem stepUnlock_outcome : Outcome dry e s (stepUnlock s) := by
  unfold stepUnlock
  refine ite_ind (fun _ => .same s _) fun _ => ite_ind (fun _ => ?_) fun _ => .same s _
  have h := foldl_loads _ (fun m (p : Scope × Acct) => loadAcct_loads s.disk m p.1 p.2) s.mem.pendU s.mem
  exact .kept _ _ ⟨h.accts, h.privOv⟩

theorem stepUnlockPass_outcome (p : Nat) : Outcome dry e s (stepUnlockPass s p) :=
  ite_ind (fun _ => stepUnlock_outcome s) fun _ => .kept _ _ ⟨fun _ _ _ h => .inl h, rfl⟩

theorem stepCmp_loads (scs us) : Loads s.disk.has s.mem (stepCmp s scs us).mem :=
  (foldl_loads _ (fun m sc => sweepAccts_loads s.disk sc _ m) scs s.mem).trans
    (foldl_loads _ (fun m (p : Scope × Addr) => lookupAddr_loads s.disk m p.1 p.2) us _)

end

section
attribute [local simp] stepChPass stepChBoth stepChBothWith chStep begin commit rollback memPriv memPub memPrivOf
  memPubOf

theorem stepChPass_eq (s : State) (pr : Bool) (old new : Nat) :
    stepChPass s pr old new =
      if old = (if pr then memPriv s else memPub s) then
        (if pr then ⟨{ s.disk with priv := new }, { s.mem with privOv := some new }⟩
         else ⟨{ s.disk with pub := new }, { s.mem with pubOv := some new }⟩, .ok)
      else (s, .err .wrongPass) := by
  cases pr
  · by_cases h : old = s.mem.pubOv.getD s.disk.pub <;> simp [h]
  · by_cases h : old = s.mem.privOv.getD s.disk.priv <;> simp [h]

/-- `ChangePassphrases` in the order of the code (public step first): three outcomes -/
theorem stepChBoth_eq (s : State) (po pn vo vn : Nat) :
    stepChBoth s po pn vo vn =
      if po = memPub s then
        if vo = memPriv s then
          ({ disk := { s.disk with pub := pn, priv := vn },
             mem := { s.mem with pubOv := some pn, privOv := some vn } }, .ok)
        else ({ disk := s.disk, mem := { s.mem with pubOv := some pn } }, .err .wrongPass)
      else (s, .err .wrongPass) := by
  by_cases h1 : po = s.mem.pubOv.getD s.disk.pub <;> by_cases h2 : vo = s.mem.privOv.getD s.disk.priv <;> simp [h1, h2]

end

/-- what only a passphrase change or a restart touches: the private passphrase of the database and its override in memory -/
def PFrame (s s' : State) : Prop := s'.mem.privOv = s.mem.privOv ∧ s'.disk.priv = s.disk.priv

/-- what a passphrase request does: rows and account cache untouched, the database image changed only on success,
the private passphrase left alone or re-keyed in database and memory together -/
structure PassOutcome (s : State) (r : State × Res) : Prop where
  rows : r.1.disk.rows = s.disk.rows
  last : r.1.disk.last = s.disk.last
  accts : r.1.mem.accts = s.mem.accts
  disk : r.1.disk = s.disk ∨ r.2.isErr = false
  priv : PFrame s r.1 ∨ ∃ n, r.1.mem.privOv = some n ∧ r.1.disk.priv = n

theorem stepChPass_outcome (s : State) (pr old new) : PassOutcome s (stepChPass s pr old new) := by
  rw [stepChPass_eq]
  refine ite_ind (fun _ => ?_) fun _ => ⟨rfl, rfl, rfl, .inl rfl, .inl ⟨rfl, rfl⟩⟩
  cases pr
  · exact ⟨rfl, rfl, rfl, .inr rfl, .inl ⟨rfl, rfl⟩⟩
  · exact ⟨rfl, rfl, rfl, .inr rfl, .inr ⟨_, rfl, rfl⟩⟩

theorem stepChBoth_outcome (s : State) (po pn vo vn) : PassOutcome s (stepChBoth s po pn vo vn) := by
  rw [stepChBoth_eq]
  refine ite_ind (fun _ => ite_ind (fun _ => ?_) fun _ => ?_) fun _ => ?_
  · exact ⟨rfl, rfl, rfl, .inr rfl, .inr ⟨_, rfl, rfl⟩⟩
  · exact ⟨rfl, rfl, rfl, .inl rfl, .inl ⟨rfl, rfl⟩⟩
  · exact ⟨rfl, rfl, rfl, .inl rfl, .inl ⟨rfl, rfl⟩⟩

theorem step_cases (s : State) (op : Op) :
    Outcome op.isDryRun op.eagerCommitFail s (step s op) ∨
    (((∃ pr o n, op = .chPass pr o n) ∨ ∃ a b c d, op = .chBoth a b c d) ∧ PassOutcome s (step s op)) ∨
    op = .restart := by
  cases op with
  | newAddr sc a i cf => exact .inl (stepNewAddr_outcome s sc a i cf)
  | curAddr sc a => exact .inl (stepCurAddr_outcome s sc a)
  | fund sc a => exact .inl (stepFund_outcome s sc a)
  | createTx sc a dry huge nf cf => exact .inl (stepCreateTx_outcome s sc a dry huge nf cf)
  | fundPsbt sc a c => exact .inl (stepFundPsbt_outcome s sc a c)
  | importAcct dry sc nm key n cf => exact .inl (stepImport_outcome s dry sc nm key n cf)
  | rename sc a nm cf => exact .inl (stepRename_outcome s sc a nm cf)
  | newAcct sc nm => exact .inl (stepNewAcct_outcome s sc nm)
  | lock => exact .inl (.kept _ _ ⟨fun _ _ _ h => .inl h, rfl⟩)
  | unlock => exact .inl (stepUnlock_outcome s)
  | cmp scs us => exact .inl (.kept _ _ (stepCmp_loads s scs us))
  | unlockPass p => exact .inl (stepUnlockPass_outcome s p)
  | chPass pr o n => exact .inr (.inl ⟨.inl ⟨pr, o, n, rfl⟩, stepChPass_outcome s pr o n⟩)
  | chBoth a b c d => exact .inr (.inl ⟨.inr ⟨a, b, c, d, rfl⟩, stepChBoth_outcome s a b c d⟩)
  | restart => exact .inr (.inr rfl)

theorem cohR_setRow {rows last last' accts sc a} {r' : Row} (accts' : Scope → Acct → Option Row)
    (h : CohR rows last accts) (hl : ∀ sc, last sc ≤ last' sc) (ha : a ≤ last' sc)
    (hat : ∀ x, accts' sc a = some x → x = r')
    (hoff : ∀ sc' a', ¬(sc' = sc ∧ a' = a) → accts' sc' a' = accts sc' a') :
    CohR (setRow rows sc a (some r')) last' accts' := by
  constructor
  · intro sc' a' x hx
    rw [setRow_eq]
    split
    · rename_i hc; rw [hc.1, hc.2] at hx; rw [hat x hx]
    · rename_i hc; rw [hoff sc' a' hc] at hx; exact h.cache sc' a' x hx
  · intro sc' a' x hx
    rw [setRow_eq] at hx
    split at hx
    · rename_i hc; rw [hc.1, hc.2]; exact ha
    · exact Nat.le_trans (h.bound sc' a' x hx) (hl sc')

theorem cohR_setRow_both {rows last accts sc a} (r' : Row) (h : CohR rows last accts) (ha : a ≤ last sc) :
    CohR (setRow rows sc a (some r')) last (setRow accts sc a (some r')) :=
  cohR_setRow _ h (fun _ => Nat.le_refl _) ha
    (fun x hx => by rw [setRow_eq, if_pos ⟨rfl, rfl⟩] at hx; exact (Option.some.inj hx).symm)
    (fun sc' a' hn => by rw [setRow_eq, if_neg hn])

/-- a new account row at number last+1 keeps the cache coherent (nothing can be cached for that number) -/
theorem newRow_coh (d : Disk) (m : Mem) (sc) (row : Row) (h : Coh d m) : Coh (addRow d sc row) m := by
  refine cohR_setRow (last' := setLast d.last sc (d.last sc + 1)) _ h (fun sc' => ?_) ?_
    (fun x hx => absurd (h.bound _ _ _ (h.cache _ _ _ hx)) (Nat.not_succ_le_self _)) (fun _ _ _ => rfl)
  · rw [setLast_eq]
    split
    · rename_i hs; rw [hs]; exact Nat.le_succ _
    · exact Nat.le_refl _
  · rw [setLast_eq, if_pos rfl]; exact Nat.le_refl _

/-- the committed single-address request: database row and cached account advance together -/
theorem issue1_commit_coh (t : Tx) (sc a i) (h : Coh t.d t.m) (hp : t.pend = []) :
    Coh (commit (issue t sc a i 1).1).disk (commit (issue t sc a i 1).1).mem := by
  have hc := loadAcct_coh t.d t.m sc a h
  rcases issue_cases t sc a i 1 with ⟨e, he⟩ | ⟨r, hl, he⟩ <;> rw [he]
  · simp only [commit, hp, List.foldl_nil]; exact hc
  · have hf : t.d.rows sc a = some r := (loadAcct_fst t.d t.m sc a h).symm.trans hl
    simp only [issueLoop, commit, hp, List.nil_append, List.foldl_cons, List.foldl_nil, applyPend,
      List.isEmpty_cons, putAddr, hf, loadAcct_cached t.d t.m sc a r hl, Bool.false_eq_true, if_false]
    exact cohR_setRow_both _ hc (h.bound sc a r hf)

theorem Outcome.coh {dry s r} (h : Outcome dry false s r) (hc : Coh s.disk s.mem) : Coh r.1.disk r.1.mem := by
  induction h with
  | kept m res hl => exact hl.coh hc
  | stale m he => cases he
  | issued m sc a i ad _ hm => exact issue1_commit_coh ⟨s.disk, m, []⟩ sc a i (hm.coh hc) rfl
  | created sc row res => exact loadAcct_coh _ _ _ _ (newRow_coh s.disk s.mem sc row hc)
  | funded r ad l m _ _ hl ih => exact hl.coh ih
  | renamed sc a r nm _ hrow =>
    refine loadAcct_coh _ _ _ _ ?_
    have hb : a ≤ s.disk.last sc := hc.bound sc a r hrow
    cases hm : s.mem.accts sc a with
    | none =>
      exact cohR_setRow _ hc (fun _ => Nat.le_refl _) hb (fun x hx => by rw [hm] at hx; cases hx) (fun _ _ _ => rfl)
    | some c =>
      have : c = r := Option.some.inj ((hc.cache sc a c hm).symm.trans hrow)
      subst this
      exact cohR_setRow_both _ hc hb

/-- every request preserves the coherence of the account cache - except the two eager mutators (ImportAccount,
RenameAccount) when the COMMIT of their transaction fails (`Op.eagerCommitFail`) -/
theorem step_coh (s : State) (op : Op) (hop : op.eagerCommitFail = false) (h : Coh s.disk s.mem) :
    Coh (step s op).1.disk (step s op).1.mem := by
  rcases step_cases s op with ho | ⟨_, hp⟩ | rfl
  · exact (hop ▸ ho).coh h
  · unfold Coh; rw [hp.rows, hp.last, hp.accts]; exact h
  · exact ⟨nofun, h.bound⟩

theorem init_coh : Coh init.disk init.mem := by
  refine ⟨nofun, fun sc a r hx => ?_⟩
  simp only [init, initDisk] at hx
  show a ≤ 0
  split at hx
  · rename_i h0; rw [h0]; exact Nat.le_refl _
  · cases hx

theorem emptyMem_coh (d : Disk) (m : Mem) (h : Coh d m) : Coh d emptyMem :=
  ⟨nofun, h.bound⟩

/-- with a coherent cache every account-level query is answered from the database alone -/
theorem ask_of_coh (d : Disk) (m : Mem) (h : Coh d m) (q : Query) (hq : ∀ sc ad, q ≠ .addrInfo sc ad) :
    ask d m q = ask d emptyMem q := by
  have he := emptyMem_coh d m h
  cases q with
  | props sc a => simp only [ask, loadAcct_fst d m sc a h, loadAcct_fst d emptyMem sc a he]
  | acctNumber sc nm => rfl
  | acctName sc a => rfl
  | next sc a i => simp only [ask, loadAcct_fst d m sc a h, loadAcct_fst d emptyMem sc a he]
  | addrInfo sc ad => exact absurd rfl (hq sc ad)

end WalletRestart
