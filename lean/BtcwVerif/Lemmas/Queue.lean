/-
Helper lemmas for C18: the `Start` loop of `Queue.expectedTable` and its environment read move by move (`Move`),
the equivalence of that reading with the table interpreter, and the invariant.
-/
import BtcwVerif.Model.Queue
namespace Queue
variable {α : Type}

section
variable {t : Table} {s s' : State α} {l : Label α}

theorem run_cons_eq_some {ls : List (Label α)} :
    run t s (l :: ls) = some s' ↔ ∃ s1, step t s l = some s1 ∧ run t s1 ls = some s' := by
  cases h : step t s l <;> simp [run, h]

theorem run_append (t : Table) : ∀ (a b : List (Label α)) (s : State α),
    run t s (a ++ b) = (run t s a).bind (fun s' => run t s' b)
  | [], b, s => by simp [run]
  | l :: a, b, s => by
    simp only [List.cons_append, run]
    cases step t s l with
    | none => simp
    | some s1 => simpa using run_append t a b s1

theorem run_measure {P : Label α → Prop} {Q : State α → Prop} {m : State α → Nat}
    (hstep : ∀ {s l s'}, Q s → P l → step t s l = some s' → m s' < m s ∧ Q s') :
    ∀ (tr : List (Label α)) {s s' : State α}, Q s → (∀ l ∈ tr, P l) → run t s tr = some s' →
      tr.length + m s' ≤ m s ∧ Q s'
  | [], _, _, hQ, _, h => by cases h; exact ⟨by simp, hQ⟩
  | _ :: ls, _, _, hQ, hP, h => by
    obtain ⟨_, hs, hr⟩ := run_cons_eq_some.mp h
    obtain ⟨hP0, hP⟩ := List.forall_mem_cons.mp hP
    obtain ⟨hd, hQ1⟩ := hstep hQ hP0 hs
    obtain ⟨hb, hQ'⟩ := run_measure hstep ls hQ1 hP hr
    exact ⟨by rw [List.length_cons]; omega, hQ'⟩

end

/-- The bookkeeping of chain/queue.go in every reachable state (`c` = `bufferSize`).
`acc`: what was sent on `ChanIn()` is, in order: received by the consumer, in `chanOut`, in `cq.overflow`, the `item` in
the worker's hand, dropped.  `wait`: a consumer blocks on `chanOut` only while it is empty.
`top`: at the head of the `for` loop no `item` is in scope and nothing has been dropped.
`inner`: the worker is in the nested `select` only with a fresh `item`, neither sent nor pushed, and only when
`nextElement == nil` (`cq.overflow` empty).
`exited`: the goroutine returns only through `case <-cq.quit`, so after `Stop()`; the `item` it then had in hand is the
only thing ever dropped. -/
structure Inv (c : Nat) (s : State α) : Prop where
  capc : s.cap = c
  acc : s.accepted = s.delivered ++ s.out ++ s.overflow ++ s.held.toList ++ s.lost
  cap : s.out.length ≤ s.cap
  wait : s.waiting = true → s.out = []
  top : s.pc = .top → s.held = none ∧ s.handled = false ∧ s.lost = []
  inner : ∀ cs, s.pc = .inner cs →
    cs = expectedInner ∧ s.held.isSome = true ∧ s.overflow = [] ∧ s.handled = false ∧ s.lost = []
  exited : s.pc = .exited → s.quitClosed = true ∧ s.held = none ∧ s.lost.length ≤ 1

section
variable {t : Table} {c : Nat} {s s' : State α} {l : Label α}

theorem inv_init (c : Nat) : Inv c (init α c) := by
  constructor <;> simp [init]

theorem Inv.not_exited (hI : Inv c s) (hq : s.quitClosed = false) : s.pc ≠ .exited :=
  fun hp => by simp [(hI.exited hp).1] at hq

theorem Inv.lost_nil (hI : Inv c s) (hq : s.quitClosed = false) : s.lost = [] := by
  cases hp : s.pc with
  | top => exact (hI.top hp).2.2
  | inner cs => exact (hI.inner cs hp).2.2.2.2
  | exited => exact absurd hp (hI.not_exited hq)

theorem Inv.top_acc (hI : Inv c s) (hp : s.pc = .top) :
    s.accepted = s.delivered ++ s.out ++ s.overflow := by
  simpa [(hI.top hp).1, (hI.top hp).2.2] using hI.acc

/-- The `Start` loop of chain/queue.go, clause by clause, and the four things the environment does: what `step
expectedTable` computes in a state that satisfies `Inv`.  The successors are written as `Inv` lets them be simplified
(`step_of_Move` is where that is used): at the loop head `held = none`, `handled = false` (`Inv.top`); `dflt` writes
`overflow := [x]` for the model's `s.overflow ++ [x]` (`Inv.inner`: the overflow list is empty in the nested `select`);
`quit` writes `lost := s.held.toList` for `s.lost ++ …` (`Inv.top` / `Inv.inner`: nothing was dropped before). -/
inductive Move (s : State α) : Label α → State α → Prop
  /-- `nextElement == nil`, `case item := <-cq.chanIn`: on to the nested non-blocking `select`. -/
  | recvEmpty (x : α) (hpc : s.pc = .top) (hov : s.overflow = []) :
      Move s (.w (.recvIn x))
        { s with accepted := s.accepted ++ [x], held := some x, handled := false, pc := .inner expectedInner }
  /-- `nextElement != nil`, `case item := <-cq.chanIn`: `cq.overflow.PushBack(item)`. -/
  | recvNonEmpty (x : α) {f : α} {r : List α} (hpc : s.pc = .top) (hov : s.overflow = f :: r) :
      Move s (.w (.recvIn x)) { s with accepted := s.accepted ++ [x], overflow := s.overflow ++ [x] }
  /-- `case cq.chanOut <- nextElement.Value`, taken by the blocked consumer: `cq.overflow.Remove(nextElement)`. -/
  | sendFrontDirect {f : α} {r : List α} (hpc : s.pc = .top) (hov : s.overflow = f :: r) (hw : s.waiting = true) :
      Move s (.w .sendFront) { s with overflow := r, delivered := s.delivered ++ [f], waiting := false }
  /-- the same into the buffer, which has room. -/
  | sendFrontBuf {f : α} {r : List α} (hpc : s.pc = .top) (hov : s.overflow = f :: r) (hw : s.waiting = false)
      (hroom : s.out.length < s.cap) : Move s (.w .sendFront) { s with overflow := r, out := s.out ++ [f] }
  /-- nested `case cq.chanOut <- item`, taken by the blocked consumer. -/
  | sendItemDirect {x : α} (hpc : s.pc = .inner expectedInner) (hx : s.held = some x) (hw : s.waiting = true) :
      Move s (.w .sendItem) { s with held := none, pc := .top, delivered := s.delivered ++ [x], waiting := false }
  /-- the same into the buffer, which has room. -/
  | sendItemBuf {x : α} (hpc : s.pc = .inner expectedInner) (hx : s.held = some x) (hw : s.waiting = false)
      (hroom : s.out.length < s.cap) : Move s (.w .sendItem) { s with held := none, pc := .top, out := s.out ++ [x] }
  /-- nested `default` (no send possible, `quit` open): `cq.overflow.PushBack(item)`. -/
  | dflt {x : α} (hpc : s.pc = .inner expectedInner) (hx : s.held = some x) (hw : s.waiting = false)
      (hfull : s.cap ≤ s.out.length) (hq : s.quitClosed = false) :
      Move s (.w .dflt) { s with held := none, pc := .top, overflow := [x] }
  /-- `case <-cq.quit: return`, present in all three `select`s; an item in hand is dropped. -/
  | quit (hpc : s.pc = .top ∨ s.pc = .inner expectedInner) (hq : s.quitClosed = true) :
      Move s (.w .quit) { s with held := none, pc := .exited, lost := s.held.toList }
  | consume {x : α} {o : List α} (ho : s.out = x :: o) :
      Move s (.e .consume) { s with out := o, delivered := s.delivered ++ [x] }
  | wait (ho : s.out = []) (hw : s.waiting = false) : Move s (.e .wait) { s with waiting := true }
  | unwait (hw : s.waiting = true) : Move s (.e .unwait) { s with waiting := false }
  | stop (hq : s.quitClosed = false) : Move s (.e .stop) { s with quitClosed := true }

theorem wstep_eq_some {l : WLabel α} :
    wstep t s l = some s' ↔ ∃ c, (curCases t s).find? (fun c => c.kind == l.kind) = some c ∧
      guard s (curCases t s) l = true ∧ execBody c.body (chanEffect s l) = s' := by
  simp only [wstep]
  split <;> simp [*]

theorem curCases_top_nil (hpc : s.pc = .top) (hov : s.overflow = []) :
    curCases t s = t.onEmpty := by
  simp [curCases, hpc, hov]

theorem curCases_top_cons {f : α} {r : List α} (hpc : s.pc = .top)
    (hov : s.overflow = f :: r) : curCases t s = t.onNonEmpty := by
  simp [curCases, hpc, hov]

theorem curCases_inner {cs : List ICase} (hpc : s.pc = .inner cs) :
    curCases t s = cs.map ICase.toO := by
  simp [curCases, hpc]

section
attribute [local simp] step wstep estep curCases guard kindReady sendReady execBody chanEffect finish deliver
  WLabel.kind ICase.toO expectedTable expectedInner

theorem step_of_Move (hI : Inv c s) (h : Move s l s') :
    step expectedTable s l = some s' := by
  cases h with
  | recvEmpty x hpc hov => simp [hpc, hov]
  | recvNonEmpty x hpc hov => simp [hpc, hov, hI.top hpc]
  | sendFrontDirect hpc hov hw => simp [hpc, hov, hw, hI.top hpc]
  | sendFrontBuf hpc hov hw hroom => simp [hpc, hov, hw, hroom, hI.top hpc]
  | sendItemDirect hpc hx hw => simp [hpc, hx, hw, hI.inner _ hpc]
  | sendItemBuf hpc hx hw hroom => simp [hpc, hx, hw, hroom, hI.inner _ hpc]
  | dflt hpc hx hw hfull hq => simp [hpc, hx, hw, hq, Nat.not_lt.mpr hfull, hI.inner _ hpc]
  | quit hpc hq =>
    rcases hpc with hp | hp
    · cases hov : s.overflow <;> simp [hp, hov, hq, hI.top hp]
    · simp [hp, hq, hI.inner _ hp]
  | _ => simp [*]

theorem step_iff (hI : Inv c s) :
    step expectedTable s l = some s' ↔ Move s l s' := by
  refine ⟨fun h => ?_, step_of_Move hI⟩
  -- the clause that fires and its guard single out the move; by `step_of_Move` it computes the same successor
  have same : ∀ {s''}, Move s l s'' → Move s l s' := fun M =>
    Option.some.inj ((step_of_Move hI M).symm.trans h) ▸ M
  cases l with
  | e l =>
    cases l <;> simp at h
    · cases ho : s.out with
      | nil => simp [ho] at h
      | cons x o => exact same (.consume ho)
    · exact same (.wait h.1.1 h.1.2)
    · exact same (.unwait h.1)
    · exact same (.stop h.1)
  | w l =>
    obtain ⟨c, hf, hg, -⟩ := wstep_eq_some.mp h
    have send : sendReady s = true → s.waiting = true ∨ s.waiting = false ∧ s.out.length < s.cap := by
      cases hw : s.waiting <;> simp [hw]
    cases hp : s.pc with
    | exited => simp [hp] at hf
    | top =>
      cases hov : s.overflow with
      | nil =>
        rw [curCases_top_nil hp hov] at hf
        cases l <;> cases hf
        · exact same (.recvEmpty _ hp hov)
        · exact same (.quit (.inl hp) hg)
      | cons f r =>
        rw [curCases_top_cons hp hov] at hf hg
        cases l <;> cases hf
        · exact same (.recvNonEmpty _ hp hov)
        · rcases send (by simpa [hov] using hg) with hw | ⟨hw, hroom⟩
          · exact same (.sendFrontDirect hp hov hw)
          · exact same (.sendFrontBuf hp hov hw hroom)
        · exact same (.quit (.inl hp) hg)
    | inner cs =>
      obtain ⟨rfl, hh, -⟩ := hI.inner cs hp
      obtain ⟨x, hx⟩ := Option.isSome_iff_exists.mp hh
      rw [curCases_inner hp] at hf hg
      cases l <;> cases hf
      · rcases send (by simpa [hx] using hg) with hw | ⟨hw, hroom⟩
        · exact same (.sendItemDirect hp hx hw)
        · exact same (.sendItemBuf hp hx hw hroom)
      · exact same (.quit (.inr hp) hg)
      · have hg : (s.waiting = false ∧ s.cap ≤ s.out.length) ∧ s.quitClosed = false := by
          simpa [hx] using hg
        exact same (.dflt hp hx hg.1.1 hg.1.2 hg.2)

end

theorem inv_step (hI : Inv c s) (h : step expectedTable s l = some s') :
    Inv c s' := by
  cases (step_iff hI).mp h with
  | recvEmpty x hpc hov =>
    exact { hI with acc := by simp [hI.top_acc hpc, hov, (hI.top hpc).2.2]
                    top := fun h => nomatch h
                    inner := fun _ h => ⟨(PC.inner.inj h).symm, rfl, hov, rfl, (hI.top hpc).2.2⟩
                    exited := fun h => nomatch h }
  | recvNonEmpty x hpc hov =>
    exact { hI with acc := by simp [hI.top_acc hpc, hI.top hpc]
                    inner := fun _ h => nomatch hpc.symm.trans h }
  | sendFrontDirect hpc hov hw =>
    exact { hI with acc := by simp [hI.acc, hov, hI.wait hw]
                    wait := fun h => nomatch h
                    inner := fun _ h => nomatch hpc.symm.trans h }
  | sendFrontBuf hpc hov hw hroom =>
    exact { hI with acc := by simp [hI.acc, hov]
                    cap := by simpa [Nat.add_one_le_iff] using hroom
                    wait := fun h => nomatch hw.symm.trans h
                    inner := fun _ h => nomatch hpc.symm.trans h }
  | sendItemDirect hpc hx hw =>
    obtain ⟨-, -, hov, hd, hl⟩ := hI.inner _ hpc
    exact { hI with acc := by simp [hI.acc, hov, hx, hI.wait hw]
                    wait := fun h => nomatch h
                    top := fun _ => ⟨rfl, hd, hl⟩
                    inner := fun _ h => nomatch h
                    exited := fun h => nomatch h }
  | sendItemBuf hpc hx hw hroom =>
    obtain ⟨-, -, hov, hd, hl⟩ := hI.inner _ hpc
    exact { hI with acc := by simp [hI.acc, hov, hx]
                    cap := by simpa [Nat.add_one_le_iff] using hroom
                    wait := fun h => nomatch hw.symm.trans h
                    top := fun _ => ⟨rfl, hd, hl⟩
                    inner := fun _ h => nomatch h
                    exited := fun h => nomatch h }
  | dflt hpc hx hw hfull hq =>
    obtain ⟨-, -, hov, hd, hl⟩ := hI.inner _ hpc
    exact { hI with acc := by simp [hI.acc, hov, hx]
                    top := fun _ => ⟨rfl, hd, hl⟩
                    inner := fun _ h => nomatch h
                    exited := fun h => nomatch h }
  | quit hpc hq =>
    have hl : s.lost = [] := hpc.elim (fun hp => (hI.top hp).2.2) (fun hp => (hI.inner _ hp).2.2.2.2)
    exact { hI with acc := by simpa [hl] using hI.acc
                    top := fun h => nomatch h
                    inner := fun _ h => nomatch h
                    exited := fun _ => ⟨hq, rfl, by cases s.held <;> simp⟩ }
  | consume ho =>
    exact { hI with acc := by simpa [ho] using hI.acc
                    cap := by have := hI.cap; rw [ho] at this; exact Nat.le_of_succ_le this
                    wait := fun hw => by simp [hI.wait hw] at ho }
  | wait ho _ => exact { hI with wait := fun _ => ho }
  | unwait _ => exact { hI with wait := fun h => nomatch h }
  | stop _ => exact { hI with exited := fun hp => ⟨rfl, (hI.exited hp).2⟩ }

theorem step_frame (hI : Inv c s) (h : step expectedTable s l = some s') :
    (l ≠ .e .stop → s'.quitClosed = s.quitClosed) ∧ ((∀ x, l ≠ .w (.recvIn x)) → s'.accepted = s.accepted) := by
  cases (step_iff hI).mp h with
  | recvEmpty x => exact ⟨fun _ => rfl, fun h => absurd rfl (h x)⟩
  | recvNonEmpty x => exact ⟨fun _ => rfl, fun h => absurd rfl (h x)⟩
  | stop => exact ⟨fun h => absurd rfl h, fun _ => rfl⟩
  | _ => exact ⟨fun _ => rfl, fun _ => rfl⟩

theorem inv_run : ∀ (tr : List (Label α)) {s s' : State α}, Inv c s → run expectedTable s tr = some s' →
    Inv c s'
  | [], _, _, hI, h => Option.some.inj h ▸ hI
  | _ :: ls, _, _, hI, h =>
    let ⟨_, hs, hr⟩ := run_cons_eq_some.mp h
    inv_run ls (inv_step hI hs) hr

end

theorem inv_reachable {c : Nat} {s : State α} (h : Reachable expectedTable c s) : Inv c s := by
  obtain ⟨tr, h⟩ := h
  exact inv_run tr (inv_init c) h

end Queue
