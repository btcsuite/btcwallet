import BtcwVerif.Lemmas.RefChain
/-!
# Refinement, event *confirmed*, store side: the core of `insertMinedTx`
`confirmCore` (Lemmas/WFMined.lean) = record + spend loop + move loop + (drop the unconfirmed copy), i.e. `insertMinedTx` up to
`removeDoubleSpends`.  What the loops write (`SpendSpec`, `MoveSpec`, `CoreMid`, `CoreFinal`), and `refines_confirmCore`:
the result refines the ledger with `t` in the chain.  Conflict removal, lease release and `addCredit`: RefConfirmed.lean.
-/
namespace TxStore
open KMap Ledger

/-- `r`: the store after the spend loop of `rec` (block `blk`) over the inputs `l` (position, outpoint), started from `s` -/
structure SpendSpec (rec : Tx) (blk : Block) (l : List (Nat × OutPoint)) (s r : Store) : Prop where
  blocks : r.blocks = s.blocks
  txrecs : r.txrecs = s.txrecs
  unmined : r.unmined = s.unmined
  uc : r.unminedCredits = s.unminedCredits
  ui : r.unminedInputs = s.unminedInputs
  locked : r.locked = s.locked
  credHit : ∀ p ∈ l, ∀ b0, s.unspent.find? p.2 = some b0 →
    r.credits.find? ⟨p.2.hash, b0, p.2.index⟩ =
      some { baseCredit s ⟨p.2.hash, b0, p.2.index⟩ with spent := true, spender := some ⟨rec.hash, blk, p.1⟩ }
  credMiss : ∀ k, (∀ p ∈ l, s.unspent.find? p.2 ≠ some k.block ∨ p.2 ≠ k.outPoint) →
    r.credits.find? k = s.credits.find? k
  debHit : ∀ p ∈ l, ∀ b0, s.unspent.find? p.2 = some b0 →
    r.debits.find? ⟨rec.hash, blk, p.1⟩ =
      some ⟨(baseCredit s ⟨p.2.hash, b0, p.2.index⟩).amount, ⟨p.2.hash, b0, p.2.index⟩⟩
  debMiss : ∀ dk, (∀ p ∈ l, s.unspent.find? p.2 = none ∨ dk ≠ ⟨rec.hash, blk, p.1⟩) →
    r.debits.find? dk = s.debits.find? dk
  nodupDeb : NodupKeys s.debits → NodupKeys r.debits

theorem spendSpec_fold (rec : Tx) (blk : Block) : ∀ (l : List (Nat × OutPoint)) (s : Store) (bal : Int),
    (l.map (·.2)).Nodup → (l.map (·.1)).Nodup →
    SpendSpec rec blk l s (l.foldl (spendInput rec blk) (s, bal)).1 := by
  intro l
  induction l with
  | nil =>
    intro s bal _ _
    exact ⟨rfl, rfl, rfl, rfl, rfl, rfl, nofun, fun _ _ => rfl, nofun, fun _ _ => rfl, id⟩
  | cons a rest ih =>
    intro s bal hn2 hn1
    obtain ⟨j, inp⟩ := a
    rw [List.map_cons, List.nodup_cons] at hn2 hn1
    rw [List.foldl_cons]
    cases hu : s.unspent.find? inp with
    | none =>
      rw [spendInput_none hu]
      have ih' := ih s bal hn2.2 hn1.2
      exact { ih' with
        credHit := List.forall_mem_cons.mpr ⟨fun b0 hb => (nomatch hu.symm.trans hb), ih'.credHit⟩
        credMiss := fun k hk => ih'.credMiss k fun p hp => hk p (List.mem_cons_of_mem _ hp)
        debHit := List.forall_mem_cons.mpr ⟨fun b0 hb => (nomatch hu.symm.trans hb), ih'.debHit⟩
        debMiss := fun dk hk => ih'.debMiss dk fun p hp => hk p (List.mem_cons_of_mem _ hp) }
    | some b0 =>
      rw [spendInput_some hu]
      have ih' := ih (spendStore rec blk s j inp b0) (bal - (baseCredit s ⟨inp.hash, b0, inp.index⟩).amount) hn2.2 hn1.2
      -- the other inputs and positions differ from this one, so the later steps read what `s` holds
      have hne : ∀ p ∈ rest, p.2 ≠ inp := fun p hp e => hn2.1 (List.mem_map.mpr ⟨p, hp, e⟩)
      have hnj : ∀ p ∈ rest, p.1 ≠ j := fun p hp e => hn1.1 (List.mem_map.mpr ⟨p, hp, e⟩)
      have hun : ∀ p ∈ rest, (spendStore rec blk s j inp b0).unspent.find? p.2 = s.unspent.find? p.2 :=
        fun p hp => find?_erase_ne _ fun e => hne p hp e.symm
      have hbase : ∀ p ∈ rest, ∀ b, baseCredit (spendStore rec blk s j inp b0) ⟨p.2.hash, b, p.2.index⟩ =
          baseCredit s ⟨p.2.hash, b, p.2.index⟩ := fun p hp b => by
        unfold baseCredit spendStore
        rw [find?_insert_ne _ _ fun e => hne p hp (OutPoint.eq_of_fields (CredKey.mk.inj e).1 (CredKey.mk.inj e).2.2).symm]
      exact { ih' with
        credHit := List.forall_mem_cons.mpr ⟨fun b hb => by
            cases hu.symm.trans hb
            rw [ih'.credMiss _ fun q hq => Or.inr fun e => hne q hq (e.trans (by cases inp; rfl))]
            exact find?_insert_self ..,
          fun p hp b hb => by rw [ih'.credHit p hp b ((hun p hp).trans hb), hbase p hp b]⟩
        credMiss := fun k hk => by
          rw [ih'.credMiss k fun p hp => (hun p hp).symm ▸ hk p (List.mem_cons_of_mem _ hp)]
          refine find?_insert_ne _ _ ?_
          rintro rfl
          exact (hk (j, inp) List.mem_cons_self).elim (fun h => h hu) (fun h => h rfl)
        debHit := List.forall_mem_cons.mpr ⟨fun b hb => by
            cases hu.symm.trans hb
            rw [ih'.debMiss _ fun q hq => Or.inr fun e => hnj q hq (by injection e with _ _ e3; exact e3.symm)]
            exact find?_insert_self ..,
          fun p hp b hb => by rw [ih'.debHit p hp b ((hun p hp).trans hb), hbase p hp b]⟩
        debMiss := fun dk hk => by
          rw [ih'.debMiss dk fun p hp => (hun p hp).symm ▸ hk p (List.mem_cons_of_mem _ hp)]
          exact find?_insert_ne _ _ fun e =>
            (hk (j, inp) List.mem_cons_self).elim (fun h => nomatch hu.symm.trans h) (fun h => h e.symm)
        nodupDeb := fun hnd => ih'.nodupDeb (nodupKeys_insert _ _ _ hnd) }

/-- `r`: the store after the move loop of `rec` over its unconfirmed credits `l`, started from `s` -/
structure MoveSpec (rec : Tx) (blk : Block) (l : List (OutPoint × UCredit)) (s r : Store) : Prop where
  blocks : r.blocks = s.blocks
  txrecs : r.txrecs = s.txrecs
  unmined : r.unmined = s.unmined
  uc : r.unminedCredits = s.unminedCredits
  ui : r.unminedInputs = s.unminedInputs
  locked : r.locked = s.locked
  debits : r.debits = s.debits
  credHit : ∀ p ∈ l, r.credits.find? ⟨rec.hash, blk, p.1.index⟩ = some ⟨p.2.amount, p.2.change, false, none⟩
  credMiss : ∀ k, (∀ p ∈ l, k ≠ ⟨rec.hash, blk, p.1.index⟩) → r.credits.find? k = s.credits.find? k

theorem moveSpec_fold (rec : Tx) (blk : Block) : ∀ (l : List (OutPoint × UCredit)) (s : Store) (bal : Int),
    (l.map (·.1.index)).Nodup → MoveSpec rec blk l s (l.foldl (moveCredit rec blk) (s, bal)).1 := by
  intro l
  induction l with
  | nil => intro s bal _; exact ⟨rfl, rfl, rfl, rfl, rfl, rfl, rfl, nofun, fun _ _ => rfl⟩
  | cons a rest ih =>
    intro s bal hn
    obtain ⟨op, uc⟩ := a
    rw [List.map_cons, List.nodup_cons] at hn
    have ih' := ih (moveCredit rec blk (s, bal) (op, uc)).1 (moveCredit rec blk (s, bal) (op, uc)).2 hn.2
    have hni : ∀ p ∈ rest, p.1.index ≠ op.index := fun p hp e => hn.1 (List.mem_map.mpr ⟨p, hp, e⟩)
    exact { ih' with
      credHit := List.forall_mem_cons.mpr ⟨(ih'.credMiss _ fun q hq e => hni q hq (by
          injection e with _ _ e3; exact e3.symm)).trans (find?_insert_self ..), ih'.credHit⟩
      credMiss := fun k hk => (ih'.credMiss k fun p hp => hk p (List.mem_cons_of_mem _ hp)).trans
        (find?_insert_ne _ _ fun e => hk (op, uc) List.mem_cons_self e.symm) }

theorem foldl_eraseUC {α : Type} (g : α → OutPoint) : ∀ (l : List α) (a : Store),
    l.foldl (fun s x => { s with unminedCredits := s.unminedCredits.erase (g x) }) a =
      { a with unminedCredits := (l.map g).foldl KMap.erase a.unminedCredits } := by
  intro l
  induction l with
  | nil => intro a; rfl
  | cons x t ih => intro a; rw [List.foldl_cons, ih]; rfl

theorem deleteUnminedTx_spec (s : Store) (rec : Tx) :
    (deleteUnminedTx s rec).blocks = s.blocks ∧ (deleteUnminedTx s rec).txrecs = s.txrecs ∧
    (deleteUnminedTx s rec).credits = s.credits ∧ (deleteUnminedTx s rec).debits = s.debits ∧
    (deleteUnminedTx s rec).locked = s.locked ∧ (deleteUnminedTx s rec).unmined = s.unmined.erase rec.hash ∧
    (∀ op, (deleteUnminedTx s rec).unminedCredits.find? op =
      if op.hash = rec.hash ∧ op.index < rec.outs.length then none else s.unminedCredits.find? op) ∧
    (∀ op x, x ∈ spendHashes (deleteUnminedTx s rec) op ↔ x ∈ spendHashes s op ∧ (op ∈ rec.ins → x ≠ rec.hash)) ∧
    (InputsNE s → InputsNE (deleteUnminedTx s rec)) := by
  have e : deleteUnminedTx s rec = _ := congrArg (fun a : Store => { a with unmined := a.unmined.erase rec.hash })
    (foldl_eraseUC (fun x : Nat × Int => ⟨rec.hash, x.1⟩) (withIdx rec.outs)
      (rec.ins.foldl (fun s inp => deleteRawUnminedInput s inp rec.hash) s))
  rw [e, foldl_del_eq]
  refine ⟨rfl, rfl, rfl, rfl, rfl, rfl, fun op => ?_, fun op x => mem_spendHashes_foldl_del rec.hash op x rec.ins s,
    inputsNE_foldl_del rec.hash rec.ins s⟩
  show (List.foldl KMap.erase s.unminedCredits _).find? op = _
  rw [find?_foldl_erase]
  congr 1
  rw [List.mem_map, eq_iff_iff]
  constructor
  · rintro ⟨⟨i, v⟩, hm, rfl⟩
    exact ⟨rfl, (List.getElem?_eq_some_iff.mp ((mem_withIdx0 _ _ _).mp hm)).1⟩
  · rintro ⟨h1, h2⟩
    exact ⟨(op.index, rec.outs[op.index]), (mem_withIdx0 _ _ _).mpr (List.getElem?_eq_getElem h2), (OutPoint.eq_of_fields h1 rfl).symm⟩

/-- `m`: `updateMinedBalance (recordTx s t bm) t bm.block`, bucket by bucket against `s` -/
structure CoreMid (s : Store) (t : Tx) (bm : BlockMeta) (m : Store) : Prop where
  blocks : m.blocks = s.blocks.insert bm.block.height (newBlockRec s t bm)
  txrecs : m.txrecs = s.txrecs.insert ⟨t.hash, bm.block⟩ t
  locked : m.locked = s.locked
  unmined : m.unmined = s.unmined
  uc : m.unminedCredits = s.unminedCredits
  ui : m.unminedInputs = s.unminedInputs
  credMove : ∀ op uc, s.unminedCredits.find? op = some uc → op.hash = t.hash →
    m.credits.find? ⟨t.hash, bm.block, op.index⟩ = some ⟨uc.amount, uc.change, false, none⟩
  credSpend : ∀ (j : Nat) (inp : OutPoint) b0, t.ins[j]? = some inp → s.unspent.find? inp = some b0 → inp.hash ≠ t.hash →
    m.credits.find? ⟨inp.hash, b0, inp.index⟩ =
      some { baseCredit s ⟨inp.hash, b0, inp.index⟩ with spent := true, spender := some ⟨t.hash, bm.block, j⟩ }
  credMiss : ∀ k : CredKey,
    (∀ op uc, s.unminedCredits.find? op = some uc → op.hash = t.hash → k ≠ ⟨t.hash, bm.block, op.index⟩) →
    (∀ (j : Nat) (inp : OutPoint), t.ins[j]? = some inp → s.unspent.find? inp ≠ some k.block ∨ inp ≠ k.outPoint) →
    m.credits.find? k = s.credits.find? k
  debHit : ∀ (j : Nat) (inp : OutPoint) b0, t.ins[j]? = some inp → s.unspent.find? inp = some b0 →
    m.debits.find? ⟨t.hash, bm.block, j⟩ =
      some ⟨(baseCredit s ⟨inp.hash, b0, inp.index⟩).amount, ⟨inp.hash, b0, inp.index⟩⟩
  debMiss : ∀ dk : CredKey, (∀ (j : Nat) (inp : OutPoint), t.ins[j]? = some inp → s.unspent.find? inp = none ∨ dk ≠ ⟨t.hash, bm.block, j⟩) →
    m.debits.find? dk = s.debits.find? dk
  nodupDeb : NodupKeys s.debits → NodupKeys m.debits

theorem coreMid_updateMinedBalance (s : Store) (t : Tx) (bm : BlockMeta) (hins : t.ins.Nodup)
    (hnd : NodupKeys s.unminedCredits) :
    CoreMid s t bm (updateMinedBalance (recordTx s t bm) t bm.block) := by
  rw [updateMinedBalance_eq]
  -- `R`: the store with the record written; it agrees with `s` on every bucket the two loops read
  obtain ⟨R, hR⟩ : ∃ R, R = recordTx s t bm := ⟨_, rfl⟩
  rw [← hR]
  have hsp := spendSpec_fold t bm.block (withIdx t.ins) R R.minedBalance
    (by rw [withIdx_map_snd]; exact hins) (withIdx_fst_nodup _ _)
  generalize (withIdx t.ins).foldl (spendInput t bm.block) _ = a at hsp ⊢
  obtain ⟨sA, balA⟩ := a
  cases hR.trans (recordTx_fields s t bm)
  dsimp only at hsp ⊢
  have hucA : sA.unminedCredits = s.unminedCredits := hsp.uc
  have hmv := moveSpec_fold t bm.block (unminedCreditsOf sA t.hash) sA balA (by
    unfold unminedCreditsOf; rw [hucA]; exact nodup_indices_of_same_hash _ hnd t.hash)
  generalize (unminedCreditsOf sA t.hash).foldl (moveCredit t bm.block) (sA, balA) = b at hmv ⊢
  obtain ⟨sB, balB⟩ := b
  dsimp only at hmv ⊢
  have hmem : ∀ p, p ∈ unminedCreditsOf sA t.hash ↔ s.unminedCredits.find? p.1 = some p.2 ∧ p.1.hash = t.hash := by
    intro p
    rw [unminedCreditsOf, List.mem_filter, hucA, mem_iff_find? _ hnd, decide_eq_true_eq]
  have hfinal : CoreMid s t bm sB :=
    { blocks := hmv.blocks.trans hsp.blocks, txrecs := hmv.txrecs.trans hsp.txrecs
      locked := hmv.locked.trans hsp.locked, unmined := hmv.unmined.trans hsp.unmined
      uc := hmv.uc.trans hucA, ui := hmv.ui.trans hsp.ui
      credMove := fun op uc hf hh => hmv.credHit (op, uc) ((hmem (op, uc)).mpr ⟨hf, hh⟩)
      credSpend := fun j inp b0 hj hu hne =>
        (hmv.credMiss _ fun p _ e => hne (by injection e)).trans
          (hsp.credHit (j, inp) ((mem_withIdx0 _ _ _).mpr hj) b0 hu)
      credMiss := fun k h1 h2 =>
        (hmv.credMiss k fun p hp => h1 p.1 p.2 ((hmem p).mp hp).1 ((hmem p).mp hp).2).trans
          (hsp.credMiss k fun p hp => h2 p.1 p.2 ((mem_withIdx0 _ _ _).mp hp))
      debHit := fun j inp b0 hj hu => hmv.debits ▸ hsp.debHit (j, inp) ((mem_withIdx0 _ _ _).mpr hj) b0 hu
      debMiss := fun dk h => hmv.debits ▸ hsp.debMiss dk fun p hp => h p.1 p.2 ((mem_withIdx0 _ _ _).mp hp)
      nodupDeb := fun hn => hmv.debits ▸ hsp.nodupDeb hn }
  split <;> exact { hfinal with }

theorem CoreMid.credits_cases {s : Store} {t : Tx} {bm : BlockMeta} {m : Store} (hm : CoreMid s t bm m) (k : CredKey) :
    (∃ op uc, s.unminedCredits.find? op = some uc ∧ op.hash = t.hash ∧ k = ⟨t.hash, bm.block, op.index⟩) ∨
    (∃ j : Nat, t.ins[j]? = some k.outPoint ∧ s.unspent.find? k.outPoint = some k.block) ∨
    m.credits.find? k = s.credits.find? k :=
  (Classical.em _).imp_right fun hmv => (Classical.em _).imp_right fun hsp =>
    hm.credMiss k (fun op uc h1 h2 e => hmv ⟨op, uc, h1, h2, e⟩) fun j _ hj =>
      Classical.not_and_iff_not_or_not.mp fun ⟨e1, e2⟩ => hsp ⟨j, e2 ▸ hj, e2 ▸ e1⟩

section
variable {s : Store} {L : Ledger} {bm : BlockMeta} {t : Tx} {cr : List (Nat × Bool)}

theorem confirmPre2_of (hg : Good s L) {bm : BlockMeta} {t : Tx} {cr : List (Nat × Bool)}
    (hf : ConfFacts L bm t cr) : ConfirmPre2 s t bm := by
  refine ⟨⟨fun k hk => ?_, fun br hbr => ?_, fun op uc hfu hh => ?_⟩, fun inp blk0 hu hin => ?_, hf.bound⟩
  · obtain ⟨v, hv⟩ := Option.isSome_iff_exists.mp hk
    exact hf.no_txrec ((hg.ref.txrecs k v).mp hv)
  · obtain ⟨lb, hlb, e⟩ := List.mem_map.mp (hg.ref.blocks ▸ mem_of_find? _ hbr)
    have e2 : (blockEntry lb).2 = br := congrArg Prod.snd e
    rw [← e2]
    exact congrArg (·.block.hash) (hf.sameHeight lb hlb (congrArg Prod.fst e))
  · exact (hf.ucredit_own ((hg.ref.ucredits op uc).mp hfu) hh).2.1
  · obtain ⟨x, b, hm, e1, rfl, _⟩ := (unspent_iff hg inp blk0).mp hu
    exact hf.parentsBelow _ hm inp hin e1

theorem spenderOf_toChain_in (hl : LWF L)
    (hf : ConfFacts L bm t cr) {j : Nat} {op : OutPoint} (hj : t.ins[j]? = some op) :
    spenderOf (toChain L bm t) op = some ⟨t.hash, bm.block, j⟩ := by
  rw [spenderOf_eq_some_iff (lwf_toChain hl hf).noDouble]
  exact ⟨(t, bm), (mem_chainTxs_toChain hf.sameHeight _).mpr (Or.inr rfl), j, hj, rfl⟩

theorem spenderOf_toChain_out (hl : LWF L)
    (hf : ConfFacts L bm t cr) {op : OutPoint} (hop : op ∉ t.ins) :
    spenderOf (toChain L bm t) op = spenderOf L op := by
  cases hs : spenderOf L op with
  | none =>
    rw [spenderOf_eq_none_iff] at hs ⊢
    intro p hp
    rcases (mem_chainTxs_toChain hf.sameHeight p).mp hp with h | rfl
    · exact hs p h
    · exact hop
  | some dk =>
    rw [spenderOf_eq_some_iff hl.noDouble] at hs
    rw [spenderOf_eq_some_iff (lwf_toChain hl hf).noDouble]
    obtain ⟨p, hp, j, hj, e⟩ := hs
    exact ⟨p, (mem_chainTxs_toChain hf.sameHeight p).mpr (Or.inl hp), j, hj, e⟩

theorem spenderOf_own_none (hl : LWF L) {bm : BlockMeta} {t : Tx} {cr : List (Nat × Bool)}
    (hf : ConfFacts L bm t cr) (i : Nat) : spenderOf (toChain L bm t) ⟨t.hash, i⟩ = none := by
  rw [spenderOf_eq_none_iff]
  intro p hp hin
  rcases (mem_chainTxs_toChain hf.sameHeight p).mp hp with h | rfl
  · -- a confirmed transaction spending an output of t: t would be known, hence unconfirmed, hence its child unconfirmed
    by_cases hk : ∃ q ∈ known L, q.1.hash = t.hash
    · obtain ⟨q, hq, e⟩ := hk
      obtain ⟨rfl, _⟩ := hf.known_eq hq e
      obtain ⟨b, hb, _⟩ := hl.parents p h _ hin _ hq e
      cases hb
    · exact hf.freshNoChild (fun q hq e => hk ⟨q, hq, e⟩) _ (known_of_mined h) _ hin rfl
  · exact hf.noSelf _ hin rfl

/-- `c`: `confirmCore s t bm`; its mined buckets are those of the `m` of `CoreMid` -/
structure CoreFinal (s : Store) (t : Tx) (bm : BlockMeta) (c : Store) : Prop where
  mid : ∃ m, CoreMid s t bm m ∧ c.blocks = m.blocks ∧ c.txrecs = m.txrecs ∧ c.credits = m.credits ∧
    c.debits = m.debits ∧ c.locked = m.locked
  unmined : ∀ h v, c.unmined.find? h = some v ↔ s.unmined.find? h = some v ∧ h ≠ t.hash
  uc : ∀ op, c.unminedCredits.find? op = if op.hash = t.hash then none else s.unminedCredits.find? op
  ui : ∀ op x, x ∈ spendHashes c op ↔ x ∈ spendHashes s op ∧ x ≠ t.hash
  ne : InputsNE c
  nodupUnmined : NodupKeys c.unmined

theorem coreFinal_of (hg : Good s L)
    (hf : ConfFacts L bm t cr) : CoreFinal s t bm (confirmCore s t bm) := by
  have hm := coreMid_updateMinedBalance s t bm hf.insNodup hg.wf2.wf.nodupUC
  unfold confirmCore
  generalize updateMinedBalance (recordTx s t bm) t bm.block = m at hm
  have hr := hg.ref
  have hsh : ∀ op, spendHashes m op = spendHashes s op := fun op => by unfold spendHashes; rw [hm.ui]
  have hne : InputsNE m := fun op => by rw [hm.ui]; exact hr.uinputsNE op
  simp only [contains_eq, hm.unmined]
  by_cases hpool : t ∈ L.pool
  · rw [hr.unmined_of_pool hpool, Option.isSome_some, if_pos rfl]
    obtain ⟨d1, d2, d3, d4, d5, d6, d7, d8, d9⟩ := deleteUnminedTx_spec m t
    refine ⟨⟨m, hm, d1, d2, d3, d4, d5⟩, fun h v => ?_, fun op => ?_, fun op x => ?_, d9 hne, ?_⟩
    · rw [d6, hm.unmined]; exact find?_erase_eq_some.trans (and_comm.trans (and_congr_right' ne_comm))
    · rw [d7, hm.uc]
      by_cases e : op.hash = t.hash
      · rw [if_pos e]
        split
        · rfl
        · rename_i e2
          exact Holds.find?_eq_none hr.ucredits fun uc h =>
            e2 ⟨e, (List.getElem?_eq_some_iff.mp (hf.ucredit_own h e).2.1).1⟩
      · rw [if_neg e, if_neg fun h => e h.1]
    · rw [d8, hsh]
      exact and_congr_right fun h1 => ⟨fun h2 e => h2 (hg.spender_ins hpool (e ▸ h1)) e, fun h2 _ => h2⟩
    · rw [d6, hm.unmined]; exact nodupKeys_erase _ _ hr.nodupUnmined
  · have hnp : ∀ u ∈ L.pool, u.hash ≠ t.hash := fun u hu e => hpool (hf.sameTx u hu e ▸ hu)
    rw [hr.unmined_none hnp, Option.isSome_none, if_neg Bool.false_ne_true]
    refine ⟨⟨m, hm, rfl, rfl, rfl, rfl, rfl⟩, fun h v => ?_, fun op => ?_, fun op x => ?_, hne,
      hm.unmined ▸ hr.nodupUnmined⟩
    · rw [hm.unmined, hr.unmined_iff]
      exact (and_iff_left_of_imp fun h1 e => hnp v h1.1 (h1.2.symm.trans e)).symm
    · rw [hm.uc]
      split
      · rename_i e
        exact Holds.find?_eq_none hr.ucredits fun uc h => hpool (hf.ucredit_own h e).1
      · rfl
    · rw [hsh, hr.uinputs, mem_poolSpenders]
      exact (and_iff_left_of_imp fun ⟨u, hu, _, h2⟩ e => hnp u hu (h2.trans e)).symm

/-- `coreFinal_of` describes every bucket of `confirmCore s t bm` against `s`.  Every bucket but two is then one
`Holds.insert/.erase/.congr` (or an equation) against the matching `mem_…_toChain`/`_drop` lemma; `credits` is `Holds.of_mem` with the
keys split as `CoreMid.credits_cases` does (a credit moved from the unconfirmed bucket, a credit an input of `t` spends, an
untouched one) against `spenderOf_toChain_in`, `spenderOf_toChain_out`, `spenderOf_own_none`; `debits`, a clause about the store alone, follows `debHit`/`debMiss`. -/
theorem refines_confirmCore (hg : Good s L) {bm : BlockMeta} {t : Tx} {cr : List (Nat × Bool)}
    (hf : ConfFacts L bm t cr) : Refines (confirmCore s t bm) (toChain L bm t) := by
  have hr := hg.ref
  have hl := hg.lwf
  have hw := hg.wf2
  obtain ⟨⟨m, hm, cb, ct, cc, cd, clk⟩, cu, cuc, cui, cne, cnu⟩ := coreFinal_of hg hf
  generalize confirmCore s t bm = c at cb ct cc cd clk cu cuc cui cne cnu ⊢
  have hsh := hf.sameHeight
  have hmemC := fun p => mem_chainTxs_toChain (t := t) hsh p
  have hcredit : (toChain L bm t).credit = L.credit := rfl
  refine ⟨?_, ?_, ?_, ?_, ?_, ?_, ?_, cne, ?_, ?_, cnu, ?_, by rw [clk, hm.locked]; exact hr.nodupLocked⟩
  · -- blocks
    rw [cb, hm.blocks]
    have e : newBlockRec s t bm = newBlockRec { blocks := s.blocks } t bm := rfl
    rw [e, hr.blocks]
    exact blocks_insert_chain bm t L.chain hl.heights
  · -- txrecs
    rw [ct, hm.txrecs]
    refine Holds.insert hr.txrecs (fun v h => hf.no_txrec h rfl) fun ⟨k, v⟩ => ?_
    simp only [mem_expTxrecs, hmemC, Prod.mk.injEq]
    constructor
    · rintro ⟨b, hmb | ⟨rfl, rfl⟩, rfl⟩
      · exact Or.inl ⟨b, hmb, rfl⟩
      · exact Or.inr ⟨rfl, rfl⟩
    · rintro (⟨b, hmb, e⟩ | ⟨rfl, rfl⟩)
      · exact ⟨b, Or.inl hmb, e⟩
      · exact ⟨bm, Or.inr ⟨rfl, rfl⟩, rfl⟩
  · -- unmined
    exact fun h v => (cu h v).trans ((and_congr_left' (hr.unmined h v)).trans (mem_expUnmined_drop rfl h v).symm)
  · -- credits
    rw [cc]
    refine Holds.of_mem (fun k v h => ?_) fun k v hfk => ?_
    rotate_left
    · -- the key of a record is a credited output of a confirmed transaction
      have hold : ∀ cv, s.credits.find? k = some cv → ∃ v', (k, v') ∈ expCredits (toChain L bm t) := fun cv hcv => by
        obtain ⟨x, b, hxb, e1, e2, e3, e4, _⟩ := (hr.credits_iff k cv).mp hcv
        exact ⟨⟨cv.amount, cv.change, (spenderOf (toChain L bm t) k.outPoint).isSome, spenderOf _ k.outPoint⟩,
          mem_expCredits.mpr ⟨x, b, (hmemC _).mpr (Or.inl hxb), e1, e2, e3, e4, rfl, rfl⟩⟩
      rcases hm.credits_cases k with ⟨⟨oh, oi⟩, uc, h1, h2, rfl⟩ | ⟨j, _, h2⟩ | e
      · cases h2
        obtain ⟨_, h3, h4⟩ := hf.ucredit_own ((hr.ucredits _ uc).mp h1) rfl
        exact ⟨⟨uc.amount, uc.change, (spenderOf (toChain L bm t) ⟨t.hash, oi⟩).isSome, spenderOf _ ⟨t.hash, oi⟩⟩,
          mem_expCredits.mpr ⟨t, bm, (hmemC _).mpr (Or.inr rfl), rfl, rfl, h3, h4, rfl, rfl⟩⟩
      · obtain ⟨cv, hcv, _⟩ := (hw.wf.index _ _).mp h2
        exact hold cv (credKey_eta k ▸ hcv)
      · exact hold v (e.symm.trans hfk)
    · obtain ⟨x, b, hxb, e1, e2, e3, e4, e5, e6⟩ := mem_expCredits.mp h
      rcases (hmemC _).mp hxb with hold | hnew
      · have hkh : k.hash ≠ t.hash := e1 ▸ hf.notMined _ hold
        by_cases hin : k.outPoint ∈ t.ins
        · obtain ⟨j, hj⟩ := List.getElem?_of_mem hin
          have hnone : spenderOf L k.outPoint = none :=
            spenderOf_eq_none_iff.mpr fun p hp hin' => hf.noDouble p hp _ hin' hin
          have hold' : s.credits.find? k = some ⟨v.amount, v.change, false, none⟩ :=
            (hr.credits_iff k _).mpr ⟨x, b, hold, e1, e2, e3, e4, by rw [hnone], by rw [hnone]; rfl⟩
          have hu : s.unspent.find? k.outPoint = some k.block :=
            (hw.wf.index k.outPoint k.block).mpr ⟨_, (credKey_eta k).symm ▸ hold', rfl⟩
          have := hm.credSpend j k.outPoint k.block hj hu hkh
          rw [credKey_eta, baseCredit_of_find hold'] at this
          rw [this]
          rw [spenderOf_toChain_in hl hf hj] at e5 e6
          obtain ⟨a, c, sp, spd⟩ := v
          cases e5; cases e6; rfl
        · rw [spenderOf_toChain_out hl hf hin] at e5 e6
          rw [hm.credMiss k (fun op uc _ _ e => hkh (by rw [e])) fun j inp hj => .inr fun e => hin (e ▸ List.mem_of_getElem? hj)]
          exact (hr.credits_iff k v).mpr ⟨x, b, hold, e1, e2, e3, e4, e5, e6⟩
      · cases hnew
        obtain ⟨kh, kb, ki⟩ := k
        cases e1; cases e2
        rw [show (⟨t.hash, bm.block, ki⟩ : CredKey).outPoint = ⟨t.hash, ki⟩ from rfl] at e4 e5 e6
        rw [spenderOf_own_none hl hf] at e5 e6
        -- t must have been unconfirmed (a new transaction has no credits yet)
        obtain ⟨q, hq, hqt, _⟩ := hl.credit_known (show lookup L.credit ⟨t.hash, ki⟩ = _ from e4)
        have htp := (hf.known_eq hq hqt).2
        rw [hm.credMove _ _ ((hr.ucredits_iff _ ⟨v.amount, v.change⟩).mpr ⟨t, htp, rfl, e3, e4⟩) rfl]
        obtain ⟨a, c, sp, spd⟩ := v
        cases e5; cases e6; rfl
  · -- debits
    intro dk d
    rw [cd, cc]
    constructor
    · intro hfd
      by_cases hhit : ∃ (j : Nat) (inp : OutPoint) (b0 : Block), t.ins[j]? = some inp ∧ s.unspent.find? inp = some b0 ∧ dk = ⟨t.hash, bm.block, j⟩
      · obtain ⟨j, inp, b0, h1, h2, rfl⟩ := hhit
        cases (hm.debHit j inp b0 h1 h2).symm.trans hfd
        exact ⟨_, hm.credSpend j inp b0 h1 h2 (hf.noSelf inp (List.mem_of_getElem? h1)), rfl, rfl⟩
      · rw [hm.debMiss dk fun j inp h1 => (Option.eq_none_or_eq_some _).imp_right
          fun ⟨b0, hu⟩ e => hhit ⟨j, inp, b0, h1, hu, e⟩] at hfd
        obtain ⟨cv, h1, h2, h3⟩ := (hr.debits dk d).mp hfd
        obtain ⟨x, b, hxb, e1, _, _, _, e5, e6⟩ := (hr.credits_iff _ _).mp h1
        have hsome : cv.spent = true := by rw [e6, ← e5, h2]; rfl
        -- the credit it points at is spent already: not in the unspent index, so no input of `t` finds it
        refine ⟨cv, (hm.credMiss d.credKey (fun op uc _ _ e => hf.notMined _ hxb (by rw [← e1, e]))
          fun j inp _ => Classical.not_and_iff_not_or_not.mp ?_).trans h1, h2, h3⟩
        rintro ⟨e1', rfl⟩
        obtain ⟨cv', h1', h2'⟩ := (hw.wf.index _ _).mp e1'
        rw [credKey_eta, h1] at h1'
        cases h1'
        exact absurd (hsome.symm.trans h2') nofun
    · rintro ⟨cv, h1, h2, h3⟩
      rcases hm.credits_cases d.credKey with ⟨op, uc, h4, h5, h6⟩ | ⟨j, h4, h5⟩ | e
      · rw [h6, hm.credMove op uc h4 h5] at h1
        cases h1; cases h2
      · have hc := hm.credSpend j _ _ h4 h5 (hf.noSelf _ (List.mem_of_getElem? h4))
        rw [credKey_eta, h1] at hc
        cases hc
        cases h2
        rw [hm.debHit j _ _ h4 h5, credKey_eta]
        obtain ⟨da, dck⟩ := d
        exact congrArg (fun a => some (DebitVal.mk a dck)) h3
      · rw [e] at h1
        have hold := (hr.debits dk d).mpr ⟨cv, h1, h2, h3⟩
        -- an old debit is a debit of a confirmed transaction, not of `t`
        rw [hm.debMiss dk fun j inp _ => Or.inr ?_]
        · exact hold
        · rintro rfl
          obtain ⟨⟨⟨rec0, hr0, _⟩, _⟩, _⟩ := hw.deb _ _ hold
          exact hf.no_txrec ((hr.txrecs _ _).mp hr0) rfl
  · -- unconfirmed credits
    intro op uc
    rw [cuc, mem_expUnminedCredits]
    simp only [hcredit, mem_pool_toChain]
    by_cases e : op.hash = t.hash
    · simp only [e, if_true, reduceCtorEq, false_iff]
      rintro ⟨u, hu, h1, _⟩
      exact hu.2 h1.symm
    · simp only [e, if_false]
      rw [hr.ucredits_iff]
      exact exists_congr fun u => and_congr_left fun h => (and_iff_left fun e' => e (h.1.trans e')).symm
  · -- unconfirmed inputs
    exact fun op x => (cui op x).trans ((and_congr_left' (hr.uinputs op x)).trans (mem_poolSpenders_drop rfl op x).symm)
  · -- leases
    intro op; rw [clk, hm.locked]; exact hr.leases op
  · rw [ct, hm.txrecs]; exact nodupKeys_insert _ _ _ hr.nodupTxrecs
  · rw [cd]; exact hm.nodupDeb hr.nodupDebits

end

end TxStore
