/-
C15, `syncWithChain` as a whole (`resync`; `startup` is `resync` on the not yet chain-synced wallet): from `StoppedInv`
against any backend chain it fails without writing or ends in `Inv` (`resync_total`).

Plan: the rollback transaction leaves `CatchInv` w.r.t. the last common block (`startupRollback_total`); from there on
the wallet is `Catching`: at some height of the backend's chain, with every `PutSyncedTo` of the catch-up (recovery
batches or `catchUpHashes`) a "connect the next best-chain block" step (`CatchInv.connect`); transaction records are
only ever added for blocks of the backend's chain (`MinedOn … tip` is kept separately because the rescan records
transactions of blocks above the synced-to height before the hashes are caught up).  `startup` and a reconnect of the
running wallet are the same `resync`, up to the `chainSynced` flag, which nothing on the way reads.
-/
import BtcwVerif.Lemmas.SyncTipStartup
namespace SyncTip

/-! Statement vocabulary of `C15_startup_*`: `startupLo` (`L` = the backend chain's length). -/

/-- Ghost lower end of the remembered range after a successful start-up: `min lo c` pushed up by pruning. -/
def startupLo (W lo c L : Nat) : Nat := loAfterN W (min lo c) c (L - c)

theorem startupLo_le (W lo c L : Nat) (hc : c ≤ L) :
    startupLo W lo c L ≤ min lo c ∨ startupLo W lo c L + W ≤ L + 1 := by
  have := (loAfterN_bounds W (L - c) (min lo c) c).2
  rwa [Nat.add_sub_cancel' hc] at this

/-- During a catch-up against the backend chain `tip`: the wallet is at height `c` of that chain, every mined record
    is on it, and `loEnd` is the ghost lower end the outstanding `tip.length - c` `PutSyncedTo`s will leave. -/
def Catching (cfg : Cfg) (w : Wallet) (tip : BlockId) (c loEnd : Nat) : Prop :=
  c ≤ tip.length ∧ MinedOn w tip ∧
    ∃ lo, CatchInv cfg w (ancestorAt tip c) lo ∧ loAfterN cfg.W lo c (tip.length - c) = loEnd

/-- The transaction-recording half of a recovery batch. -/
def recTxs (cfg : Cfg) (w : Wallet) (blocks : List BlockId) : Wallet :=
  blocks.foldl (fun w b =>
      if w.birthday.1 ≤ b.length then
        (cfg.C.txs b).foldl (fun w t => addRelevantTx w t (some (stampOf cfg.C b))) w
      else w) w

theorem recoveryBatch_eq (cfg : Cfg) (w : Wallet) (blocks : List BlockId) :
    recoveryBatch cfg w blocks =
      blocks.foldlM (fun w b => putSyncedTo cfg.W w (stampOf cfg.C b)) (recTxs cfg w blocks) := rfl

theorem except_bind_ok {ε α β : Type} (x : α) (f : α → Except ε β) : (Except.ok x >>= f) = f x := rfl

theorem catchUpFrom_eq (cfg : Cfg) (tip : BlockId) : ∀ (n : Nat) (w : Wallet) (a : Nat), a + n ≤ tip.length + 1 →
    catchUpFrom cfg tip w a n = (blocksFrom tip a n).foldlM (fun w b => putSyncedTo cfg.W w (stampOf cfg.C b)) w := by
  intro n
  induction n with
  | zero => intro w a _; rfl
  | succ n ih =>
    intro w a ha
    have hle : a ≤ tip.length := by omega
    simp only [catchUpFrom, getBlockHash_of_le hle, blocksFrom, List.foldlM_cons, stampOf_ancestorAt cfg.C hle]
    cases putSyncedTo cfg.W w ⟨a, some (ancestorAt tip a), cfg.C.time (ancestorAt tip a)⟩ with
    | error e => rfl
    | ok w' => exact ih w' (a + 1) (by omega)

namespace Catching
variable {cfg : Cfg} {w : Wallet} {tip : BlockId} {c loEnd : Nat}

theorem height (h : Catching cfg w tip c loEnd) : w.syncedTo.height = c :=
  let ⟨hc, _, _, hI, _⟩ := h
  (hI.on_tip hc).1

/-- The catch-up `PutSyncedTo`s (a recovery batch, or `catchUpHashes`): each is `CatchInv.connect` for the next block of
    the backend's chain; `loEnd` does not move because it was defined as what all of them together leave. -/
theorem putFold (hW : 1 ≤ cfg.W) :
    ∀ (n : Nat) {w : Wallet} {c : Nat}, Catching cfg w tip c loEnd → c + n ≤ tip.length →
      ∃ w', (blocksFrom tip (c + 1) n).foldlM (fun w b => putSyncedTo cfg.W w (stampOf cfg.C b)) w = .ok w' ∧
        Catching cfg w' tip (c + n) loEnd := by
  intro n
  induction n with
  | zero => exact fun h _ => ⟨_, rfl, h⟩
  | succ n ih =>
    intro w c ⟨hc, hm, lo, hI, hL⟩ hle
    obtain ⟨x, hx⟩ := ancestorAt_succ tip c (by omega)
    obtain ⟨e1, e2⟩ := hI.connect hW x
    rw [← hx] at e1 e2
    rw [ancestorAt_length tip c hc] at e2
    have h1 : Catching cfg (putOk cfg.W w (stampOf cfg.C (ancestorAt tip (c + 1)))) tip (c + 1) loEnd :=
      ⟨by omega, hm, _, e2, by rw [← hL, show tip.length - c = (tip.length - (c + 1)) + 1 by omega]; rfl⟩
    obtain ⟨w', f1, f2⟩ := ih h1 (by omega)
    refine ⟨w', ?_, by rwa [Nat.add_right_comm, Nat.add_assoc] at f2⟩
    rw [blocksFrom, List.foldlM_cons, e1]
    exact f1

theorem finish (hW : 1 ≤ cfg.W) (h : Catching cfg w tip c loEnd) :
    Inv cfg (handle cfg w (.rescanFinished tip tip.length)) tip loEnd := by
  have hc := Nat.add_sub_cancel' h.1
  obtain ⟨w', e, _, hm, lo, hI, hL⟩ := h.putFold hW (tip.length - c) (Nat.le_of_eq hc)
  have : catchUpHashes cfg tip w tip.length = .ok w' := by
    rw [catchUpHashes, h.height, catchUpFrom_eq cfg tip _ _ _ (by omega), e]
  show Inv cfg (setSynced (orKeep w (catchUpHashes cfg tip w tip.length)) true) tip loEnd
  rw [this]
  rw [hc, ancestorAt_self] at hI
  rw [hc, Nat.sub_self] at hL
  cases hL
  exact ((hI.setSynced true).stopped hm).inv rfl

theorem addTxs (h : Catching cfg w tip c loEnd) {b : BlockId} (hb : OnChain b tip) (ts : List Tx) :
    Catching cfg (ts.foldl (fun w t => addRelevantTx w t (some (stampOf cfg.C b))) w) tip c loEnd :=
  let ⟨hc, hm, lo, hI, hL⟩ := h
  let ⟨h1, h2⟩ := foldTxs_onChain cfg.C b hb ts w hm
  ⟨hc, h2, lo, hI.congr h1, hL⟩

theorem foldBlocks (f : Wallet → BlockId → Wallet)
    (hf : ∀ {w} b, OnChain b tip → Catching cfg w tip c loEnd → Catching cfg (f w b) tip c loEnd) :
    ∀ (n a : Nat) {w : Wallet}, (∀ k, k < n → a + k ≤ tip.length) → Catching cfg w tip c loEnd →
      Catching cfg ((blocksFrom tip a n).foldl f w) tip c loEnd := by
  intro n
  induction n with
  | zero => exact fun _ _ _ h => h
  | succ n ih =>
    intro a w ha h
    exact ih (a + 1) (fun k hk => by have := ha (k + 1) (Nat.succ_lt_succ hk); omega)
      (hf _ (onChain_ancestorAt tip a (ha 0 (Nat.succ_pos n))) h)

theorem rescanTxs (h : Catching cfg w tip c loEnd) (from_ : Nat) :
    Catching cfg (process cfg w (rescanTxNtfns cfg.C tip from_)) tip c loEnd := by
  have e : process cfg w (rescanTxNtfns cfg.C tip from_) =
      (blocksFrom tip (from_ + 1) (tip.length - from_)).foldl
        (fun w b => (cfg.C.txs b).foldl (fun w t => addRelevantTx w t (some (stampOf cfg.C b))) w) w := by
    simp only [rescanTxNtfns, process, List.foldl_flatten, List.foldl_map, handle]
  exact e ▸ h.foldBlocks _ (fun b hb h => h.addTxs hb _) _ _ (fun k hk => by omega)

theorem recovery (hW : 1 ≤ cfg.W) (batch : Nat) :
    ∀ (fuel : Nat) {w : Wallet} {c : Nat}, Catching cfg w tip c loEnd → tip.length < c + fuel →
      ∃ w' c', recoveryRun cfg batch tip fuel w = (w', true) ∧ Catching cfg w' tip c' loEnd := by
  intro fuel
  induction fuel with
  | zero => exact fun h hf => absurd h.1 (Nat.not_le_of_lt hf)
  | succ fuel ih =>
    intro w c h hf
    rw [recoveryRun, h.height]
    by_cases hgt : c + 1 > tip.length
    · exact ⟨w, c, if_pos hgt, h⟩
    · have hn1 : 1 ≤ min (max batch 1) (tip.length + 1 - (c + 1)) :=
        Nat.le_min.mpr ⟨Nat.le_max_right .., by omega⟩
      have hn2 : c + min (max batch 1) (tip.length + 1 - (c + 1)) ≤ tip.length := by
        have := Nat.min_le_right (max batch 1) (tip.length + 1 - (c + 1))
        omega
      generalize min (max batch 1) (tip.length + 1 - (c + 1)) = n at hn1 hn2
      -- one batch: record the transactions of its blocks, then `PutSyncedTo` each of them
      have h1 : Catching cfg (recTxs cfg w (blocksFrom tip (c + 1) n)) tip c loEnd :=
        h.foldBlocks _ (fun b hb h => by
          split
          · exact h.addTxs hb _
          · exact h) n (c + 1) (fun k hk => by omega)
      obtain ⟨w1, e1, h2⟩ := h1.putFold hW n hn2
      simp only [if_neg hgt, recoveryBatch_eq, e1]
      exact ih h2 (by omega)

end Catching

/-- What `C15_startup_total` (stopped wallet) and `C15_reconnect_total` (running wallet) both are.  The ghost lower end
    afterwards: `min lo c` (the loop only gets down to `c` when everything in `[c, old]` is remembered), pushed up by
    the pruning of the `tip.length - c` catch-up `PutSyncedTo`s. -/
theorem resync_total {cfg : Cfg} (hW : 1 ≤ cfg.W) {w : Wallet} {old : BlockId} {lo : Nat}
    (hS : StoppedInv cfg w old lo) (tip : BlockId) (recW batch : Nat) :
    ((∃ e, startupRollback cfg w tip = .error e) ∧ resync cfg recW batch w tip = (w, false)) ∨
    (∃ w1 c, resync cfg recW batch w tip = (w1, true) ∧ (∃ w0, startupRollback cfg w tip = .ok w0) ∧
      IsLastCommon old tip c ∧ old.length ≤ tip.length ∧
      Inv cfg (handle cfg w1 (.rescanFinished tip tip.length)) tip (startupLo cfg.W lo c tip.length)) := by
  rcases startupRollback_total hS tip with ⟨e, he, _⟩ | ⟨w1, c, he, hcm, hlen, hI, hm, _⟩
  · exact Or.inl ⟨⟨e, he⟩, by simp only [resync, he]⟩
  · have hC : Catching cfg w1 tip c (startupLo cfg.W lo c tip.length) :=
      ⟨hcm.2.1, hS.mined.rollback hcm.1 hcm.2.1 hcm.2.2.1 hm, _, hI, rfl⟩
    obtain ⟨w2, c2, e2, h2⟩ : ∃ w2 c2,
        (if recW > 0 then recoveryRun cfg batch tip (tip.length + 1) w1 else (w1, true)) = (w2, true) ∧
        Catching cfg w2 tip c2 (startupLo cfg.W lo c tip.length) := by
      split
      · exact hC.recovery hW batch _ (Nat.lt_add_left c (Nat.lt_succ_self _))
      · exact ⟨w1, c, rfl, hC⟩
    refine Or.inr ⟨_, c, ?_, ⟨w1, he⟩, hcm, hlen, (h2.rescanTxs w2.syncedTo.height).finish hW⟩
    simp only [resync, he, e2]
    rfl

/-- `startupDuring` is `resync` on the freshly opened (not yet chain-synced) wallet followed by the notifications of
    the window and `RescanFinished`. -/
theorem startupDuring_eq_resync (cfg : Cfg) (recW batch : Nat) (w : Wallet) (tip : BlockId) (during : List Ntfn) :
    let r := resync cfg recW batch { w with chainSynced := false } tip
    startupDuring cfg recW batch w tip during =
      (if r.2 then process cfg r.1 (during ++ [.rescanFinished tip tip.length]) else r.1, r.2) := by
  cases h : startupRollback cfg { w with chainSynced := false } tip with
  | error e => simp only [startupDuring, resync, h]; rfl
  | ok w1 =>
    by_cases hr : recW > 0
    · cases hrr : recoveryRun cfg batch tip (tip.length + 1) w1 with
      | mk r1 ok =>
        cases ok with
        | false => simp only [startupDuring, resync, h, if_pos hr, hrr]; rfl
        | true => simp [startupDuring, resync, h, if_pos hr, hrr, process_append]
    · simp [startupDuring, resync, h, if_neg hr, process_append]

end SyncTip
