import BtcwVerif.Lemmas.AddrInvWO
import BtcwVerif.Lemmas.AddrRename
import BtcwVerif.Lemmas.AddrInvAcct
import BtcwVerif.Lemmas.AddrInvStep
import BtcwVerif.Lemmas.AddrInvUnlock
import BtcwVerif.Lemmas.AddrStep
/-!
The per-operation lemmas put together (official tree).  `ChangePassphrase` and `AccountProperties` are `Ok` moves; `step_ok`
covers the 20 operations that neither create a wallet nor issue addresses (`Op.issues`); `step_next_outcome` /
`step_extend_outcome` bring the two issuing operations' outcomes through the dead-state guard;
`step_inv_nodups`: every step keeps `Inv` and `Nodups`.  The induction over histories is `runLog_inv` (Lemmas/AddrIdxRun.lean).
-/
set_option linter.unusedSectionVars false
namespace AddrDerive
open AddrSym

variable {K P : Type} [DecidableEq K] [DecidableEq P]

theorem opChangePass_ok {hd : HD K P} {s : State K P} (h : Inv hd s) (priv : Bool) (o n : Nat) :
    Ok hd s (opChangePass s priv o n).1 := by
  unfold opChangePass
  refine ite_fst (fun _ => ite_fst (fun _ => .refl h) fun _ => ite_fst (fun _ => .refl h) fun _ => ?_)
    fun _ => ite_fst (fun _ => .refl h) fun _ => ?_
  all_goals exact ⟨h.of_scopes rfl rfl rfl rfl rfl rfl rfl rfl rfl, .of_scopes rfl rfl⟩

theorem opProps_ok {hd : HD K P} {s : State K P} (h : Inv hd s) (sc : Scope) (a : Nat) : Ok hd s (opProps hd s sc a).1 := by
  unfold opProps
  split
  · exact .refl h
  · exact (loadAcct_spec h ‹_›).1

def Op.issues : Op K P → Bool
  | .create _ | .next .. | .extend .. => true
  | _ => false

/-- Not `Ok`, but its two halves with `Nodups` as a hypothesis of the second: only `Unlock` needs the scope list free of
    duplicates for its invariant (it runs over the list, `Inv` speaks through lookups). -/
theorem step_ok {hd : HD K P} (hlaw : hd.Lawful) (hn : hd.NoHardPub) {s : State K P} (h : Inv hd s)
    (op : Op K P) (hop : op.issues = false) :
    Keeps hd s (step Cfg.fixed hd s op).1 ∧ (Nodups s → Inv hd (step Cfg.fixed hd s op).1) := by
  have weak : ∀ {s' : State K P}, Ok hd s s' → Keeps hd s s' ∧ (Nodups s → Inv hd s') := fun x => ⟨x.keeps, fun _ => x.inv⟩
  unfold step
  split
  · cases hop
  · split
    · exact weak (.refl h)
    · split
      · exact weak (.refl h)
      · split
        any_goals cases hop
        · exact ⟨opUnlock_keeps hd s _, fun hnd => opUnlock_inv hlaw hn h hnd _⟩
        · exact weak (opLock_ok h)
        · exact weak (opChangePass_ok h ..)
        · exact weak (opNewScope_ok _ rfl h ..)
        · exact weak (opNewAccount_ok h ..)
        · exact weak (opNewAccountWO_ok h ..)
        · exact weak (opLookup_ok hlaw h ..)
        · exact weak (opMarkUsed_ok h ..)
        · exact weak (opDerive_ok hlaw h ..)
        · exact weak (opImportPriv_ok h ..)
        · exact weak (importKey_ok h ..)
        · exact weak (opImportScript_ok _ h ..)
        · rw [opPrivKey_state]; exact weak (.refl h)
        · rw [opScript_state]; exact weak (.refl h)
        · rw [opInfo_state]; exact weak (.refl h)
        · exact weak (opProps_ok h ..)
        · exact weak (opRestart_ok h)
        · exact weak (opConvertWO_ok _ h)
        · rw [opDeriveCache_state]; exact weak (.refl h)
        · exact weak (opRename_ok h ..)

theorem step_next_outcome {hd : HD K P} {s : State K P} (h : Inv hd s) (sc : Scope) (a n : Nat) (int : Bool) (hb : Nat) :
    IssueOutcome hd s sc a int (step Cfg.fixed hd s (.next sc a n int hb)) :=
  step_lift (s := s) (fun _ => Or.inl ⟨.refl h, rfl, nofun⟩) (opNext_outcome h sc a n int hb)

theorem step_extend_outcome {hd : HD K P} {s : State K P} (h : Inv hd s) (sc : Scope) (a l : Nat) (int : Bool) :
    IssueOutcome hd s sc a int (step Cfg.fixed hd s (.extend sc a l int)) :=
  step_lift (s := s) (fun _ => Or.inl ⟨.refl h, rfl, nofun⟩) (opExtend_outcome Cfg.fixed rfl h sc a l int)

theorem step_inv_nodups {hd : HD K P} (hlaw : hd.Lawful) (hn : hd.NoHardPub) {s : State K P} (h : Inv hd s) (hnd : Nodups s)
    (op : Op K P) : Inv hd (step Cfg.fixed hd s op).1 ∧ Nodups (step Cfg.fixed hd s op).1 := by
  cases hg : op.issues with
  | false => exact ⟨(step_ok hlaw hn h op hg).2 hnd, (step_ok hlaw hn h op hg).1.nodups hnd⟩
  | true =>
    cases op <;> first | cases hg | skip
    · exact ⟨(opCreate_spec hd _).1, (opCreate_spec hd _).2.1⟩
    · exact ((step_next_outcome h ..).good hlaw hn h).imp_right (· hnd)
    · exact ((step_extend_outcome h ..).good hlaw hn h).imp_right (· hnd)

theorem step_inv {hd : HD K P} (hlaw : hd.Lawful) (hn : hd.NoHardPub) {s : State K P} (h : Inv hd s) (hnd : Nodups s)
    (op : Op K P) : Inv hd (step Cfg.fixed hd s op).1 :=
  (step_inv_nodups hlaw hn h hnd op).1

end AddrDerive
