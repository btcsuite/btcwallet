import BtcwVerif.Lemmas.KMap
import BtcwVerif.Model.TxInv
/-! # The unconfirmed part of the store: `SameMined`, `UPath`, and the names of the conflict-removal loops

The operations on the unconfirmed buckets and the leases (`insertMemPoolTx`, unconfirmed `addCredit`, `removeConflict`,
`removeDoubleSpends`, `deleteUnminedTx`, `LockOutput`, `UnlockOutput`, the sweep: the events *seen*, *abandoned*, *lease*,
*release*, *sweep*) are paths of bbolt `Put`s and `Delete`s in the four buckets `m`, `mc`, `mi`, `lo`: `UPath s s'`, proved by
walking each operation once (`upath_*`).  What such an operation keeps is read off the path: the mined part
(`UPath.same : SameMined s s'`) and the unique keys of `mc` (`UPath.nuc`) — the two together carry `WF2` across
(`wf2_of_sameMined`, `UPath.wf2`, Lemmas/WF2.lean) — and the key order of every bucket (`UPath.sortedS`, Lemmas/SortedStore.lean).
The loops of `removeConflict` (`rcInner`, `rcOuter`) and of `removeDoubleSpends` / the end of `rollback` (`dsInner`, `dsOuter`)
get their names here; every later file speaks of them.  At the end `InputsNE`: no outpoint of the unmined-inputs bucket has an
empty list of spenders, kept by `putRawUnminedInput`. -/
namespace TxStore
open KMap

def SameMined (s s' : Store) : Prop :=
  s'.blocks = s.blocks ∧ s'.txrecs = s.txrecs ∧ s'.credits = s.credits ∧ s'.unspent = s.unspent ∧
    s'.minedBalance = s.minedBalance ∧ s'.debits = s.debits

theorem SameMined.refl (s : Store) : SameMined s s := ⟨rfl, rfl, rfl, rfl, rfl, rfl⟩

theorem inv_of_sameMined {s s' : Store} (h : SameMined s s') (hi : Inv s) : Inv s' := by
  obtain ⟨hb, ht, hc, hu, hm, _⟩ := h
  have e0 : ∀ k, creditInfo s' k = creditInfo s k := by intro k; unfold creditInfo; rw [hc, ht]
  have e1 : minedUnspent s' = minedUnspent s := by
    unfold minedUnspent minedCredits blockCredits txCredits
    simp only [hb, ht, e0]
  have e2 : unspentInfos s' = unspentInfos s := by
    unfold unspentInfos
    simp only [hu, e0]
  exact ⟨by rw [hm, e1]; exact hi.counter, by rw [e2]; exact hi.indexed, by rw [e1, e2]; exact hi.index,
    by rw [hb]; exact hi.sorted, by rw [hb, ht]; exact hi.recorded⟩

theorem foldlM_rel {α : Type} {R : Store → Store → Prop} (hrefl : ∀ s, R s s) (htrans : ∀ a b c, R a b → R b c → R a c)
    {f : Store → α → M Store} (hf : ∀ s a s', f s a = .ok s' → R s s') {l : List α} {s s' : Store}
    (h : l.foldlM f s = .ok s') : R s s' :=
  Ensures.foldlM (P := R s) (fun a x ha a' hx => htrans _ _ _ ha (hf a x a' hx)) l s (hrefl s) s' h

theorem foldl_rel {α : Type} {R : Store → Store → Prop} (hrefl : ∀ s, R s s) (htrans : ∀ a b c, R a b → R b c → R a c)
    {f : Store → α → Store} (hf : ∀ s a, R s (f s a)) (l : List α) (s : Store) : R s (l.foldl f s) :=
  loop_inv (R s) (fun a x ha => htrans _ _ _ ha (hf a x)) l (hrefl s)

/-- inner loop of `removeConflict`: one recorded spender of the output goes, through the recursive call `rc` -/
def rcInner (rc : Store → Tx → M Store) (s : Store) (h : Nat) : M Store :=
  match s.unmined.find? h with
  | none => pure s
  | some sp => rc s sp

/-- outer loop of `removeConflict`: the spenders of one output go, then its unconfirmed credit -/
def rcOuter (rc : Store → Tx → M Store) (rec : Tx) (s : Store) (io : Nat × Int) : M Store := do
  let s ← (spendHashes s ⟨rec.hash, io.1⟩).foldlM (rcInner rc) s
  pure { s with unminedCredits := s.unminedCredits.erase ⟨rec.hash, io.1⟩ }

theorem removeConflictBody_eq (rc : Store → Tx → M Store) (s : Store) (rec : Tx) :
    removeConflictBody rc s rec = (do
      let s ← (withIdx rec.outs).foldlM (rcOuter rc rec) s
      let s := rec.ins.foldl (fun s inp => deleteRawUnminedInput s inp rec.hash) s
      pure { s with unmined := s.unmined.erase rec.hash }) := by
  rfl

/-- a reflexive, transitive relation that holds across the three primitive writes of `removeConflict` holds across
`removeConflict` (any depth) -/
theorem removeConflict_rel (R : Store → Store → Prop) (hrefl : ∀ s, R s s)
    (htrans : ∀ a b c, R a b → R b c → R a c)
    (hUC : ∀ s k, R s { s with unminedCredits := s.unminedCredits.erase k })
    (hDI : ∀ s k h, R s (deleteRawUnminedInput s k h))
    (hUM : ∀ s h, R s { s with unmined := s.unmined.erase h }) :
    ∀ (n : Nat) (s : Store) (t : Tx) (s' : Store), removeConflict n s t = .ok s' → R s s' := by
  intro n
  induction n with
  | zero => intro s t s' h; cases h
  | succ n ih =>
    intro s rec s' h
    obtain ⟨s1, h1, h⟩ := bind_ok_iff.mp ((removeConflictBody_eq (removeConflict n) s rec).symm.trans h)
    cases h
    refine htrans _ _ _ (htrans _ _ _ (foldlM_rel hrefl htrans ?_ h1)
      (foldl_rel hrefl htrans (fun a p => hDI a p rec.hash) _ _)) (hUM _ _)
    intro a io a' hstep
    obtain ⟨a2, h2, hstep⟩ := bind_ok_iff.mp hstep
    cases hstep
    refine htrans _ _ _ (foldlM_rel hrefl htrans ?_ h2) (hUC a2 _)
    intro b hsh b' hst
    unfold rcInner at hst
    split at hst
    · cases hst; exact hrefl b
    · exact ih _ _ _ hst

/-- `s'` comes from `s` by writes (`some`: bbolt `Put`, `none`: `Delete`) in the buckets of the unconfirmed part -/
inductive UPath : Store → Store → Prop
  | refl (s : Store) : UPath s s
  | unmined {s a : Store} (k : Nat) (o : Option Tx) : UPath s a → UPath s { a with unmined := a.unmined.set k o }
  | uc {s a : Store} (k : OutPoint) (o : Option UCredit) : UPath s a →
      UPath s { a with unminedCredits := a.unminedCredits.set k o }
  | ui {s a : Store} (k : OutPoint) (o : Option (List Nat)) : UPath s a →
      UPath s { a with unminedInputs := a.unminedInputs.set k o }
  | locked {s a : Store} (k : OutPoint) (o : Option Lease) : UPath s a → UPath s { a with locked := a.locked.set k o }

namespace UPath

theorem trans {a b c : Store} (h1 : UPath a b) (h2 : UPath b c) : UPath a c := by
  induction h2 with
  | refl => exact h1
  | unmined k o _ ih => exact .unmined k o ih
  | uc k o _ ih => exact .uc k o ih
  | ui k o _ ih => exact .ui k o ih
  | locked k o _ ih => exact .locked k o ih

theorem same {s s' : Store} (h : UPath s s') : SameMined s s' := by
  induction h with
  | refl => exact .refl s
  | unmined k o _ ih => exact ih
  | uc k o _ ih => exact ih
  | ui k o _ ih => exact ih
  | locked k o _ ih => exact ih

/-- bucket `mc` keeps its keys unique (the one fact about the unconfirmed part that `WF` holds) -/
theorem nuc {s s' : Store} (h : UPath s s') (hn : NodupKeys s.unminedCredits) : NodupKeys s'.unminedCredits := by
  induction h with
  | refl => exact hn
  | unmined k o _ ih => exact ih
  | uc k o _ ih => exact nodupKeys_set _ k o ih
  | ui k o _ ih => exact ih
  | locked k o _ ih => exact ih

theorem foldl {α : Type} {f : Store → α → Store} (hf : ∀ s a, UPath s (f s a)) (l : List α) (s : Store) :
    UPath s (l.foldl f s) :=
  foldl_rel .refl (fun _ _ _ => .trans) hf l s

theorem foldlM {α : Type} {f : Store → α → M Store} (hf : ∀ s a s', f s a = .ok s' → UPath s s') {l : List α}
    {s s' : Store} (h : l.foldlM f s = .ok s') : UPath s s' :=
  foldlM_rel .refl (fun _ _ _ => .trans) hf h

end UPath

theorem upath_putRawUnminedInput (s : Store) (k : OutPoint) (h : Nat) : UPath s (putRawUnminedInput s k h) :=
  .ui k (some _) (.refl s)

theorem upath_deleteRawUnminedInput (s : Store) (k : OutPoint) (h : Nat) : UPath s (deleteRawUnminedInput s k h) := by
  unfold deleteRawUnminedInput
  split
  · exact .refl s
  · split
    · exact .refl s
    · dsimp only
      split
      · exact .ui k none (.refl s)
      · exact .ui k (some _) (.refl s)

theorem upath_unlockOutputRaw (s : Store) (op : OutPoint) : UPath s (unlockOutputRaw s op) := .locked op none (.refl s)

theorem foldl_unlock_eq : ∀ (l : List OutPoint) (a : Store),
    l.foldl unlockOutputRaw a = { a with locked := l.foldl KMap.erase a.locked } := by
  intro l
  induction l with
  | nil => intro a; rfl
  | cons x t ih => intro a; rw [List.foldl_cons, ih]; rfl

theorem lockOutput_result {s s' : Store} {now id : Nat} {op : OutPoint} {d e : Int}
    (h : lockOutput s now id op d = .ok (e, s')) :
    e = grantedExpiry now d ∧ s' = { s with locked := s.locked.insert op ⟨id, unixSeconds (grantedExpiry now d)⟩ } := by
  unfold lockOutput at h
  split at h
  · cases h
  · dsimp only at h
    split at h <;> split at h <;> cases h <;> exact ⟨rfl, rfl⟩

theorem upath_lockOutput {s s' : Store} {now id : Nat} {op : OutPoint} {d e : Int}
    (h : lockOutput s now id op d = .ok (e, s')) : UPath s s' := by
  rw [(lockOutput_result h).2]; exact .locked op (some _) (.refl s)

theorem upath_unlockOutput {s s' : Store} {now id : Nat} {op : OutPoint}
    (h : unlockOutput s now id op = .ok s') : UPath s s' := by
  unfold unlockOutput at h
  repeat' split at h
  all_goals cases h
  · exact .refl s
  · exact upath_unlockOutputRaw s op

theorem upath_sweep (s : Store) (now : Nat) : UPath s (deleteExpiredLockedOutputs s now) :=
  UPath.foldl (f := fun s (p : OutPoint × Lease) => unlockOutputRaw s p.1) (fun a p => upath_unlockOutputRaw a p.1) _ s

theorem upath_insertMemPoolTx {s s' : Store} {rec : Tx} (h : insertMemPoolTx s rec = .ok s') : UPath s s' := by
  unfold insertMemPoolTx at h
  split at h
  · cases h
  · split at h
    · cases h; exact .refl s
    · cases h
      exact (UPath.unmined rec.hash (some rec) (.refl s)).trans
        (UPath.foldl (fun a p => upath_putRawUnminedInput a p rec.hash) _ _)

theorem upath_addCredit_unmined {s s' : Store} {rec : Tx} {i : Nat} {chg : Bool}
    (h : addCredit s rec none i chg = .ok s') : UPath s s' := by
  unfold addCredit at h
  split at h
  · cases h
  · dsimp only at h
    repeat' split at h
    all_goals cases h
    · exact .refl s
    · exact .refl s
    · exact .uc _ (some _) (.refl s)

theorem upath_removeConflict (n : Nat) (s : Store) (t : Tx) (s' : Store) (h : removeConflict n s t = .ok s') :
    UPath s s' :=
  removeConflict_rel UPath .refl (fun _ _ _ => .trans) (fun s k => .uc k none (.refl s))
    upath_deleteRawUnminedInput (fun s h => .unmined h none (.refl s)) n s t s' h

/-- one unconfirmed spender of an outpoint goes, with its descendants, unless skipped or no longer recorded -/
def dsInner (skip : Nat → Bool) (s : Store) (h : Nat) : M Store :=
  if skip h then pure s else
  match s.unmined.find? h with
  | none => pure s
  | some ds => removeConflict (fuelOf s) s ds

/-- the unconfirmed spenders of one output are removed (`removeDoubleSpends`, and the end of `rollback`) -/
def dsOuter (skip : Nat → Bool) (s : Store) (op : OutPoint) : M Store :=
  (spendHashes s op).foldlM (dsInner skip) s

theorem removeDoubleSpends_eq (s : Store) (rec : Tx) :
    removeDoubleSpends s rec = rec.ins.foldlM (dsOuter (fun h => h == rec.hash)) s := by
  unfold removeDoubleSpends
  congr 1
  funext s inp
  unfold dsOuter
  congr 1
  funext s h
  unfold dsInner
  by_cases e : h = rec.hash
  · simp [e]
  · simp only [e, if_false, beq_iff_eq]
    cases s.unmined.find? h <;> rfl

theorem upath_dsOuter {skip : Nat → Bool} {s s' : Store} {op : OutPoint} (h : dsOuter skip s op = .ok s') :
    UPath s s' := by
  refine UPath.foldlM (fun b hh b' hst => ?_) h
  unfold dsInner at hst
  repeat' split at hst
  · cases hst; exact .refl b
  · cases hst; exact .refl b
  · exact upath_removeConflict _ _ _ _ hst

theorem upath_removeDoubleSpends {s s' : Store} {rec : Tx} (h : removeDoubleSpends s rec = .ok s') : UPath s s' :=
  UPath.foldlM (fun _ _ _ => upath_dsOuter) (removeDoubleSpends_eq s rec ▸ h)

theorem upath_deleteUnminedTx (s : Store) (rec : Tx) : UPath s (deleteUnminedTx s rec) :=
  .unmined rec.hash none ((UPath.foldl (fun a p => upath_deleteRawUnminedInput a p rec.hash) rec.ins s).trans
    (UPath.foldl (f := fun s (p : Nat × Int) => { s with unminedCredits := s.unminedCredits.erase ⟨rec.hash, p.1⟩ })
      (fun a p => .uc ⟨rec.hash, p.1⟩ none (.refl a)) (withIdx rec.outs) _))

theorem spendHashes_put (s : Store) (k : OutPoint) (h : Nat) (op : OutPoint) :
    spendHashes (putRawUnminedInput s k h) op = if k = op then spendHashes s op ++ [h] else spendHashes s op := by
  unfold spendHashes putRawUnminedInput
  simp only [find?_insert]
  by_cases e : k = op
  · subst e; simp
  · simp [e]

def InputsNE (s : Store) : Prop := ∀ op, s.unminedInputs.find? op ≠ some []

theorem inputsNE_put (s : Store) (k : OutPoint) (h : Nat) (hs : InputsNE s) : InputsNE (putRawUnminedInput s k h) := by
  intro op
  unfold putRawUnminedInput
  simp only [find?_insert]
  by_cases e : k = op
  · simp [e]
  · simp only [e, if_false]; exact hs op

end TxStore
