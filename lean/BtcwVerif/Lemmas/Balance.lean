import BtcwVerif.Lemmas.KMap
import BtcwVerif.Model.TxInv
/-! `Balance` (three passes over three different buckets) equals the C01 formula on the store's own records, for
every store satisfying the representation invariant `Inv`.  At the end, the sibling query read the same way: what
`fetchCredits` answers for one entry of the unspent index and of the unconfirmed credits (any store).
The file starts with the sums over lists that the passes need (`sum_filter`, `sum_flatMap`, `foldl_sub`, `foldlM_sub`,
`sum_filterMap_eq`); sums over a bucket under `Put`/`Delete` (`sum_insert`, `sum_erase`, `perm_sum`) are in Lemmas/KMap.lean. -/
namespace TxStore

theorem perm_map_sum {α : Type} {l₁ l₂ : List α} (f : α → Int) (h : l₁.Perm l₂) :
    (l₁.map f).sum = (l₂.map f).sum := perm_sum (h.map f)

theorem sum_filter {α : Type} (p : α → Bool) (f : α → Int) (l : List α) :
    ((l.filter p).map f).sum = (l.map fun a => if p a then f a else 0).sum := by
  induction l with
  | nil => rfl
  | cons a t ih => by_cases hp : p a = true <;> simp [hp, ih]

theorem sum_flatMap {α β : Type} (F : α → List β) (g : β → Int) (L : List α) :
    ((L.flatMap F).map g).sum = (L.map fun x => ((F x).map g).sum).sum := by
  induction L with
  | nil => rfl
  | cons a t ih => simp [List.flatMap_cons, ih]

theorem sum_zero_of_forall {α : Type} (f : α → Int) (l : List α) (h : ∀ a ∈ l, f a = 0) : (l.map f).sum = 0 := by
  induction l with
  | nil => rfl
  | cons a t ih =>
    simp only [List.map_cons, List.sum_cons]
    rw [h a List.mem_cons_self, ih (fun b hb => h b (List.mem_cons_of_mem _ hb))]; rfl

theorem sum_three {α : Type} (a g h t : α → Int) (hp : ∀ x, a x - g x - h x = t x) (l : List α) :
    (l.map a).sum - (l.map g).sum - (l.map h).sum = (l.map t).sum := by
  induction l with
  | nil => rfl
  | cons x r ih =>
    simp only [List.map_cons, List.sum_cons]
    have := hp x
    omega

theorem foldl_sub {α : Type} {f : Int → α → Int} {h : α → Int} (hf : ∀ b a, f b a = b - h a) (l : List α) (b : Int) :
    l.foldl f b = b - (l.map h).sum := by
  induction l generalizing b with
  | nil => simp
  | cons a t ih => rw [List.foldl_cons, ih, hf, List.map_cons, List.sum_cons]; omega

theorem foldlM_sub {α : Type} {f : Int → α → M Int} {h : α → Int} (l : List α)
    (hf : ∀ b, ∀ a ∈ l, f b a = .ok (b - h a)) (b : Int) : l.foldlM f b = .ok (b - (l.map h).sum) := by
  induction l generalizing b with
  | nil => simp
  | cons a t ih =>
    rw [List.foldlM_cons, hf b a List.mem_cons_self, bind_ok, ih (fun b x hx => hf b x (List.mem_cons_of_mem _ hx)),
      List.map_cons, List.sum_cons]
    congr 1; omega

theorem sum_filterMap_eq {α β : Type} (g : α → Int) (F : α → Option β) (a : β → Int) (m : List α)
    (h : ∀ p ∈ m, g p = ((F p).map a).getD 0) :
    (m.map g).sum = ((m.filterMap F).map a).sum := by
  induction m with
  | nil => rfl
  | cons p t ih =>
    have hp := h p List.mem_cons_self
    rw [List.map_cons, List.sum_cons, List.filterMap_cons, ih (fun q hq => h q (List.mem_cons_of_mem _ hq)), hp]
    cases F p <;> simp

/-- term of pass 1: a mined credit without mined spender is subtracted when it is leased or spent by an unconfirmed tx -/
def g1 (s : Store) (now : Nat) (c : CInfo) : Int :=
  if isLocked s c.key.outPoint now || spentByUnmined s c.key.outPoint then c.val.amount else 0

/-- term of pass 2: it is subtracted when it is neither, but too young -/
def g2 (s : Store) (now : Nat) (m sy mat : Int) (c : CInfo) : Int :=
  if !isLocked s c.key.outPoint now && !spentByUnmined s c.key.outPoint && tooYoung m sy mat c then c.val.amount else 0

/-- term of pass 3: an unconfirmed credit is added when it is neither leased nor spent -/
def g3 (s : Store) (now : Nat) (e : OutPoint × UCredit) : Int := if countsUnmined s now e then e.2.amount else 0

theorem creditInfo_some {s : Store} {k : CredKey} {c : CInfo} (h : creditInfo s k = some c) :
    s.credits.find? k = some c.val ∧ c.key = k ∧ ∃ rec, s.txrecs.find? k.txKey = some rec ∧ c.cb = rec.isCoinBase := by
  unfold creditInfo at h
  split at h
  · rename_i cv rec hc hr
    cases h
    exact ⟨hc, rfl, rec, hr, rfl⟩
  · cases h

theorem creditInfo_of_rec {s : Store} {tx : Nat} {blk : Block} {i : Nat} {rec : Tx}
    (hrec : s.txrecs.find? ⟨tx, blk⟩ = some rec) :
    creditInfo s ⟨tx, blk, i⟩ = (s.credits.find? ⟨tx, blk, i⟩).map fun cv => ⟨⟨tx, blk, i⟩, cv, rec.isCoinBase⟩ := by
  unfold creditInfo
  have : (⟨tx, blk, i⟩ : CredKey).txKey = ⟨tx, blk⟩ := rfl
  rw [this, hrec]
  cases s.credits.find? ⟨tx, blk, i⟩ <;> rfl

theorem balPass1_step (s : Store) (now : Nat) (bal : Int) (op : OutPoint) (blk : Block) (c : CInfo)
    (h : creditInfo s ⟨op.hash, blk, op.index⟩ = some c) :
    balPass1 s now bal (op, blk) = .ok (bal - g1 s now c) := by
  obtain ⟨hc, hk, _⟩ := creditInfo_some h
  have hop : c.key.outPoint = op := by rw [hk]; rfl
  unfold balPass1 g1
  rw [hop]
  by_cases hl : isLocked s op now = true
  · simp [hl, hc]
  · by_cases hs : spentByUnmined s op = true <;> simp [hl, hs, hc]

theorem pass1_fold (s : Store) (now : Nat) (l : List (OutPoint × Block)) (bal : Int)
    (hl : ∀ e ∈ l, (creditInfo s ⟨e.1.hash, e.2, e.1.index⟩).isSome) :
    l.foldlM (balPass1 s now) bal =
      .ok (bal - ((l.filterMap fun e => creditInfo s ⟨e.1.hash, e.2, e.1.index⟩).map (g1 s now)).sum) := by
  rw [← sum_filterMap_eq (fun e => ((creditInfo s ⟨e.1.hash, e.2, e.1.index⟩).map (g1 s now)).getD 0) _ _ l
    (fun _ _ => rfl)]
  refine foldlM_sub l (fun b e he => ?_) bal
  obtain ⟨c, hc⟩ := Option.isSome_iff_exists.mp (hl e he)
  rw [balPass1_step s now b e.1 e.2 c hc, hc]
  rfl

/-- term of pass 2 as the loop meets it: the loop walks every recorded credit of a block, spent or not, and skips the spent
ones itself; `g2` is summed over `minedUnspent`, `g2u` over `minedCredits` -/
def g2u (s : Store) (now : Nat) (m sy mat : Int) (c : CInfo) : Int := if !c.val.spent then g2 s now m sy mat c else 0

theorem pass2_exits (locked spentU spent young : Bool) (bal amt : Int) :
    (if locked then bal else if spentU then bal else if spent then bal else if young then bal - amt else bal) =
      bal - if !spent then if !locked && !spentU && young then amt else 0 else 0 := by
  cases locked <;> cases spentU <;> cases spent <;> cases young <;> simp

theorem balPass2Out_eq (s : Store) (now : Nat) (m sy mat : Int) (blk : Block) (rec : Tx) (tx : Nat)
    (hrec : s.txrecs.find? ⟨tx, blk⟩ = some rec) (bal : Int) (i : Nat) :
    balPass2Out s now m sy mat blk rec tx bal i =
      bal - ((creditInfo s ⟨tx, blk, i⟩).map (g2u s now m sy mat)).getD 0 := by
  rw [creditInfo_of_rec hrec]
  unfold balPass2Out
  cases s.credits.find? ⟨tx, blk, i⟩ with
  | none => show _ = bal - 0; simp only [ite_self, Int.sub_zero]
  | some cv => exact pass2_exits ..

theorem pass2_tx (s : Store) (now : Nat) (m sy mat : Int) (blk : Block) (bal : Int) (tx : Nat)
    (h : (s.txrecs.find? ⟨tx, blk⟩).isSome) :
    balPass2Tx s now m sy mat blk bal tx = .ok (bal - ((txCredits s blk tx).map (g2u s now m sy mat)).sum) := by
  obtain ⟨rec, hrec⟩ := Option.isSome_iff_exists.mp h
  unfold balPass2Tx txCredits
  simp only [hrec, pure_eq]
  rw [foldl_sub (balPass2Out_eq s now m sy mat blk rec tx hrec), sum_filterMap_eq _ _ _ _ (fun _ _ => rfl)]

/-- what pass 2 subtracts for one block -/
def S2 (s : Store) (now : Nat) (m sy mat : Int) (p : Nat × BlockRec) : Int :=
  ((blockCredits s p.1 p.2).map (g2u s now m sy mat)).sum

theorem pass2_blocks (s : Store) (now : Nat) (m sy mat : Int) (L : List (Nat × BlockRec)) (bal : Int)
    (hL : ∀ p ∈ L, ∀ tx ∈ p.2.txs, (s.txrecs.find? ⟨tx, ⟨p.1, p.2.hash⟩⟩).isSome) :
    L.foldlM (fun bal (p : Nat × BlockRec) =>
        p.2.txs.foldlM (balPass2Tx s now m sy mat ⟨p.1, p.2.hash⟩) bal) bal =
      .ok (bal - (L.map (S2 s now m sy mat)).sum) := by
  refine foldlM_sub L (fun b p hp => ?_) bal
  rw [foldlM_sub p.2.txs (fun b tx htx => pass2_tx s now m sy mat _ b tx (hL p hp tx htx)), S2, blockCredits, sum_flatMap]

theorem sum_window (L : List (Nat × BlockRec)) (f : Nat × BlockRec → Int) (last : Int)
    (hs : (L.map (·.1)).Pairwise (· < ·)) (hz : ∀ p ∈ L, (p.1 : Int) < last → f p = 0) :
    ((L.reverse.takeWhile fun p => !decide ((p.1 : Int) < last)).map f).sum = (L.map f).sum := by
  rw [top_window L last hs, List.map_reverse, List.sum_reverse, sum_filter]
  exact congrArg List.sum (List.map_congr_left fun p hp => by
    by_cases hl : (p.1 : Int) < last <;> simp [hl, hz p hp])

theorem balPass3_eq (s : Store) (now : Nat) (bal : Int) (e : OutPoint × UCredit) :
    balPass3 s now bal e = bal + g3 s now e := by
  have exits : ∀ (locked spentU : Bool) (a : Int),
      (if locked then bal else if spentU then bal else bal + a) = bal + if !locked && !spentU then a else 0 := by
    intro locked spentU a; cases locked <;> cases spentU <;> simp
  obtain ⟨op, uc⟩ := e
  exact exits ..

theorem pass3_fold (s : Store) (now : Nat) : ∀ (l : List (OutPoint × UCredit)) (bal : Int),
    l.foldl (balPass3 s now) bal = bal + (l.map (g3 s now)).sum := by
  intro l
  induction l with
  | nil => intro bal; simp
  | cons e t ih =>
    intro bal
    rw [List.foldl_cons, ih, balPass3_eq, List.map_cons, List.sum_cons]
    omega

theorem balance_eq (s : Store) (now : Nat) (mat m sy : Int) :
    balance s now mat m sy =
      (s.unspent.foldlM (balPass1 s now) s.minedBalance >>= fun bal =>
        ((s.blocks.reverse.takeWhile fun p => !decide ((p.1 : Int) < sy - (if mat > m then mat else m))).foldlM
          (fun bal (p : Nat × BlockRec) => p.2.txs.foldlM (balPass2Tx s now m sy mat ⟨p.1, p.2.hash⟩) bal) bal) >>= fun bal =>
        if m == 0 then pure (s.unminedCredits.foldl (balPass3 s now) bal) else pure bal) := by
  rfl

theorem blockCredits_height {s : Store} {h : Nat} {br : BlockRec} {c : CInfo} (hc : c ∈ blockCredits s h br) :
    c.key.block.height = h := by
  unfold blockCredits at hc
  rw [List.mem_flatMap] at hc
  obtain ⟨tx, _, hc⟩ := hc
  unfold txCredits at hc
  split at hc
  · cases hc
  · rw [List.mem_filterMap] at hc
    obtain ⟨i, _, hi⟩ := hc
    obtain ⟨_, hk, _⟩ := creditInfo_some hi
    rw [hk]

theorem g2_zero_below (s : Store) (now : Nat) (mat m sy : Int) (c : CInfo)
    (h : (c.key.block.height : Int) < sy - (if mat > m then mat else m)) : g2 s now m sy mat c = 0 := by
  unfold g2 tooYoung
  have h1 : ¬ (sy - (c.key.block.height : Int) + 1 < m) := by split at h <;> omega
  have h2 : ¬ (sy - (c.key.block.height : Int) + 1 < mat) := by split at h <;> omega
  simp [h1, h2]

theorem counts_split (locked spentU young : Bool) (a : Int) :
    a - (if locked || spentU then a else 0) - (if !locked && !spentU && young then a else 0) =
      if !locked && !spentU && !young then a else 0 := by
  cases locked <;> cases spentU <;> cases young <;> simp

/-- **Balance = the C01 sentence on the store's own records**, for every store satisfying `Inv`, every instant,
every coinbase maturity, every `minConf` and every `syncHeight` (negative and below-tip values included). -/
theorem balance_eq_storeTruth (s : Store) (hinv : Inv s) (now : Nat) (mat m sy : Int) :
    balance s now mat m sy = .ok (storeTruth s now mat m sy) := by
  have hidx : ∀ e ∈ s.unspent, (creditInfo s ⟨e.1.hash, e.2, e.1.index⟩).isSome :=
    fun e he => hinv.indexed _ (List.mem_map.mpr ⟨e, he, rfl⟩)
  have hA : ((s.unspent.filterMap fun e => creditInfo s ⟨e.1.hash, e.2, e.1.index⟩).map (g1 s now)).sum =
      ((minedUnspent s).map (g1 s now)).sum := by
    rw [← perm_map_sum (g1 s now) hinv.index, unspentInfos, List.filterMap_map]
    rfl
  have hrec : ∀ p ∈ (s.blocks.reverse.takeWhile fun p => !decide ((p.1 : Int) < sy - (if mat > m then mat else m))),
      ∀ tx ∈ p.2.txs, (s.txrecs.find? ⟨tx, ⟨p.1, p.2.hash⟩⟩).isSome :=
    fun p hp => hinv.recorded p (List.mem_reverse.mp ((List.takeWhile_sublist _).subset hp))
  have hB : ((s.blocks.reverse.takeWhile fun p => !decide ((p.1 : Int) < sy - (if mat > m then mat else m))).map
      (S2 s now m sy mat)).sum = ((minedUnspent s).map (g2 s now m sy mat)).sum := by
    rw [sum_window s.blocks (S2 s now m sy mat) _ hinv.sorted]
    · unfold minedUnspent minedCredits
      rw [sum_filter, sum_flatMap]
      rfl
    · intro p _ hlt
      refine sum_zero_of_forall _ _ fun c hc => ?_
      unfold g2u
      rw [g2_zero_below s now mat m sy c (blockCredits_height hc ▸ hlt)]
      split <;> rfl
  have h3 := sum_three (fun c : CInfo => c.val.amount) (g1 s now) (g2 s now m sy mat)
    (fun c => if countsMined s now m sy mat c then c.val.amount else 0) (fun c => counts_split ..) (minedUnspent s)
  rw [balance_eq, pass1_fold s now s.unspent s.minedBalance hidx, bind_ok, pass2_blocks s now m sy mat _ _ hrec, bind_ok,
    hA, hB, hinv.counter]
  unfold storeTruth sumAmounts
  split
  · rw [pure_eq, pass3_fold]
    exact congrArg Except.ok (show _ = _ + (s.unminedCredits.map (g3 s now)).sum by omega)
  · exact congrArg Except.ok (by omega)

/-- **what `fetchCredits` answers for one entry of the unspent index**: nothing when the output is leased or spent by
an unconfirmed transaction (unless such outputs are asked for); otherwise the output of its transaction record, which
must exist — with the time of its block when the details are asked for -/
theorem fetchMinedCredit_eq_ok {s : Store} {now : Nat} {il isp full : Bool} {op : OutPoint} {blk : Block}
    {o : Option Credit} :
    fetchMinedCredit s now il isp full (op, blk) = .ok o ↔
      if (!il && isLocked s op now) = true ∨ (!isp && spentByUnmined s op) = true then o = none else
      ∃ rec v, s.txrecs.find? ⟨op.hash, blk⟩ = some rec ∧ rec.outs[op.index]? = some v ∧
        if full = true then ∃ br, s.blocks.find? blk.height = some br ∧
          o = some ⟨op, some ⟨blk, br.time⟩, v, rec.isCoinBase⟩
        else o = some ⟨op, none, 0, false⟩ := by
  unfold fetchMinedCredit
  by_cases h1 : (!il && isLocked s op now) = true
  · simp [h1]; exact eq_comm
  · by_cases h2 : (!isp && spentByUnmined s op) = true
    · simp [h1, h2]; exact eq_comm
    · cases hr : s.txrecs.find? ⟨op.hash, blk⟩ with
      | none => simp [h1, h2, hr]
      | some rec =>
        cases hv : rec.outs[op.index]? with
        | none => simp [h1, h2, hr, hv]
        | some v =>
          cases full
          · simp [h1, h2, hr, hv]; exact eq_comm
          · cases hb : s.blocks.find? blk.height with
            | none => simp [h1, h2, hr, hv, hb]
            | some br => simp [h1, h2, hr, hv, hb]; exact eq_comm

/-- **… and for one entry of the unconfirmed credits**: a credit whose unconfirmed record is missing is skipped -/
theorem fetchUnminedCredit_eq_ok {s : Store} {now : Nat} {il isp full : Bool} {op : OutPoint}
    {uc : UCredit} {o : Option Credit} :
    fetchUnminedCredit s now il isp full (op, uc) = .ok o ↔
      if (!il && isLocked s op now) = true ∨ (!isp && spentByUnmined s op) = true then o = none else
      match s.unmined.find? op.hash with
      | none => o = none
      | some rec => ∃ v, rec.outs[op.index]? = some v ∧
          o = some (if full then ⟨op, none, v, rec.isCoinBase⟩ else ⟨op, none, 0, false⟩) := by
  unfold fetchUnminedCredit
  by_cases h1 : (!il && isLocked s op now) = true
  · simp [h1]; exact eq_comm
  · by_cases h2 : (!isp && spentByUnmined s op) = true
    · simp [h1, h2]; exact eq_comm
    · cases hr : s.unmined.find? op.hash with
      | none => simp [h1, h2, hr]; exact eq_comm
      | some rec =>
        cases hv : rec.outs[op.index]? with
        | none => simp [h1, h2, hr, hv]
        | some v => cases full <;> simp [h1, h2, hr, hv] <;> exact eq_comm

/-- **what `UnspentOutputs` reports, entry by entry** (any store): an entry of the answer comes from the unspent index
or from the unconfirmed credits, through `fetchMinedCredit_eq_ok` / `fetchUnminedCredit_eq_ok` at the flags of
`unspentOutputs`, so its output is neither leased nor spent by an unconfirmed transaction -/
theorem mem_unspentOutputs {s : Store} {now : Nat} {l : List Credit} (h : unspentOutputs s now = .ok l)
    {c : Credit} (hc : c ∈ l) :
    isLocked s c.op now = false ∧ spentByUnmined s c.op = false ∧
    ((∃ blk rec br v, (c.op, blk) ∈ s.unspent ∧ s.txrecs.find? ⟨c.op.hash, blk⟩ = some rec ∧
        s.blocks.find? blk.height = some br ∧ rec.outs[c.op.index]? = some v ∧
        c = ⟨c.op, some ⟨blk, br.time⟩, v, rec.isCoinBase⟩) ∨
     (∃ uc, (c.op, uc) ∈ s.unminedCredits ∧ c.block = none)) := by
  unfold unspentOutputs fetchCredits at h
  obtain ⟨a, ha, h⟩ := bind_ok_iff.mp h
  obtain ⟨b, hb, h⟩ := bind_ok_iff.mp h
  cases h
  rw [List.mem_append, List.mem_filterMap, List.mem_filterMap] at hc
  rcases hc with ⟨o, ho, hoc⟩ | ⟨o, ho, hoc⟩
  · cases hoc
    obtain ⟨⟨op, blk⟩, hmem, hf⟩ := mem_mapM_ok ha ho
    have := fetchMinedCredit_eq_ok.mp hf
    split at this
    · cases this
    · rename_i hn
      obtain ⟨rec, v, hrec, hv, br, hbr, e⟩ := this
      cases e
      obtain ⟨h1, h2⟩ : isLocked s op now = false ∧ spentByUnmined s op = false := by simpa using hn
      exact ⟨h1, h2, Or.inl ⟨blk, rec, br, v, hmem, hrec, hbr, hv, rfl⟩⟩
  · cases hoc
    obtain ⟨⟨op, uc⟩, hmem, hf⟩ := mem_mapM_ok hb ho
    have := fetchUnminedCredit_eq_ok.mp hf
    split at this
    · cases this
    · rename_i hn
      split at this
      · cases this
      · obtain ⟨v, _, e⟩ := this
        cases e
        obtain ⟨h1, h2⟩ : isLocked s op now = false ∧ spentByUnmined s op = false := by simpa using hn
        exact ⟨h1, h2, Or.inr ⟨uc, hmem, rfl⟩⟩

end TxStore
