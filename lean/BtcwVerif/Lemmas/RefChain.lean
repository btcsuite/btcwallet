import BtcwVerif.Lemmas.RefRemove
import BtcwVerif.Lemmas.RefSeen
/-!
# Refinement, event *confirmed*: the ledger with `t` in the chain (`chainInsert`, `toChain`, reading `consistent`) and the block bucket after `Put` (`blocks_insert_chain`)
-/
namespace TxStore
open KMap Ledger

theorem eraseDups_length_aux : ∀ (n : Nat) (l : List OutPoint), l.length ≤ n →
    l.eraseDups.length ≤ l.length ∧ (l.eraseDups.length = l.length → l.Nodup) := by
  intro n
  induction n with
  | zero =>
    intro l hl
    have : l = [] := List.eq_nil_of_length_eq_zero (by omega)
    subst this
    exact ⟨by simp, fun _ => List.nodup_nil⟩
  | succ n ih =>
    intro l hl
    cases l with
    | nil => exact ⟨by simp, fun _ => List.nodup_nil⟩
    | cons a t =>
      rw [List.eraseDups_cons]
      have hfl : (t.filter fun b => !b == a).length ≤ t.length := List.length_filter_le _ _
      have hl' : t.length ≤ n := by simpa using hl
      obtain ⟨h1, h2⟩ := ih (t.filter fun b => !b == a) (by omega)
      refine ⟨by simp only [List.length_cons]; omega, ?_⟩
      intro he
      simp only [List.length_cons] at he
      have hfeq : (t.filter fun b => !b == a).length = t.length := by omega
      have hf : t.filter (fun b => !b == a) = t := List.filter_eq_self.mpr (by
        rw [← List.length_filter_eq_length_iff]; exact hfeq)
      rw [List.nodup_cons]
      constructor
      · intro hmem
        have := List.filter_eq_self.mp hf a hmem
        simp at this
      · rw [hf] at h2
        exact h2 (by rw [hf] at he; omega)

theorem nodup_of_eraseDups_length {l : List OutPoint} (h : l.eraseDups.length = l.length) : l.Nodup :=
  (eraseDups_length_aux l.length l (Nat.le_refl _)).2 h

def chainTxsOf (c : List LBlock) : List (Tx × BlockMeta) := c.flatMap fun b => b.txs.map fun t => (t, b.bm)

theorem chainTxs_eq (L : Ledger) : chainTxs L = chainTxsOf L.chain := rfl

def SameHeightSame (c : List LBlock) (bm : BlockMeta) : Prop :=
  ∀ b ∈ c, b.bm.block.height = bm.block.height → b.bm = bm

theorem chainInsert_perm (bm : BlockMeta) (t : Tx) : ∀ (c : List LBlock), SameHeightSame c bm →
    (chainTxsOf (chainInsert c bm t)).Perm (chainTxsOf c ++ [(t, bm)]) := by
  intro c
  induction c with
  | nil => intro _; simp [chainInsert, chainTxsOf]
  | cons b rest ih =>
    intro hs
    unfold chainInsert
    by_cases e1 : b.bm.block.height = bm.block.height
    · simp only [e1, if_true]
      have hb : b.bm = bm := hs b List.mem_cons_self e1
      simp only [chainTxsOf, List.flatMap_cons, List.map_append, List.map_cons, List.map_nil, List.append_assoc, hb]
      apply List.Perm.append_left
      exact (List.perm_append_comm (l₁ := [(t, bm)])).trans (by simp)
    · simp only [e1, if_false]
      by_cases e2 : bm.block.height < b.bm.block.height
      · simp only [e2, if_true]
        simp only [chainTxsOf, List.flatMap_cons, List.map_cons, List.map_nil]
        exact (List.perm_append_comm (l₁ := [(t, bm)]))
      · simp only [e2, if_false]
        have ih' := ih (fun b' hb' => hs b' (List.mem_cons_of_mem _ hb'))
        simp only [chainTxsOf, List.flatMap_cons, List.append_assoc] at ih' ⊢
        exact List.Perm.append_left _ ih'

theorem blocks_insert_chain (bm : BlockMeta) (t : Tx) : ∀ (c : List LBlock),
    (c.map (·.bm.block.height)).Pairwise (· < ·) →
    KMap.insert (c.map blockEntry) bm.block.height (newBlockRec { blocks := c.map blockEntry } t bm) =
      (chainInsert c bm t).map blockEntry := by
  intro c
  induction c with
  | nil => intro _; rfl
  | cons b rest ih =>
    intro hp
    rw [List.map_cons, List.pairwise_cons] at hp
    have hrest : ∀ p ∈ rest.map blockEntry, (blockEntry b).1 < p.1 := by
      intro p hp'
      obtain ⟨lb, hlb, rfl⟩ := List.mem_map.mp hp'
      exact hp.1 _ (List.mem_map.mpr ⟨lb, hlb, rfl⟩)
    have hrec : newBlockRec { blocks := blockEntry b :: rest.map blockEntry } t bm =
        if b.bm.block.height = bm.block.height then { (blockEntry b).2 with txs := (blockEntry b).2.txs ++ [t.hash] }
        else newBlockRec { blocks := rest.map blockEntry } t bm := by
      unfold newBlockRec
      dsimp only
      rw [KMap.find?_cons]
      by_cases e : b.bm.block.height = bm.block.height
      · rw [if_pos e, if_pos (show (blockEntry b).1 = _ from e)]
      · rw [if_neg e, if_neg (show ¬ (blockEntry b).1 = _ from e)]
    rw [List.map_cons, insert_cons_nat _ _ _ _ _ hrest, chainInsert, hrec]
    show (if b.bm.block.height = bm.block.height then _ else _) = _
    by_cases e1 : b.bm.block.height = bm.block.height
    · simp [e1, blockEntry]
    · have h1 : (blockEntry b).1 = b.bm.block.height := rfl
      simp only [e1, if_false, h1]
      by_cases e2 : bm.block.height < b.bm.block.height
      · have hnone : KMap.find? (rest.map blockEntry) bm.block.height = none :=
          Option.eq_none_iff_forall_ne_some.mpr fun v hv => by have := hrest _ (mem_of_find? _ hv); omega
        simp [e2, newBlockRec, hnone, blockEntry]
      · simp only [e2, if_false, List.map_cons, ih hp.2]; rfl

/-- the heights stay ascending: they are the keys of the block bucket -/
theorem chainInsert_heights (bm : BlockMeta) (t : Tx) (c : List LBlock)
    (h : (c.map (·.bm.block.height)).Pairwise (· < ·)) :
    ((chainInsert c bm t).map (·.bm.block.height)).Pairwise (· < ·) := by
  have e : ∀ c : List LBlock, c.map (·.bm.block.height) = (c.map blockEntry).map (·.1) :=
    fun c => by rw [List.map_map]; rfl
  rw [e, ← blocks_insert_chain bm t c h]
  exact sorted_insert_nat _ _ _ (e c ▸ h)

/-- `consistent`, `extra` and `bound` of a *confirmed* event for a transaction not yet in the chain, as propositions
(`confFacts_of` says which Boolean clause gives which field); `freshNoChild` and `refs` hold only of a transaction not yet known -/
structure ConfFacts (L : Ledger) (bm : BlockMeta) (t : Tx) (cr : List (Nat × Bool)) : Prop where
  notMined : ∀ p ∈ chainTxs L, p.1.hash ≠ t.hash
  sameTx : ∀ u ∈ L.pool, u.hash = t.hash → u = t
  crValid : ∀ c ∈ cr, c.1 < t.outs.length
  sameHeight : SameHeightSame L.chain bm
  noDouble : ∀ p ∈ chainTxs L, ∀ i ∈ p.1.ins, i ∉ t.ins
  insNodup : t.ins.Nodup
  parentsNotPool : ∀ i ∈ t.ins, ∀ u ∈ L.pool, u.hash ≠ i.hash
  parentsBelow : ∀ p ∈ chainTxs L, ∀ i ∈ t.ins, i.hash = p.1.hash → p.2.block.height ≤ bm.block.height
  cbNotPool : t.isCoinBase = true → ∀ u ∈ L.pool, u.hash ≠ t.hash
  freshNoChild : (∀ p ∈ known L, p.1.hash ≠ t.hash) → ∀ p ∈ known L, ∀ i ∈ p.1.ins, i.hash ≠ t.hash
  childrenAbove : ∀ p ∈ chainTxs L, ∀ i ∈ p.1.ins, i.hash = t.hash → bm.block.height ≤ p.2.block.height
  refs : (∀ p ∈ known L, p.1.hash ≠ t.hash) →
    ∀ i ∈ t.ins, ∀ q ∈ known L, q.1.hash = i.hash → i.index < q.1.outs.length
  bound : t.outs.length ≤ nullIndex
  noSelf : ∀ i ∈ t.ins, i.hash ≠ t.hash

section
variable {L : Ledger} {bm : BlockMeta} {t : Tx} {cr : List (Nat × Bool)}

theorem confirmed_same (hc : consistent L (.confirmed bm t cr) = true) :
    (∀ p ∈ known L, p.1.hash = t.hash → p.1 = t) ∧ ∀ p ∈ chainTxs L, p.1.hash = t.hash → p.2 = bm := by
  simp only [consistent, Bool.and_eq_true, List.all_eq_true, Bool.or_eq_true, bne_iff_ne, ne_eq, beq_iff_eq,
    ← Decidable.imp_iff_not_or] at hc
  exact ⟨hc.1.1.1.1.1.1.1.1.1.1, hc.1.1.1.1.1.1.1.2⟩

theorem confFacts_of
    (hc : Consistent L (.confirmed bm t cr)) (hn : inChain L t.hash = false) : ConfFacts L bm t cr := by
  have h1 := hc.cons
  have h2 := hc.extra
  obtain ⟨hb, hs⟩ := hc.bound t rfl
  simp only [consistent, List.contains_eq_mem, Bool.not_not, Bool.and_eq_true, List.all_eq_true,
    Bool.or_eq_true, bne_iff_ne, ne_eq, beq_iff_eq, ← Decidable.imp_iff_not_or, Prod.forall, decide_eq_true_eq,
    Bool.forall_bool, Bool.not_eq_eq_eq_not, Bool.not_true, List.any_eq_false] at h1
  simp only [Ledger.extra, Bool.or_eq_true] at h2
  obtain ⟨⟨⟨⟨⟨⟨⟨⟨⟨⟨c1, c2⟩, c3⟩, _⟩, c5⟩, c6⟩, c7⟩, c8⟩, c9⟩, c10⟩, c11⟩ := h1
  have hnm := inChain_false_iff.mp hn
  have hknown : (∀ p ∈ known L, p.1.hash ≠ t.hash) → ¬ isKnown L t.hash = true :=
    fun hf h => let ⟨q, hq, e⟩ := isKnown_iff.mp h; hf q hq e
  exact {
    notMined := hnm
    sameTx := fun u hu => c1 u none (known_of_pool hu)
    crValid := fun ⟨a, b⟩ hcr => match b, hcr with | false, h => (c2 a).1 h | true, h => (c2 a).2 h
    sameHeight := c3
    noDouble := fun p hp => (c5 p.1 p.2 hp).resolve_left (hnm p hp)
    insNodup := nodup_of_eraseDups_length c6
    parentsNotPool := fun i hi => inPool_false_iff.mp (c7 i hi)
    parentsBelow := fun p hp i hi e => (c8 p.1 p.2 hp).resolve_left fun h => h i hi e
    cbNotPool := fun hcb => inPool_false_iff.mp (c9.resolve_left fun h => nomatch hcb.symm.trans h)
    freshNoChild := fun hf p hp => (c10.resolve_left (hknown hf)) p.1 p.2 hp
    childrenAbove := fun p hp i hi e => (c11 p.1 p.2 hp).resolve_left fun h => h i hi e
    refs := fun hf => validRefs_iff.mp (h2.resolve_left (hknown hf))
    bound := hb
    noSelf := hs }

namespace ConfFacts
variable (hf : ConfFacts L bm t cr)
include hf

/-- a known transaction with the hash of `t` is `t` itself, unconfirmed -/
theorem known_eq {q : Tx × Option BlockMeta} (hq : q ∈ known L) (e : q.1.hash = t.hash) :
    q = (t, none) ∧ t ∈ L.pool := by
  obtain ⟨x, ob⟩ := q
  rcases mem_known.mp hq with ⟨b, rfl, hm⟩ | ⟨rfl, hm⟩
  · exact absurd e (hf.notMined _ hm)
  · cases hf.sameTx x hm e; exact ⟨rfl, hm⟩

theorem no_txrec {k : TxKey} {v : Tx} (h : (k, v) ∈ expTxrecs L) : k.hash ≠ t.hash := by
  obtain ⟨b, hm, rfl⟩ := mem_expTxrecs.mp h
  exact hf.notMined _ hm

/-- an unconfirmed credit under the hash of `t` is a credit of `t` -/
theorem ucredit_own {op : OutPoint} {uc : UCredit} (h : (op, uc) ∈ expUnminedCredits L) (e : op.hash = t.hash) :
    t ∈ L.pool ∧ t.outs[op.index]? = some uc.amount ∧ lookup L.credit op = some uc.change := by
  obtain ⟨u, hu, h1, h2, h3⟩ := mem_expUnminedCredits.mp h
  cases hf.sameTx u hu (h1.symm.trans e)
  exact ⟨hu, h2, h3⟩

end ConfFacts

def toChain (L : Ledger) (bm : BlockMeta) (t : Tx) : Ledger :=
  { L with chain := chainInsert L.chain bm t, pool := L.pool.filter (fun u => u.hash != t.hash) }

theorem mem_chainTxs_toChain (hs : SameHeightSame L.chain bm)
    (p : Tx × BlockMeta) : p ∈ chainTxs (toChain L bm t) ↔ p ∈ chainTxs L ∨ p = (t, bm) :=
  (chainInsert_perm bm t L.chain hs).mem_iff.trans (by simp [chainTxs_eq])

theorem mem_pool_toChain {u : Tx} :
    u ∈ (toChain L bm t).pool ↔ u ∈ L.pool ∧ u.hash ≠ t.hash := by
  simp [toChain]

theorem known_toChain_perm (hs : SameHeightSame L.chain bm) :
    (known (toChain L bm t)).Perm
      ((t, some bm) :: (known L).filter fun p => p.2.isSome || p.1.hash != t.hash) := by
  have h1 : ((chainTxs L).map fun p => (p.1, some p.2)).filter (fun p => p.2.isSome || p.1.hash != t.hash) =
      (chainTxs L).map fun p => (p.1, some p.2) :=
    List.filter_eq_self.mpr fun p hp => by obtain ⟨q, _, rfl⟩ := List.mem_map.mp hp; rfl
  unfold known
  rw [List.filter_append, h1, List.filter_map]
  refine ((chainInsert_perm bm t L.chain hs).map _).append_right _ |>.trans ?_
  rw [List.map_append, List.append_assoc]
  exact List.perm_middle

theorem mem_known_toChain (hs : SameHeightSame L.chain bm)
    (p : Tx × Option BlockMeta) :
    p ∈ known (toChain L bm t) ↔ (p ∈ known L ∧ ¬(p.2 = none ∧ p.1.hash = t.hash)) ∨ p = (t, some bm) := by
  rw [(known_toChain_perm hs).mem_iff, List.mem_cons, List.mem_filter, or_comm]
  cases p.2 <;> simp

theorem lwf_toChain (hl : LWF L) {bm : BlockMeta} {t : Tx} {cr : List (Nat × Bool)}
    (hf : ConfFacts L bm t cr) : LWF (toChain L bm t) := by
  have hs := hf.sameHeight
  have hold : ∀ p ∈ known (toChain L bm t), p ∈ known L ∨ p = (t, some bm) :=
    fun p hp => ((mem_known_toChain hs p).mp hp).imp_left And.left
  -- the clauses about the known transactions: `t` was unconfirmed (the same transactions are known), or it is new
  have htxs : (∃ rk : Nat → Nat, RankOK rk (toChain L bm t)) ∧
      (∀ p ∈ known (toChain L bm t), ∀ i ∈ p.1.ins, ∀ q ∈ known (toChain L bm t), q.1.hash = i.hash →
        i.index < q.1.outs.length) ∧ (∀ p ∈ known (toChain L bm t), p.1.outs.length ≤ nullIndex) := by
    by_cases hknown : ∃ q ∈ known L, q.1.hash = t.hash
    · obtain ⟨q, hq0, e0⟩ := hknown
      obtain ⟨rfl, _⟩ := hf.known_eq hq0 e0
      have hback : ∀ p ∈ known (toChain L bm t), ∃ p' ∈ known L, p'.1 = p.1 := fun p hp =>
        (hold p hp).elim (fun h => ⟨p, h, rfl⟩) fun h => ⟨_, hq0, by rw [h]⟩
      obtain ⟨rk, hrk⟩ := hl.rank
      refine ⟨⟨rk, fun p hp i hi q hq e => ?_⟩, fun p hp i hi q hq e => ?_, fun p hp => ?_⟩ <;>
        obtain ⟨p', hp', ep⟩ := hback p hp
      · obtain ⟨q', hq', eq⟩ := hback q hq
        exact ep ▸ hrk p' hp' i (ep ▸ hi) q' hq' (eq ▸ e)
      · obtain ⟨q', hq', eq⟩ := hback q hq
        exact eq ▸ hl.validRefs p' hp' i (ep ▸ hi) q' hq' (eq ▸ e)
      · exact ep ▸ hl.outsBound p' hp'
    · have hfresh : ∀ p ∈ known L, p.1.hash ≠ t.hash := fun p hp e => hknown ⟨p, hp, e⟩
      exact hl.extend hfresh (hf.freshNoChild hfresh) (hf.refs hfresh) hf.bound hf.noSelf
        fun p hp => (hold p hp).imp_right fun e => by rw [e]
  refine { hl with heights := chainInsert_heights bm t L.chain hl.heights, hashes := ?_, creditKnown := ?_,
                   poolNoCb := fun u hu => hl.poolNoCb u (mem_pool_toChain.mp hu).1, noDouble := ?_, parents := ?_,
                   rank := htxs.1, validRefs := htxs.2.1, outsBound := htxs.2.2 }
  · rw [((known_toChain_perm hs).map _).nodup_iff, List.map_cons, List.nodup_cons]
    refine ⟨fun hm => ?_, (List.filter_sublist.map _).nodup hl.hashes⟩
    obtain ⟨q, hp, e⟩ := List.mem_map.mp hm
    obtain ⟨hk, hr⟩ := List.mem_filter.mp hp
    obtain ⟨rfl, _⟩ := hf.known_eq hk e
    simp at hr
  · -- every known transaction stays known
    intro p hp
    obtain ⟨q, hq, h1, h2⟩ := hl.creditKnown p hp
    by_cases e : q.1.hash = t.hash
    · obtain ⟨rfl, _⟩ := hf.known_eq hq e
      exact ⟨(t, some bm), (mem_known_toChain hs _).mpr (Or.inr rfl), h1, h2⟩
    · exact ⟨q, (mem_known_toChain hs _).mpr (Or.inl ⟨hq, fun h => e h.2⟩), h1, h2⟩
  · have hp3 : ((chainTxs (toChain L bm t)).flatMap (·.1.ins)).Perm (((chainTxs L) ++ [(t, bm)]).flatMap (·.1.ins)) :=
      (chainInsert_perm bm t L.chain hs).flatMap_right _
    rw [hp3.nodup_iff, List.flatMap_append, List.nodup_append]
    refine ⟨hl.noDouble, by simpa using hf.insNodup, ?_⟩
    intro a ha b hb e
    obtain ⟨p, hp, hpa⟩ := List.mem_flatMap.mp ha
    have hbt : b ∈ t.ins := by simpa using hb
    exact hf.noDouble p hp a hpa (e ▸ hbt)
  · intro p hp i hi q hq e
    rcases (mem_chainTxs_toChain hs p).mp hp with hp' | rfl
    · rcases hold q hq with hq' | rfl
      · exact hl.parents p hp' i hi q hq' e
      · exact ⟨bm, rfl, hf.childrenAbove p hp' i hi e.symm⟩
    · rcases hold q hq with hq' | rfl
      · obtain ⟨x, ob⟩ := q
        rcases mem_known.mp hq' with ⟨b, rfl, hm⟩ | ⟨rfl, hm⟩
        · exact ⟨b, rfl, hf.parentsBelow _ hm i hi e.symm⟩
        · exact absurd e (hf.parentsNotPool i hi x hm)
      · exact absurd e.symm (hf.noSelf i hi)

end

end TxStore
