import BtcwVerif.Lemmas.AddrInvOps
/-! New accounts, new scopes and restart are `Ok` moves; `Create` establishes `Inv`, `Nodups` and `IdxInv` with an empty log
(`opCreate_spec`). -/
set_option linter.unusedSectionVars false
namespace AddrDerive

variable {K P : Type} [DecidableEq K] [DecidableEq P]

section
variable {hd : HD K P} {s s' : State K P} {sc : Scope} {acct : Nat} {sm : ScopeMem K P}
  {sd : ScopeDisk K P} {ai : AcctInfo K P}

theorem RowKeyOK.mono {a : Nat} {r : AcctRow K P}
    (hroot : s'.root = s.root) (himp : ∀ x ∈ s.imports, x ∈ s'.imports) (h : RowKeyOK hd s sc a r) : RowKeyOK hd s' sc a r := by
  cases r with
  | dflt pub priv ne ni name => simpa [RowKeyOK, hroot] using h
  | wo pub fp ne ni name schema ci => exact himp _ h

/-- One account row appears in scope `sc`, whose disk part becomes `sd'` (a new account number, or a new scope); memory is as it
    was.  `Inv.extend` does not apply: the set of rows and the `imports` ghost grow.  So `DiskOK` is re-proved from the four
    facts about `sd'`, and the memory clauses go through because every old row is still there (`hold`). -/
theorem Ok.addRow {s' : State K P} {sd' : ScopeDisk K P} (h : Inv hd s) (hn : Nodups s → Nodups s')
    (hsd' : ∀ sc', getSD s' sc' = if sc = sc' then some sd' else getSD s sc') (hheap : s'.mem.heap = s.mem.heap)
    (hl : s'.mem.locked = s.mem.locked) (hmw : s'.mem.watchOnly = s.mem.watchOnly)
    (hc : ∀ sc a, cacheAt s' sc a = cacheAt s sc a) (hdou : ∀ sc, douAt s' sc = douAt s sc)
    (hdw : s'.disk.watchOnly = s.disk.watchOnly) (hrp : s'.disk.rootPriv = s.disk.rootPriv) (hroot : s'.root = s.root)
    (himp : ∀ x ∈ s.imports, x ∈ s'.imports) {row : AcctRow K P} (hnone : acctRow s sc acct = none)
    (hacc : ∀ a', alookup sd'.accts a' = if acct = a' then some row else acctRow s sc a')
    (hrow : RowKeyOK hd s' sc acct row) (hzero : ∀ int, rowNext row int = 0)
    (hcoin : ∀ ck, sd'.coinPriv = some ck → coinAt s sc = some ck ∨ ∃ root, s.root = some root ∧ coinKeyAt hd root sc = some ck)
    (hlast : ∃ l, sd'.lastAcct = some l ∧ acct ≤ l ∧ ∀ a, (acctRow s sc a).isSome → a ≤ l)
    (haddr : ∀ id a b i, alookup sd'.addrs id = some (.chain a b i) → addrRowAt s sc id = some (.chain a b i)) :
    Ok hd s s' := by
  have hrows : ∀ sc' a', acctRow s' sc' a' = if sc = sc' ∧ acct = a' then some row else acctRow s sc' a' := by
    intro sc' a'
    rw [acctRow, hsd']
    by_cases e : sc = sc'
    · subst e; rw [if_pos rfl]; exact (hacc a').trans (by by_cases e' : acct = a' <;> simp [e'])
    · rw [if_neg e, if_neg fun x => e x.1]; rfl
  have hold : ∀ sc' a r, acctRow s sc' a = some r → acctRow s' sc' a = some r := by
    intro sc' a r hr
    rw [hrows]
    split
    · rename_i e; rw [← e.1, ← e.2, hnone] at hr; cases hr
    · exact hr
  refine ⟨⟨by rw [hmw, hdw]; exact h.woEq, by rw [hmw, hl]; exact h.woLocked, ⟨by rw [hrp, hroot]; exact h.disk.root, ?_, ?_, ?_, ?_⟩,
    ?_, ?_, ?_, ?_⟩, .newRow h hn hnone hzero hrows hc⟩
  · intro sc' ck hck
    rw [hroot]
    rw [coinAt, hsd'] at hck
    split at hck
    · rename_i e; subst e; exact (hcoin ck hck).elim (h.disk.coin sc ck) id
    · exact h.disk.coin sc' ck hck
  · intro sc' lo hlo
    rw [lastAt, hsd'] at hlo
    split at hlo
    · rename_i e
      cases hlo
      obtain ⟨l, h1, h2, h3⟩ := hlast
      refine ⟨l, h1, fun a ha => ?_⟩
      rw [hrows] at ha
      split at ha
      · rename_i e'; exact e'.2 ▸ h2
      · exact h3 a (e ▸ ha)
    · rename_i e
      obtain ⟨l, h1, h2⟩ := h.disk.last sc' lo hlo
      refine ⟨l, h1, fun a ha => h2 a ?_⟩
      rwa [hrows, if_neg (fun x => e x.1)] at ha
  · intro sc' a r hr
    rw [hrows] at hr
    split at hr
    · rename_i e; cases hr; exact e.1 ▸ e.2 ▸ hrow
    · exact RowKeyOK.mono hroot himp (h.disk.row sc' a r hr)
  · intro sc' id a b i hr
    rw [addrRowAt, hsd'] at hr
    have hr0 : addrRowAt s sc' id = some (.chain a b i) := by
      split at hr
      · rename_i e; subst e; exact haddr id a b i hr
      · exact hr
    obtain ⟨r, p, cls, h1, h2, h3⟩ := h.disk.addr sc' id a b i hr0
    exact ⟨r, p, cls, hold _ _ _ h1, h2, h3⟩
  · intro sc' a ai hca
    rw [hc] at hca
    obtain ⟨r, hr, hok⟩ := h.cache sc' a ai hca
    exact ⟨r, hold _ _ _ hr, hok.pub, hok.enc, by rw [hl]; exact hok.locked, by rw [hl]; exact hok.unlocked⟩
  · intro o ho
    rw [hheap] at ho
    exact (h.heap o ho).transfer fun r h1 => ⟨r, hold _ _ _ h1, rfl, fun hw => ⟨hdw ▸ hw, rfl⟩⟩
  · intro sc' e he
    rw [hdou] at he
    obtain ⟨o, ho, hdo⟩ := h.dou sc' e he
    exact ⟨o, by rw [hheap]; exact ho, hdo.mono fun x => by rwa [hc]⟩
  · intro idx o ho hni hpa hw
    rw [hheap] at ho
    rw [hmw] at hw
    rw [hl]
    rcases h.sign idx o ho hni hpa hw with h1 | ⟨h1, e, he, hei⟩
    · exact Or.inl h1
    · exact Or.inr ⟨h1, e, by rw [hdou]; exact he, hei⟩

theorem Ok.newAcct (h : Inv hd s) (hsd : getSD s sc = some sd)
    (row : AcctRow K P) (imps : List (Scope × Nat × P)) (himps : ∀ x ∈ s.imports, x ∈ imps)
    (hrow : RowKeyOK hd { s with imports := imps } sc (nextAcct sd) row) (hzero : ∀ int, rowNext row int = 0) :
    Ok hd s { putSD s sc { sd with accts := aset sd.accts (nextAcct sd) row, lastAcct := some (nextAcct sd) } with imports := imps } := by
  obtain ⟨l, hl1, hl2⟩ := h.disk.last sc _ (lastAt_of_getSD hsd)
  have hl1' : sd.lastAcct = some l := hl1
  have hna : nextAcct sd = l + 1 := by simp only [nextAcct, hl1']
  have hnone : acctRow s sc (nextAcct sd) = none := by
    cases hx : acctRow s sc (nextAcct sd) with
    | none => rfl
    | some r => have := hl2 _ (by rw [hx]; rfl); omega
  exact .addRow (sd' := { sd with accts := aset sd.accts (nextAcct sd) row, lastAcct := some (nextAcct sd) }) h
    (fun hn => (hn.putSD _ _).same rfl rfl) (fun _ => getSD_putSD ..) rfl rfl rfl (fun _ _ => rfl) (fun _ => rfl) rfl rfl rfl
    himps hnone (fun _ => (alookup_aset ..).trans (by rw [acctRow_of_getSD hsd])) hrow hzero
    (fun ck hc => .inl (by rw [coinAt_of_getSD hsd]; exact hc))
    ⟨_, rfl, Nat.le_refl _, fun a ha => by have := hl2 a ha; omega⟩
    (fun id a b i hr => by rw [addrRowAt_of_getSD hsd]; exact hr)

theorem opNewAccount_ok (h : Inv hd s) (sc : Scope) (name : Nat) : Ok hd s (opNewAccount hd s sc name).1 := by
  unfold opNewAccount
  refine ite_fst (fun _ => .refl h) fun _ => ?_
  split
  · exact .refl h
  · rename_i sd hsd
    refine ite_fst (fun _ => .refl h) fun _ => ite_fst (fun _ => .refl h) fun _ => ite_fst (fun _ => .refl h) fun _ => ?_
    split
    · exact .refl h
    · rename_i ck hck
      refine ite_fst (fun _ => .refl h) fun _ => ?_
      split
      · exact .refl h
      · rename_i ak hak
        obtain ⟨root, hroot, hcoin⟩ := h.disk.coin sc ck (by rw [coinAt_of_getSD hsd]; exact hck)
        exact .newAcct h hsd _ s.imports (fun _ x => x)
          ⟨root, ak, hroot, by simp [acctKeyAt, hcoin, hak], rfl, fun k hk => by cases hk; rfl⟩ (fun int => by cases int <;> rfl)

theorem opNewAccountWO_ok (h : Inv hd s) (sc : Scope) (name : Nat) (x : P) (ci fp : Nat)
    (sch : Option Schema) : Ok hd s (opNewAccountWO s sc name x ci fp sch).1 := by
  unfold opNewAccountWO
  split
  · exact .refl h
  · rename_i sd hsd
    refine ite_fst (fun _ => .refl h) fun _ => ite_fst (fun _ => .refl h) fun _ => ?_
    exact .newAcct h hsd _ ((sc, nextAcct sd, x) :: s.imports) (fun _ hx => List.mem_cons_of_mem _ hx) List.mem_cons_self
      (fun int => by cases int <;> rfl)

def ScopeInit (hd : HD K P) (root : K) (sc : Scope) (sd : ScopeDisk K P) : Prop :=
  ∃ ck ak, coinKeyAt hd root sc = some ck ∧ acctKeyAt hd root sc 0 = some ak ∧ sd.coinPriv = some ck ∧
    sd.accts = [(0, .dflt (hd.neuter ak) (some ak) 0 0 1)] ∧ sd.addrs = [] ∧ sd.lastAcct = some 0

theorem mkKeyScope_ok (hd : HD K P) (root : K) (sc : Scope) (schema : Schema) (sd0 : ScopeDisk K P)
    (h : mkKeyScope hd root sc schema = some sd0) : ScopeInit hd root sc { sd0 with lastAcct := some 0 } := by
  unfold mkKeyScope at h
  split at h
  · cases h
  · rename_i ck hck
    split at h
    · cases h
    · rename_i ak hak
      split at h
      · cases h
      · cases h
        exact ⟨ck, ak, hck, by simp [acctKeyAt, hck] at hak ⊢; exact hak, rfl, rfl, rfl, rfl⟩

theorem ScopeInit.addrs {root : K} (hi : ScopeInit hd root sc sd) : sd.addrs = [] :=
  let ⟨_, _, _, _, _, _, h, _⟩ := hi; h

theorem ScopeInit.lastAcct {root : K} (hi : ScopeInit hd root sc sd) : sd.lastAcct = some 0 :=
  let ⟨_, _, _, _, _, _, _, h⟩ := hi; h

theorem ScopeInit.row {root : K} (hi : ScopeInit hd root sc sd) {a : Nat}
    {r : AcctRow K P} (hr : alookup sd.accts a = some r) :
    a = 0 ∧ ∃ ak, acctKeyAt hd root sc 0 = some ak ∧ r = .dflt (hd.neuter ak) (some ak) 0 0 1 := by
  obtain ⟨ck, ak, _, h2, _, h4, _, _⟩ := hi
  rw [h4] at hr
  simp only [alookup] at hr
  by_cases ha : 0 = a
  · subst ha; simp at hr; exact ⟨rfl, ak, h2, hr.symm⟩
  · simp [ha] at hr

theorem Ok.newScope (h : Inv hd s) (hnone : getSD s sc = none) {root : K}
    (hroot : s.root = some root) (hi : ScopeInit hd root sc sd) (schema : Schema) :
    Ok hd s (putSM (putSD s sc sd) sc { schema := schema, acctInfo := [], addrs := [], dou := [] }) := by
  have hrow0 : ∀ a, acctRow s sc a = none := by intro a; simp [acctRow, hnone]
  -- nothing is cached or queued for a scope the database does not have
  have hc0 : ∀ a, cacheAt s sc a = none := by
    intro a
    cases hc : cacheAt s sc a with
    | none => rfl
    | some ai => obtain ⟨r, hr, _⟩ := h.cache sc a ai hc; rw [hrow0] at hr; cases hr
  have hd0 : douAt s sc = [] := by
    cases hd : douAt s sc with
    | nil => rfl
    | cons e t =>
      obtain ⟨o, _, hdo⟩ := h.dou sc e (by rw [hd]; exact List.mem_cons_self)
      have := hdo.cached; rw [hc0] at this; cases this
  obtain ⟨ck, ak, hck, hak, hcoin, haccts, haddrs, hlast⟩ := hi
  refine .addRow (sd' := sd) (row := .dflt (hd.neuter ak) (some ak) 0 0 1) h (fun hn => (hn.putSD _ _).putSM _ _)
    (fun _ => by rw [getSD_putSM, getSD_putSD]) rfl rfl rfl ?_ ?_ rfl rfl rfl (fun _ x => x) (hrow0 0)
    (fun a' => by rw [haccts, hrow0]; rfl)
    ⟨root, ak, hroot, hak, rfl, fun k hk => by cases hk; rfl⟩ (fun int => by cases int <;> rfl)
    (fun ck' hc => .inr ⟨root, hroot, by rw [hcoin] at hc; cases hc; exact hck⟩)
    ⟨0, hlast, Nat.le_refl _, fun a ha => by rw [hrow0] at ha; cases ha⟩
    (fun id a b i hr => by rw [haddrs] at hr; cases hr)
  · intro sc' a
    rw [cacheAt_putSM]
    split
    · rename_i e; rw [← e, hc0]; rfl
    · rfl
  · intro sc'
    rw [douAt_putSM]
    split
    · rename_i e; rw [← e, hd0]
    · rfl

theorem opNewScope_ok (cfg : Cfg) (hl1 : cfg.l1 = false) (h : Inv hd s) (sc : Scope) (schema : Schema) :
    Ok hd s (opNewScope cfg hd s sc schema).1 := by
  unfold opNewScope
  rw [hl1]
  refine ite_fst (fun _ => .refl h) fun _ => ite_fst (fun _ => .refl h) fun _ => ?_
  split
  · exact .refl h
  · rename_i root hrp
    refine ite_fst (fun _ => .refl h) fun hnone => ?_
    split
    · exact .refl h
    · rename_i sd0 hmk
      refine .newScope h ?_ (h.disk.root root hrp) (mkKeyScope_ok hd root sc schema sd0 hmk) schema
      cases hx : getSD s sc with
      | none => rfl
      | some _ => simp [hx] at hnone

theorem cacheAt_fresh (hm : s.mem = freshMem s.disk) (sc : Scope) (a : Nat) : cacheAt s sc a = none := by
  unfold cacheAt
  rw [getSM_fresh s.disk s hm]
  cases alookup s.disk.scopes sc <;> simp [alookup]

theorem Nodups.ofFresh (hm : s.mem = freshMem s.disk) (hk : (s.disk.scopes.map (·.1)).Nodup) : Nodups s :=
  ⟨by rw [hm]; exact (keys_map_snd ..).symm ▸ hk, hk⟩

theorem Inv.ofFresh (hdisk : DiskOK hd s) (hm : s.mem = freshMem s.disk) : Inv hd s := by
  have hd' : ∀ sc, douAt s sc = [] := by
    intro sc
    unfold douAt
    rw [getSM_fresh s.disk s hm]
    cases alookup s.disk.scopes sc <;> simp
  have hh : s.mem.heap = [] := by rw [hm]; rfl
  refine ⟨by rw [hm]; rfl, fun _ => by rw [hm]; rfl, hdisk, ?_, ?_, ?_, ?_⟩
  · intro sc a ai h; rw [cacheAt_fresh hm] at h; cases h
  · intro o ho; rw [hh] at ho; cases ho
  · intro sc e he; rw [hd'] at he; cases he
  · intro idx o ho; rw [hh] at ho; simp at ho

theorem opRestart_ok (h : Inv hd s) : Ok hd s (opRestart s).1 :=
  ⟨.ofFresh (h.disk.of_eq rfl rfl rfl) rfl, .same (fun hn => .ofFresh rfl hn.d) (fun _ _ => rfl)
    fun sc a ai' hc => by rw [cacheAt_fresh rfl] at hc; cases hc⟩

theorem mkScopes_spec (hd : HD K P) (root : K) : ∀ (l : List (Scope × Schema)) (r : List (Scope × ScopeDisk K P)),
    mkScopes hd root l = some r → ∀ sc sd, alookup r sc = some sd → ScopeInit hd root sc sd := by
  intro l
  induction l with
  | nil => intro r h sc sd hl; simp [mkScopes] at h; subst h; simp [alookup] at hl
  | cons p t ih =>
    intro r h sc sd hl
    obtain ⟨sc0, sch⟩ := p
    unfold mkScopes at h
    split at h
    · rename_i sd0 r0 hmk hr0
      cases h
      simp only [alookup] at hl
      by_cases hsc : sc0 = sc
      · subst hsc
        simp at hl
        subst hl
        exact mkKeyScope_ok hd root sc0 sch sd0 hmk
      · simp [hsc] at hl
        exact ih r0 hr0 sc sd hl
    · cases h

theorem mkScopes_keys (hd : HD K P) (root : K) : ∀ (l : List (Scope × Schema)) (r : List (Scope × ScopeDisk K P)),
    mkScopes hd root l = some r → r.map (·.1) = l.map (·.1) := by
  intro l
  induction l with
  | nil => intro r h; simp [mkScopes] at h; subst h; rfl
  | cons p t ih =>
    intro r h
    obtain ⟨sc0, sch⟩ := p
    unfold mkScopes at h
    split at h
    · rename_i sd0 r0 hmk hr0
      cases h
      simp [ih r0 hr0]
    · cases h

theorem IdxInv.of_zero (hc : ∀ sc a, cacheAt s sc a = none)
    (hr : ∀ sc a r, acctRow s sc a = some r → ∀ int, rowNext r int = 0) : IdxInv hd s [] := by
  refine ⟨fun sc a ai r h _ => (by rw [hc] at h; cases h), fun sc a r h int => ?_, fun o ho => (by cases ho)⟩
  rw [hr sc a r h int]
  exact IsValidRun.nil _ 0

theorem IdxInv_empty (hd : HD K P) : IdxInv hd (emptyState : State K P) [] :=
  .of_zero (fun sc a => by simp [cacheAt, getSM, emptyState, alookup])
    (fun sc a r h => by simp [acctRow, getSD, emptyState, alookup] at h)

end

/-- `Create` starts anew: the manager is fresh over a database in which each default scope is as `mkScopes` made it, and
    nothing has been issued. -/
theorem opCreate_spec (hd : HD K P) (root : K) :
    Inv hd (opCreate hd root).1 ∧ Nodups (opCreate hd root).1 ∧ IdxInv hd (opCreate hd root).1 [] := by
  unfold opCreate
  split
  · exact ⟨Inv_empty hd, ⟨List.nodup_nil, List.nodup_nil⟩, IdxInv_empty hd⟩
  · rename_i scs hscs
    dsimp only
    have hspec := mkScopes_spec hd root _ _ hscs
    refine ⟨.ofFresh ⟨fun r hr => by simpa using hr, ?_, ?_, ?_, ?_⟩ rfl,
      .ofFresh rfl (by rw [mkScopes_keys hd root _ _ hscs]; decide), .of_zero (cacheAt_fresh rfl) fun sc a r h int => ?_⟩
    -- each view of the new database at `sc` is a field of the scope `mkScopes` made for `sc`
    · intro sc ck hc
      obtain ⟨sd, hsd, hc⟩ := Option.bind_eq_some_iff.mp hc
      obtain ⟨ck', ak, h1, _, h3, _⟩ := hspec sc sd hsd
      cases h3.symm.trans hc
      exact ⟨root, rfl, h1⟩
    · intro sc lo hlo
      obtain ⟨sd, hsd, rfl⟩ := Option.map_eq_some_iff.mp hlo
      have hi := hspec sc sd hsd
      refine ⟨0, hi.lastAcct, fun a ha => ?_⟩
      obtain ⟨r, hr⟩ := Option.isSome_iff_exists.mp ha
      obtain ⟨sd', hsd', hr⟩ := Option.bind_eq_some_iff.mp hr
      cases hsd.symm.trans hsd'
      have := (hi.row hr).1; omega
    · intro sc a r hr
      obtain ⟨sd, hsd, hr⟩ := Option.bind_eq_some_iff.mp hr
      obtain ⟨rfl, ak, hak, rfl⟩ := (hspec sc sd hsd).row hr
      exact ⟨root, ak, rfl, hak, rfl, fun k hk => by cases hk; rfl⟩
    · intro sc id a b i hr
      obtain ⟨sd, hsd, hr⟩ := Option.bind_eq_some_iff.mp hr
      rw [(hspec sc sd hsd).addrs] at hr
      cases hr
    · obtain ⟨sd, hsd, h⟩ := Option.bind_eq_some_iff.mp h
      obtain ⟨_, ak, _, rfl⟩ := (hspec sc sd hsd).row h
      cases int <;> rfl

theorem opCreate_inv (hd : HD K P) (root : K) : Inv hd (opCreate hd root).1 := (opCreate_spec hd root).1

end AddrDerive
