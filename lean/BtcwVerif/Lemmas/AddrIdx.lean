import BtcwVerif.Model.AddrDeriveOps
/-!
The index loops of `nextAddresses` / `extendAddresses` (`firstValid`, `nextIdxs`, `extendIdxs`) hand out an `IsValidRun`:
`nextIdxs_spec`, `extendIdxs_spec`.  `getLast l d` is the new NEXT index (one past the last element, `d` for the empty list).
-/
namespace AddrDerive

def branchOf (int : Bool) : Nat := if int then 1 else 0

theorem firstValid_spec (valid : Nat → Bool) : ∀ (fuel start i : Nat), firstValid valid fuel start = some i →
    start ≤ i ∧ valid i = true ∧ ∀ j, start ≤ j → j < i → valid j = false := by
  intro fuel
  induction fuel with
  | zero => intro start i h; simp [firstValid] at h
  | succ f ih =>
    intro start i h
    unfold firstValid at h
    split at h
    · rename_i hv
      cases h
      exact ⟨Nat.le_refl _, hv, fun j h1 h2 => absurd h1 (by omega)⟩
    · rename_i hv
      have := ih (start + 1) i h
      refine ⟨by omega, this.2.1, fun j h1 h2 => ?_⟩
      by_cases hj : j = start
      · subst hj; simpa using hv
      · exact this.2.2 j (by omega) h2

/-- `l` is exactly the list of valid indices in `[start, stop)`, in increasing order -/
def IsValidRun (valid : Nat → Bool) (start stop : Nat) (l : List Nat) : Prop :=
  l.Pairwise (· < ·) ∧ (∀ i ∈ l, start ≤ i ∧ i < stop ∧ valid i = true) ∧
    (∀ j, start ≤ j → j < stop → valid j = true → j ∈ l)

theorem getLast_default (t : List Nat) (d d' : Nat) (ht : t ≠ []) : getLast t d = getLast t d' := by
  induction t with
  | nil => exact absurd rfl ht
  | cons a b ih =>
    cases b with
    | nil => simp [getLast]
    | cons c e =>
      show getLast (c :: e) d = getLast (c :: e) d'
      exact ih (by simp)

theorem getLast_cons (i : Nat) (t : List Nat) (d : Nat) : getLast (i :: t) d = getLast t (i + 1) := by
  cases t with
  | nil => simp [getLast]
  | cons a b => exact getLast_default (a :: b) d (i + 1) (List.cons_ne_nil a b)

theorem IsValidRun.nil (valid : Nat → Bool) (start : Nat) : IsValidRun valid start start [] :=
  ⟨List.Pairwise.nil, nofun, fun _ h1 h2 => absurd h1 (Nat.not_le_of_lt h2)⟩

theorem IsValidRun.cons {valid : Nat → Bool} {start i stop : Nat} {t : List Nat}
    (hf : start ≤ i ∧ valid i = true ∧ ∀ j, start ≤ j → j < i → valid j = false) (ht : IsValidRun valid (i + 1) stop t)
    (hle : i + 1 ≤ stop) : IsValidRun valid start stop (i :: t) := by
  refine ⟨List.Pairwise.cons (fun a ha => (ht.2.1 a ha).1) ht.1, ?_, ?_⟩
  · intro a ha
    rcases List.mem_cons.mp ha with rfl | ha
    · exact ⟨hf.1, hle, hf.2.1⟩
    · have := ht.2.1 a ha
      exact ⟨by omega, this.2.1, this.2.2⟩
  · intro j h1 h2 hv
    by_cases hj : j ≤ i
    · by_cases hji : j = i
      · subst hji; exact List.mem_cons_self
      · have := hf.2.2 j h1 (by omega)
        simp [this] at hv
    · exact List.mem_cons_of_mem _ (ht.2.2 j (by omega) h2 hv)

theorem nextIdxs_spec (valid : Nat → Bool) : ∀ (n start : Nat) (l : List Nat), nextIdxs valid n start = some l →
    l.length = n ∧ start ≤ getLast l start ∧ IsValidRun valid start (getLast l start) l := by
  intro n
  induction n with
  | zero =>
    intro start l h
    cases h
    exact ⟨rfl, Nat.le_refl _, IsValidRun.nil valid start⟩
  | succ m ih =>
    intro start l h
    unfold nextIdxs at h
    split at h
    · cases h
    · rename_i i hi
      have hf := firstValid_spec valid _ _ _ hi
      cases hr : nextIdxs valid m (i + 1) with
      | none => simp [hr] at h
      | some t =>
        simp [hr] at h
        subst h
        have ht := ih (i + 1) t hr
        rw [getLast_cons]
        exact ⟨by simp [ht.1], by omega, IsValidRun.cons hf ht.2.2 ht.2.1⟩

theorem extendIdxs_spec (valid : Nat → Bool) (last : Nat) : ∀ (fuel start : Nat) (l : List Nat),
    extendIdxs valid last fuel start = some l →
    start ≤ getLast l start ∧ (start ≤ last → last < getLast l start) ∧ IsValidRun valid start (getLast l start) l := by
  intro fuel
  induction fuel with
  | zero => intro start l h; simp [extendIdxs] at h
  | succ f ih =>
    intro start l h
    unfold extendIdxs at h
    split at h
    · rename_i hle
      split at h
      · cases h
      · rename_i i hi
        have hf := firstValid_spec valid _ _ _ hi
        cases hr : extendIdxs valid last f (i + 1) with
        | none => simp [hr] at h
        | some t =>
          simp [hr] at h
          subst h
          have ht := ih (i + 1) t hr
          rw [getLast_cons]
          refine ⟨by omega, fun _ => ?_, IsValidRun.cons hf ht.2.2 ht.1⟩
          by_cases h2 : i + 1 ≤ last
          · exact ht.2.1 h2
          · omega
    · rename_i hgt
      cases h
      exact ⟨Nat.le_refl _, fun h => absurd h hgt, IsValidRun.nil valid start⟩

end AddrDerive
