import BtcwVerif.Lemmas.WF2
import BtcwVerif.Lemmas.RefRollbackTx
/-!
# `rollback` preserves `WF2`

The main loop of `rollback` removes one transaction at a time while the block records stay in place until the end,
so the invariant is stated on a *virtual* store `vs B Tv r`: the real buckets of the loop state `r`, with the block
bucket replaced by `B` (block lists shrink as transactions are removed), the record bucket by `Tv` (the record of the
transaction being removed stays visible until all its credits and debits are gone) and the counter by the running
balance `r.bal`.  None of the per-input / per-output steps reads blocks or records, so they act on the virtual store
exactly as on the real one.  A debit may be *dangling* (its credit already erased) only when the credit belonged to a
transaction of the block being processed that was removed earlier (`D`).  The steps are walked for the invariant alone;
that one `rbTx` leaves no credit and no debit of its transaction is read off `TxSpec` (Lemmas/RefRollbackTx.lean).
-/
namespace TxStore
open KMap

/-- the *virtual* store (head of the file): the loop state `r` seen with the block bucket `B`, the record bucket `Tv` and the
running balance as counter -/
def vs (B : KMap Nat BlockRec) (Tv : KMap TxKey Tx) (r : RB) : Store :=
  { r.s with blocks := B, txrecs := Tv, minedBalance := r.bal }

/-- invariant of the main loop of `rollback` at the level of `WF2` (the one at the level of `Refines` is `RBInv`,
Lemmas/RefRollbackLoop.lean) while a block is processed: `WF2` of the virtual store, with `DebLoop blk D` for the debit clauses —
`blk` the block being processed, `D` its transactions removed so far; between two blocks it is `WF2` itself (`rj_block_done`) -/
structure RJ (B : KMap Nat BlockRec) (Tv : KMap TxKey Tx) (blk : Block) (D : List Nat) (r : RB) : Prop where
  wf : WF (vs B Tv r)
  outs : OutsBound (vs B Tv r)
  deb : DebLoop blk D (vs B Tv r)

section
variable {B : KMap Nat BlockRec} {Tv : KMap TxKey Tx} {blk : Block} {D : List Nat}

theorem rj_congr {r r' : RB}
    (hc : r'.s.credits = r.s.credits) (hu : r'.s.unspent = r.s.unspent) (huc : r'.s.unminedCredits = r.s.unminedCredits)
    (hd : r'.s.debits = r.s.debits) (hb : r'.bal = r.bal) (hj : RJ B Tv blk D r) : RJ B Tv blk D r' :=
  ⟨hj.wf.of_eq rfl rfl hc hu hb (huc ▸ hj.wf.nodupUC), hj.outs,
    hj.deb.mono (s' := vs B Tv r') rfl fun dk d hf =>
      ⟨by rw [← hf]; exact congrArg (KMap.find? · dk) hd.symm, .inl (congrArg (KMap.find? · d.credKey) hc)⟩⟩

theorem rj_rbInputCore {rec : Tx} {r : RB} {i : Nat} {inp : OutPoint} (hj : RJ B Tv blk D r)
    (hrec : Tv.find? ⟨rec.hash, blk⟩ = some rec) (hin : rec.ins[i]? = some inp) :
    RJ B Tv blk D (rbInputCore rec blk r i inp) := by
  unfold rbInputCore
  cases hd : r.s.debits.find? ⟨rec.hash, blk, i⟩ with
  | none => exact hj
  | some d =>
    dsimp only
    obtain ⟨hbase, hlive⟩ := hj.deb ⟨rec.hash, blk, i⟩ d hd
    cases hc : r.s.credits.find? d.credKey with
    | none =>
      -- the credit was removed earlier in this rollback: only the debit goes
      exact ⟨hj.wf.of_eq rfl rfl rfl rfl rfl hj.wf.nodupUC, hj.outs,
        hj.deb.mono rfl fun dk d1 hf => ⟨(find?_erase_eq_some.mp hf).2, .inl rfl⟩⟩
    | some cv =>
      have hcV : (vs B Tv r).credits.find? d.credKey = some cv := hc
      -- the debit is live: the credit is marked spent by exactly this debit
      have hl : cv.spent = true ∧ cv.spender = some ⟨rec.hash, blk, i⟩ := by
        rcases hlive with ⟨cv', h1, h2, h3⟩ | ⟨h1, _⟩
        · rw [hcV] at h1; cases h1; exact ⟨h2, h3⟩
        · rw [hcV] at h1; cases h1
      -- the input it was recorded for is the credit's outpoint
      have hop : d.credKey.outPoint = inp := by
        obtain ⟨⟨rec', hr', hin'⟩, _⟩ := hbase
        rw [show (vs B Tv r).txrecs.find? (⟨rec.hash, blk, i⟩ : CredKey).txKey = some rec from hrec] at hr'
        cases hr'
        exact Option.some.inj (hin'.symm.trans hin)
      have hlst := hj.wf.listed _ cv hcV
      have ⟨_, rec0, _, _, _, hr0, _⟩ := hlst
      refine ⟨?_, hj.outs, ?_⟩
      · exact hj.wf.setCredit d.credKey (some { cv with spent := false, spender := none }) (by rw [hr0]; rfl)
          (fun nv e => by cases e; exact hlst) rfl rfl hj.wf.nodupUC rfl (hop ▸ rfl)
          (by simp [liveAmount, hc, hl.1, vs])
      · refine hj.deb.mono rfl fun dk d1 hf => ?_
        obtain ⟨hne, hf⟩ := find?_erase_eq_some.mp hf
        refine ⟨hf, .inl <| find?_insert_ne _ _ fun e => ?_⟩
        -- another debit does not point at this credit: it is spent by this debit
        rcases (hj.deb dk d1 hf).2 with ⟨cv', h1, _, h3⟩ | ⟨h1, _⟩
        · rw [← e, hcV] at h1; cases h1
          exact hne (Option.some.inj (hl.2.symm.trans h3))
        · rw [← e, hcV] at h1; cases h1

theorem rj_rbEraseCore {rec : Tx} {r : RB} {i : Nat} {value : Int} (tu : Bool) (hj : RJ B Tv blk D r)
    (hrec : Tv.find? ⟨rec.hash, blk⟩ = some rec) (hout : rec.outs[i]? = some value) (hD : rec.hash ∈ D) :
    RJ B Tv blk D (rbEraseCore rec blk r i value tu) := by
  unfold rbEraseCore
  cases hv : r.s.credits.find? ⟨rec.hash, blk, i⟩ with
  | none => exact hj
  | some v =>
    dsimp only
    have hw := hj.wf
    have hvV : (vs B Tv r).credits.find? ⟨rec.hash, blk, i⟩ = some v := hv
    have hrecV : (vs B Tv r).txrecs.find? (⟨rec.hash, blk, i⟩ : CredKey).txKey = some rec := hrec
    have hsome : ((vs B Tv r).txrecs.find? (⟨rec.hash, blk, i⟩ : CredKey).txKey).isSome := by rw [hrecV]; rfl
    have hval : value = v.amount := by
      obtain ⟨_, rec', _, _, _, hr', ho'⟩ := hw.listed _ _ hvV
      rw [hrecV] at hr'
      cases hr'
      exact Option.some.inj (hout.symm.trans ho')
    -- it is in the unspent index iff no mined transaction spends it
    have hidx : r.s.unspent.contains ⟨rec.hash, i⟩ = true ↔ v.spent = false := by
      rw [contains_eq_true]
      constructor
      · rintro ⟨b0, hb0⟩
        obtain ⟨cv0, hcv0, hsp0⟩ := (hw.index ⟨rec.hash, i⟩ b0).mp hb0
        cases hw.credit_block hcv0 hsome
        rw [hvV] at hcv0; cases hcv0; exact hsp0
      · exact fun hs => ⟨blk, (hw.index ⟨rec.hash, i⟩ blk).mpr ⟨v, hvV, hs⟩⟩
    -- debits that pointed at it dangle from now on
    have hdeb : ∀ (r' : RB), r'.s.debits = r.s.debits → r'.s.credits = r.s.credits.erase ⟨rec.hash, blk, i⟩ →
        DebLoop blk D (vs B Tv r') := fun r' hd' hc' =>
      hj.deb.mono (s' := vs B Tv r') rfl fun dk d hf => ⟨hd' ▸ hf, by
        show r'.s.credits.find? _ = r.s.credits.find? _ ∨ r'.s.credits.find? _ = none ∧ _
        rw [hc', find?_erase]
        split
        · rename_i hk; exact .inr ⟨rfl, hk ▸ rfl, hk ▸ hD⟩
        · exact .inl rfl⟩
    have hucn : NodupKeys (if tu = true then r.s.unminedCredits.insert ⟨rec.hash, i⟩ ⟨v.amount, v.change⟩
        else r.s.unminedCredits) := by
      split
      · exact nodupKeys_insert _ _ _ hw.nodupUC
      · exact hw.nodupUC
    split
    · rename_i hu
      exact ⟨hw.setCredit ⟨rec.hash, blk, i⟩ none hsome (fun _ e => nomatch e) rfl rfl hucn rfl rfl
        (by simp [liveAmount, hv, hidx.mp hu, hval, vs]), hj.outs, hdeb _ rfl rfl⟩
    · rename_i hu
      have hsp : v.spent = true := by
        cases h : v.spent
        · exact absurd (hidx.mpr h) hu
        · rfl
      have hnone : r.s.unspent.find? ⟨rec.hash, i⟩ = none := contains_eq_false.mp (by simpa using hu)
      exact ⟨hw.setCredit ⟨rec.hash, blk, i⟩ none hsome (fun _ e => nomatch e) rfl rfl hucn rfl
        (erase_of_find?_none _ _ hnone).symm (by simp [liveAmount, hv, hsp, vs]), hj.outs, hdeb _ rfl rfl⟩

theorem rj_mono_D {D' : List Nat} {r : RB}
    (hsub : ∀ x ∈ D, x ∈ D') (hj : RJ B Tv blk D r) : RJ B Tv blk D' r :=
  ⟨hj.wf, hj.outs, fun dk d hf => (hj.deb dk d hf).imp_right
    (Or.imp_right fun ⟨a1, a2, a3⟩ => ⟨a1, a2, hsub _ a3⟩)⟩

theorem rj_inputs {rec : Tx}
    (hrec : Tv.find? ⟨rec.hash, blk⟩ = some rec) (l : List (Nat × OutPoint)) (r : RB)
    (hl : ∀ p ∈ l, rec.ins[p.1]? = some p.2) (hj : RJ B Tv blk D r) :
    RJ B Tv blk D (l.foldl (rbInput rec blk) r) :=
  List.foldlRecOn (motive := RJ B Tv blk D) l _ hj fun r hj p hp => by
    rw [rbInput_eq]
    exact rj_rbInputCore (rj_congr (r := r) rfl rfl rfl rfl rfl hj) hrec (hl p hp)

/-- `tu`: the credits move to the unconfirmed bucket; otherwise they are dropped -/
theorem rj_outputs {rec : Tx}
    (hrec : Tv.find? ⟨rec.hash, blk⟩ = some rec) (hD : rec.hash ∈ D) (tu : Bool) (f : RB → Nat × Int → RB)
    (hf : ∀ r p, (f r p).s = (rbEraseCore rec blk r p.1 p.2 tu).s ∧ (f r p).bal = (rbEraseCore rec blk r p.1 p.2 tu).bal)
    (l : List (Nat × Int)) (r : RB) (hl : ∀ p ∈ l, rec.outs[p.1]? = some p.2) (hj : RJ B Tv blk D r) :
    RJ B Tv blk D (l.foldl f r) :=
  List.foldlRecOn (motive := RJ B Tv blk D) l f hj fun x hx p hp => by
    obtain ⟨es, eb⟩ := hf x p
    exact rj_congr (by rw [es]) (by rw [es]) (by rw [es]) (by rw [es]) eb (rj_rbEraseCore tu hx hrec (hl p hp) hD)

/-- end of one `rbTx`: once no credit and no debit of `T` is left, `T` goes from the virtual view — off the front of its block's
list and out of the record bucket -/
theorem rj_drop {r : RB} {T : Nat} {br : BlockRec} {rest : List Nat}
    (hj : RJ B Tv blk D r)
    (hB : B.find? blk.height = some br) (hbh : br.hash = blk.hash) (htxs : br.txs = T :: rest)
    (hnoc : ∀ k cv, r.s.credits.find? k = some cv → k.txKey ≠ ⟨T, blk⟩)
    (hnod : ∀ dk d, r.s.debits.find? dk = some d → dk.txKey ≠ ⟨T, blk⟩) :
    RJ (B.insert blk.height { br with txs := rest }) (Tv.erase ⟨T, blk⟩) blk D r := by
  have hw := hj.wf
  obtain ⟨hnd, hrecd⟩ := hw.block (show (vs B Tv r).blocks.find? _ = _ from hB)
  rw [htxs] at hnd hrecd
  obtain ⟨hTrest, hndrest⟩ := List.nodup_cons.mp hnd
  -- a transaction listed in the old view is listed in the new one, unless it is the one taken out
  have hblock : ∀ (k : TxKey) (br0 : BlockRec), k ≠ ⟨T, blk⟩ → B.find? k.block.height = some br0 →
      br0.hash = k.block.hash → k.hash ∈ br0.txs →
      ∃ br1, (B.insert blk.height { br with txs := rest }).find? k.block.height = some br1 ∧
        br1.hash = k.block.hash ∧ k.hash ∈ br1.txs := by
    intro k br0 hne h0 hh hx
    rw [find?_insert]
    by_cases e : blk.height = k.block.height
    · rw [if_pos e]
      rw [← e, hB] at h0; cases h0
      refine ⟨_, rfl, hh, ?_⟩
      rcases List.mem_cons.mp (htxs ▸ hx) with e1 | h'
      · exact absurd (show k = ⟨T, blk⟩ by
          obtain ⟨kh, kb⟩ := k; cases kb; cases blk; simp only at e e1 hh hbh ⊢; rw [e1, ← e, ← hh, hbh]) hne
      · exact h'
    · rw [if_neg e]; exact ⟨br0, h0, hh, hx⟩
  refine ⟨hw.of_view rfl rfl rfl hw.nodupUC (sorted_insert_nat _ _ _ hw.sorted) ?_ ?_ ?_ ?_, ?_, ?_⟩
  · intro h br' hf
    replace hf : (B.insert blk.height { br with txs := rest }).find? h = some br' := hf
    rw [find?_insert] at hf
    show _ ∧ ∀ tx ∈ _, ((Tv.erase ⟨T, blk⟩).find? _).isSome
    split at hf
    · rename_i e
      cases hf; subst e
      refine ⟨hndrest, fun tx htx => ?_⟩
      rw [find?_erase_ne _ (fun e2 => hTrest (by injection e2 with e3; rw [e3]; exact htx))]
      exact hrecd tx (List.mem_cons_of_mem _ htx)
    · rename_i e
      obtain ⟨h1, h2⟩ := hw.block (show (vs B Tv r).blocks.find? _ = _ from hf)
      refine ⟨h1, fun tx htx => ?_⟩
      rw [find?_erase_ne _ (fun e2 => e (by injection e2 with _ e4; rw [e4]))]
      exact h2 tx htx
  · intro k rec0 hk
    obtain ⟨hne, hk⟩ := find?_erase_eq_some.mp (show (Tv.erase ⟨T, blk⟩).find? k = some rec0 from hk)
    obtain ⟨hh0, br0, hb0, hbh0, hmem⟩ := hw.recListed k rec0 hk
    exact ⟨hh0, hblock k br0 (Ne.symm hne) hb0 hbh0 hmem⟩
  · intro k1 k2 h1 h2 e
    have g : ∀ k, ((Tv.erase ⟨T, blk⟩).find? k).isSome → (Tv.find? k).isSome := by
      intro k hk
      obtain ⟨v, hv⟩ := Option.isSome_iff_exists.mp hk
      rw [(find?_erase_eq_some.mp hv).2]; rfl
    exact hw.oneBlock k1 k2 (g k1 h1) (g k2 h2) e
  · exact fun k cv hk => find?_erase_ne _ (Ne.symm (hnoc k cv hk))
  · intro k rec0 hk
    exact hj.outs k rec0 (find?_erase_eq_some.mp (show (Tv.erase ⟨T, blk⟩).find? k = some rec0 from hk)).2
  · intro dk d hf
    obtain ⟨⟨⟨rec0, hr0, hin0⟩, hrest⟩, h2⟩ := hj.deb dk d hf
    refine ⟨⟨⟨rec0, ?_, hin0⟩, hrest⟩, h2⟩
    show (Tv.erase ⟨T, blk⟩).find? dk.txKey = some rec0
    rw [find?_erase_ne _ (Ne.symm (hnod dk d hf))]; exact hr0

end

theorem rj_rbTx (B : KMap Nat BlockRec) (blk : Block) (D : List Nat) (r r' : RB) (T : Nat) (br : BlockRec)
    (rest : List Nat) (hj : RJ B r.s.txrecs blk D r)
    (hB : B.find? blk.height = some br) (hbh : br.hash = blk.hash) (htxs : br.txs = T :: rest)
    (h : rbTx blk r T = .ok r') :
    RJ (B.insert blk.height { br with txs := rest }) r'.s.txrecs blk (T :: D) r' := by
  have hw := hj.wf
  have htx' := (rbTx_frame h).2
  -- the block record lists `T`, so its record is there, under its own hash, and `rbTx` is `rbTxPure`
  obtain ⟨rec, hrec⟩ := Option.isSome_iff_exists.mp
    (hw.recorded (blk.height, br) (mem_of_find? _ hB) T (by rw [htxs]; exact List.mem_cons_self))
  rw [show (⟨blk.height, br.hash⟩ : Block) = blk by rw [hbh]] at hrec
  cases (hw.recListed ⟨T, blk⟩ rec hrec).1
  cases (rbTx_ok hrec).symm.trans h
  have hDm : rec.hash ∈ rec.hash :: D := List.mem_cons_self
  rw [htx']
  have a1 := rj_inputs hrec (if rec.isCoinBase then [] else withIdx rec.ins) (rbStart blk r rec)
    (fun p hp => by
      split at hp
      · cases hp
      · exact (mem_withIdx0 ..).mp hp)
    (rj_congr (r := r) rfl rfl rfl rfl rfl (rj_mono_D (fun x hx => List.mem_cons_of_mem rec.hash hx) hj))
  have g1 := rj_outputs hrec hDm (!rec.isCoinBase)
    (if rec.isCoinBase then rbCoinbaseOut rec blk else rbOutput rec blk)
    (fun x p => by
      cases rec.isCoinBase
      · rw [if_neg Bool.false_ne_true, rbOutput_eq]; exact ⟨rfl, rfl⟩
      · exact ⟨(rbCoinbaseOut_eq rec blk x p.1 p.2).1, (rbCoinbaseOut_eq rec blk x p.1 p.2).2.1⟩)
    (withIdx rec.outs) _ (fun p hp => (mem_withIdx0 ..).mp hp) a1
  -- by `TxSpec` the loops leave no credit and no debit of the removed transaction: its block list and its record can go
  have hsp := txSpec_pure rec blk r
  refine rj_drop g1 hB hbh htxs (fun k cv hk e => ?_) (fun dk d hk e => ?_)
  · obtain ⟨_, rec0, _, _, _, hr0, hout⟩ := g1.wf.listed k cv hk
    rw [e] at hr0
    cases hr0.symm.trans hrec
    have := (hsp.credits k).symm.trans hk
    rw [if_pos ⟨k.index, (List.getElem?_eq_some_iff.mp hout).1, by cases k; cases e; rfl⟩] at this
    cases this
  · obtain ⟨⟨rec0, hr0, hin0⟩, _, hlt, _⟩ := (g1.deb dk d hk).1
    rw [e] at hr0
    cases hr0.symm.trans hrec
    have := (hsp.debits dk).symm.trans hk
    rw [if_pos ⟨Bool.eq_false_iff.mpr fun hcb => no_coinbase_debit hcb hin0 hlt, dk.index,
      (List.getElem?_eq_some_iff.mp hin0).1, by cases dk; cases e; rfl⟩] at this
    cases this

/-- the virtual block bucket may change in any way that keeps every non-empty block record (used to re-insert an unchanged
record and to drop an emptied one) -/
theorem rj_blocks_change {B B' : KMap Nat BlockRec} {Tv : KMap TxKey Tx} {blk : Block} {D : List Nat} {r : RB}
    (hj : RJ B Tv blk D r) (hs : (B'.map (·.1)).Pairwise (· < ·))
    (hsub : ∀ h br, B'.find? h = some br → B.find? h = some br)
    (hkeep : ∀ h br, B.find? h = some br → br.txs ≠ [] → B'.find? h = some br) : RJ B' Tv blk D r := by
  refine ⟨hj.wf.of_view rfl rfl rfl hj.wf.nodupUC hs (fun h br hf => hj.wf.block (hsub h br hf)) (fun k rec hk => ?_)
    hj.wf.oneBlock (fun _ _ _ => rfl), hj.outs, hj.deb⟩
  obtain ⟨a, br, b1, b2, b3⟩ := hj.wf.recListed k rec hk
  exact ⟨a, br, hkeep _ br b1 (List.ne_nil_of_mem b3), b2, b3⟩

/-- one block: its transactions go one `rj_rbTx` at a time, front first, until its virtual list is empty; `D` only grows -/
theorem rj_block (blk : Block) : ∀ (txs : List Nat) (br : BlockRec) (B : KMap Nat BlockRec) (D : List Nat) (r r' : RB),
    RJ B r.s.txrecs blk D r → B.find? blk.height = some br → br.hash = blk.hash → br.txs = txs →
    txs.foldlM (rbTx blk) r = .ok r' →
    ∃ D', RJ (B.insert blk.height { br with txs := [] }) r'.s.txrecs blk D' r' := by
  intro txs
  induction txs with
  | nil =>
    intro br B D r r' hj hB hbh htxs h
    cases h
    -- re-inserting the value already stored changes no lookup
    have hfind : ∀ hh, (B.insert blk.height { br with txs := [] }).find? hh = B.find? hh := by
      intro hh
      rw [find?_insert]
      split
      · rename_i e; subst e; rw [hB, ← htxs]
      · rfl
    exact ⟨D, rj_blocks_change hj (sorted_insert_nat _ _ _ hj.wf.sorted) (fun h br hf => hfind h ▸ hf)
      (fun h br hf _ => (hfind h).trans hf)⟩
  | cons T rest ih =>
    intro br B D r r' hj hB hbh htxs h
    rw [List.foldlM_cons] at h
    obtain ⟨r1, h1, h⟩ := bind_ok_iff.mp h
    have hj1 := rj_rbTx B blk D r r1 T br rest hj hB hbh htxs h1
    obtain ⟨D', hD'⟩ := ih { br with txs := rest } (B.insert blk.height { br with txs := rest }) (T :: D) r1 r' hj1
      (find?_insert_self ..) hbh rfl h
    exact ⟨D', insert_insert B .. ▸ hD'⟩

/-- block boundary: the emptied top block leaves the view and nothing dangles any more, so `WF2` holds of the virtual store —
the one place where dangling debits are shown impossible: a dangling debit sits at or above the block of its erased credit,
that is in this block, which is empty, or above the top -/
theorem rj_block_done (B : KMap Nat BlockRec) (Tv : KMap TxKey Tx) (blk : Block) (D : List Nat) (r : RB)
    (br : BlockRec) (hj : RJ B Tv blk D r) (hB : B.find? blk.height = some br) (hempty : br.txs = [])
    (htop : ∀ hh br', B.find? hh = some br' → hh ≤ blk.height) :
    WF2 (vs (B.erase blk.height) Tv r) := by
  have hj' := rj_blocks_change hj (sorted_erase_nat _ blk.height hj.wf.sorted)
    (fun h br hf => (find?_erase_eq_some.mp hf).2)
    (fun h br0 hf hne => (find?_erase_ne _ fun e => hne (by rw [← e, hB] at hf; cases hf; exact hempty)).trans hf)
  refine ⟨hj'.wf, fun dk d hf => ?_, hj'.outs⟩
  obtain ⟨hb1, hl1⟩ := hj.deb dk d hf
  refine ⟨hb1, hl1.resolve_right fun ⟨_, a2, _⟩ => ?_⟩
  -- a dangling debit would belong to a transaction recorded in this (now empty) block or above: impossible
  obtain ⟨⟨rec0, hr0, _⟩, hle, _⟩ := hb1
  obtain ⟨_, br0, b1, _, b3⟩ := hj.wf.recListed dk.txKey rec0 hr0
  have h1 : dk.block.height ≤ blk.height := htop _ br0 b1
  have h2 : dk.block.height ≠ blk.height := by
    intro e
    rw [show dk.txKey.block.height = blk.height from e, show (vs B Tv r).blocks.find? _ = some br from hB] at b1
    cases b1
    rw [hempty] at b3; cases b3
  rw [a2] at hle
  omega

/-- the main loop: between two blocks `WF2` holds of the virtual store; the detached blocks go from the top, each by `rj_block`
then `rj_block_done` (`last_nat` peels the top block) -/
theorem rj_blocks : ∀ (L : List (Nat × BlockRec)) (B : KMap Nat BlockRec) (r r' : RB) (rest : List (Nat × BlockRec)),
    WF2 (vs B r.s.txrecs r) → B.reverse = L ++ rest →
    L.foldlM (fun r (p : Nat × BlockRec) => p.2.txs.foldlM (rbTx ⟨p.1, p.2.hash⟩) r) r = .ok r' →
    WF2 (vs (eraseBlocks B L) r'.s.txrecs r') := by
  intro L
  induction L with
  | nil =>
    intro B r r' rest hw _ h
    cases h; exact hw
  | cons p t ih =>
    intro B r r' rest hw hrev h
    obtain ⟨hh, br⟩ := p
    rw [List.foldlM_cons] at h
    obtain ⟨r1, h1, h⟩ := bind_ok_iff.mp h
    have hBeq : B = (t ++ rest).reverse ++ [(hh, br)] := by rw [← List.reverse_reverse B, hrev]; simp
    obtain ⟨hB, htop, hBe⟩ := last_nat (t ++ rest).reverse hh br (hBeq ▸ hw.wf.sorted)
    rw [← hBeq] at hB htop hBe
    obtain ⟨D', hD'⟩ := rj_block ⟨hh, br.hash⟩ br.txs br B [] r r1 ⟨hw.wf, hw.outs, debLoop_nil.mpr hw.deb⟩ hB rfl rfl h1
    have hdone := rj_block_done _ r1.s.txrecs ⟨hh, br.hash⟩ D' r1 { br with txs := [] } hD'
      (find?_insert_self ..) rfl (fun h' br' hf => by
        rw [find?_insert] at hf
        split at hf
        · rename_i e; exact Nat.le_of_eq e.symm
        · exact htop h' br' hf)
    rw [show (⟨hh, br.hash⟩ : Block).height = hh from rfl, erase_insert_self, hBe] at hdone
    show WF2 (vs (eraseBlocks (B.erase hh) t) _ r')
    rw [hBe]
    exact ih _ r1 r' rest hdone (by simp) h

theorem wf2_rbMid {s : Store} {h : Int} {r : RB} (hw : WF2 s) (hr : rbLoop s h = .ok r) : WF2 (rbMid s h r) := by
  rw [rbMid_fields, rbLoop_blocks hr]
  exact rj_blocks _ s.blocks ⟨s, s.minedBalance, []⟩ r _ hw
    (List.takeWhile_append_dropWhile (p := fun p : Nat × BlockRec => !decide ((p.1 : Int) < h))).symm hr

theorem wf2_rollback {s s' : Store} {height : Int} (hw : WF2 s) (h : rollback s height = .ok s') : WF2 s' := by
  obtain ⟨r, hr, hu⟩ := rollback_ok h
  exact hu.wf2 (wf2_rbMid hw hr)

end TxStore
