import BtcwVerif.Lemmas.RefDetach
import BtcwVerif.Lemmas.RefSpenders
import BtcwVerif.Lemmas.WFRollback
/-!
# Refinement, event *disconnected*, assembly: `rollback` realises the ledger's disconnection

The main loop of `rollback` visits the ledger's detached transactions (`rbLoop_eq`); the store after the main loop and the
block deletion (`rbMid`) refines `detach L h` (`refines_rbMid`); the clean-up commutes with setting the counter (`rollback`
sets it last, `Good` needs it first); `good_disconnected`.
-/
namespace TxStore
open Ledger

theorem foldlM_flatMap {α β σ : Type} (f : α → List β) (g : σ → β → M σ) : ∀ (l : List α) (r : σ),
    (l.flatMap f).foldlM g r = l.foldlM (fun r a => (f a).foldlM g r) r := by
  intro l
  induction l with
  | nil => intro r; rfl
  | cons a t ih =>
    intro r
    rw [List.flatMap_cons, List.foldlM_append, List.foldlM_cons]
    cases h : (f a).foldlM g r with
    | error e => rfl
    | ok r1 => simp only [bind_ok]; exact ih r1

theorem rollback_blocks_eq {s : Store} {L : Ledger} (hg : Good s L) (h : Int) :
    detached s h = (cutBlocks L h).map blockEntry := by
  rw [detached, top_window _ _ hg.wf2.wf.sorted, hg.ref.blocks, List.filter_map, ← List.map_reverse]
  rfl

theorem rollback_loop_flat (L : Ledger) (h : Int) (r : RB) :
    ((cutBlocks L h).map blockEntry).foldlM
        (fun r (p : Nat × BlockRec) => p.2.txs.foldlM (rbTx ⟨p.1, p.2.hash⟩) r) r =
      (cutPairs L h).foldlM (fun r p => rbTx p.2.block r p.1.hash) r := by
  unfold cutPairs chainTxsOf
  rw [foldlM_flatMap, List.foldlM_map]
  congr 1
  funext r lb
  simp only [blockEntry]
  rw [List.foldlM_map, List.foldlM_map]

theorem rbLoop_eq {s : Store} {L : Ledger} (hg : Good s L) (h : Int) :
    rbLoop s h = (cutPairs L h).foldlM (fun r p => rbTx p.2.block r p.1.hash) ⟨s, s.minedBalance, []⟩ := by
  unfold rbLoop
  rw [rollback_blocks_eq hg, rollback_loop_flat]

theorem blocks_after_cut {s : Store} {L : Ledger} (hg : Good s L) (h : Int) :
    eraseBlocks s.blocks (detached s h) = (detach L h).chain.map blockEntry := by
  rw [eraseBlocks_detached s h hg.wf2.wf.sorted, hg.ref.blocks, List.filter_map]
  rfl

theorem credits_after_cut {L : Ledger} (hl : LWF L) {h : Int} {c : KMap CredKey CreditVal}
    (hc : CredInv L (Remaining L (cutPairs L h)) c) (k : CredKey) (v : CreditVal) :
    c.find? k = some v ↔ (k, v) ∈ expCredits (detach L h) := by
  refine (credInv_chain (lwf_detach hl h).noDouble c).mp (fun k v => ?_) k v
  rw [(credInv_congr remaining_cut_iff c).mp hc k v]
  refine exists_congr fun p => and_congr_right fun hp => and_congr_right fun e1 => and_congr_right fun _ =>
    and_congr_right fun _ => and_congr_left' ?_
  rw [lookup_detach, show k.outPoint.hash = p.1.hash from e1, not_cutCb_of_keep hl hp]
  rfl

theorem exists_pool_detach {L : Ledger} {h : Int} (Q : Tx → Prop) :
    (∃ w ∈ (detach L h).pool, Q w) ↔
      (∃ w ∈ L.pool, Q w) ∨ ∃ p ∈ cutPairs L h, p.1.isCoinBase = false ∧ Q p.1 := by
  simp only [mem_pool_detach, or_and_right, exists_or]
  exact or_congr Iff.rfl ⟨fun ⟨w, ⟨hcb, bm, hp⟩, hq⟩ => ⟨(w, bm), hp, hcb, hq⟩,
    fun ⟨p, hp, hcb, hq⟩ => ⟨p.1, ⟨hcb, p.2, hp⟩, hq⟩⟩

theorem refines_rbMid {s : Store} {L : Ledger} (hg : Good s L) (h : Int) {r : RB}
    (hI : RBInv s L (cutPairs L h) r) : Refines (rbMid s h r) (detach L h) := by
  have hr := hg.ref
  have hl := hg.lwf
  -- what was credited to a transaction that is no detached coinbase is still credited
  have hlook : ∀ {u : Tx}, (∃ ob, (u, ob) ∈ known L) → u.isCoinBase = false → ∀ {op : OutPoint}, op.hash = u.hash →
      lookup (detach L h).credit op = lookup L.credit op := fun hu hcb op e => by
    rw [lookup_detach, e, not_cutCb_of_noncb hl hu hcb]; rfl
  rw [rbMid_fields]
  exact {
    blocks := (congrArg (eraseBlocks · _) hI.blocks).trans (blocks_after_cut hg h)
    credits := credits_after_cut hl hI.credits
    uinputsNE := hI.ne
    nodupTxrecs := hI.nodupTx
    nodupUnmined := hI.nodupUnmined
    nodupDebits := hI.nodupDeb
    nodupLocked := hI.locked ▸ hr.nodupLocked
    leases := fun op => by
      show (r.s.locked.find? op).map _ = _
      rw [hI.locked]; exact hr.leases op
    txrecs := fun k v => by
      show r.s.txrecs.find? k = some v ↔ _
      rw [hI.txrecs, mem_expTxrecs]
      split
      · next e =>
        refine iff_of_false nofun ?_
        rintro ⟨b, hm, rfl⟩
        obtain ⟨p, hp, e'⟩ := e
        exact keep_cut_hash_ne hl hm hp (TxKey.mk.inj e').1
      · next e =>
        rw [hr.txrecs_iff]
        refine exists_congr fun b => and_congr_left fun hk => ?_
        rw [mem_chainTxs_split h]
        exact or_iff_left fun hm => e ⟨_, hm, hk⟩
    unmined := fun hh v => by
      show r.s.unmined.find? hh = some v ↔ _
      rw [hI.unmined, hr.unmined_iff, mem_expUnmined, mem_pool_detach]
      constructor
      · rintro (⟨h1, h2⟩ | ⟨p, hp, h1, h2, h3⟩)
        · exact ⟨Or.inl h1, h2⟩
        · subst h2; exact ⟨Or.inr ⟨h1, p.2, hp⟩, h3⟩
      · rintro ⟨h1 | ⟨h1, bm, h2⟩, h3⟩
        · exact Or.inl ⟨h1, h3⟩
        · exact Or.inr ⟨(v, bm), h2, h1, rfl, h3⟩
    debits := fun dk d => by
      show r.s.debits.find? dk = some d ↔ ∃ cv, r.s.credits.find? d.credKey = some cv ∧ _
      rw [hI.debits]
      constructor
      · intro hf
        split at hf
        · cases hf
        · next e =>
          obtain ⟨cv0, h1, h2, h3⟩ := (hr.debits dk d).mp hf
          obtain ⟨x, b, hxb, e1, e2, e3, e4, e5, e6⟩ := (hr.credits_iff _ _).mp h1
          -- the spender is a kept transaction, hence so is the parent
          obtain ⟨q, hq, j, hj, hdk⟩ := spenderOf_some_elim (by rw [← e5, h2] : spenderOf L d.credKey.outPoint = some dk)
          have hqkeep : q ∈ chainTxs (detach L h) :=
            ((mem_chainTxs_split h).mp hq).resolve_right fun hc => e ⟨q, hc, by rw [hdk], by rw [hdk]⟩
          obtain ⟨b', hb', hle⟩ := hl.parents q hq _ (List.mem_of_getElem? hj) (x, some b) (known_of_mined hxb) e1.symm
          cases hb'
          have hxkeep := kept_of_le hqkeep hxb hle
          refine ⟨cv0, (hI.credits _ _).mpr ⟨(x, b), (remaining_cut_iff _).mpr hxkeep, e1, e2, e3, e4,
            Or.inr ⟨?_, q, j, (remaining_cut_iff _).mpr hqkeep, hj, h2.trans (congrArg some hdk)⟩⟩, h2, h3⟩
          rw [e6, ← e5, h2]; rfl
      · rintro ⟨cv, h1, h2, h3⟩
        obtain ⟨p, hp, e1, e2, e3, e4, e5⟩ := (hI.credits _ _).mp h1
        rcases e5 with ⟨_, b, _⟩ | ⟨_, q, j, hq, hj, b⟩
        · rw [b] at h2; cases h2
        · rw [h2] at b
          cases b
          rw [if_neg fun ⟨p', hp', e1', _⟩ => keep_cut_hash_ne hl ((remaining_cut_iff q).mp hq) hp' e1']
          have hsp : spenderOf L d.credKey.outPoint = some ⟨q.1.hash, q.2.block, j⟩ :=
            (spenderOf_eq_some_iff hl.noDouble).mpr ⟨q, hq.1, j, hj, rfl⟩
          exact (hr.debits _ d).mpr ⟨⟨cv.amount, cv.change, true, some _⟩,
            (hr.credits_iff _ _).mpr ⟨p.1, p.2, hp.1, e1, e2, e3, e4, by rw [hsp], by rw [hsp]; rfl⟩, rfl, h3⟩
    ucredits := fun op u => by
      show r.s.unminedCredits.find? op = some u ↔ _
      rw [hI.uc, hr.ucredits_iff, mem_expUnminedCredits, exists_pool_detach]
      exact or_congr
        (exists_congr fun w => and_congr_right fun hw => and_congr_right fun h1 => and_congr_right fun _ => by
          rw [hlook ⟨_, known_of_pool hw⟩ (hl.poolNoCb w hw) h1])
        (exists_congr fun p => and_congr_right fun hp => and_congr_right fun hcb => and_congr_right fun h1 =>
          and_congr_right fun _ => by rw [hlook ⟨_, known_of_mined (mem_cutPairs.mp hp).1⟩ hcb h1])
    uinputs := fun op x => by
      show x ∈ spendHashes r.s op ↔ _
      rw [hI.ui, hr.uinputs, mem_poolSpenders, mem_poolSpenders, exists_pool_detach]
      exact or_congr Iff.rfl (exists_congr fun p => and_congr_right fun _ => and_congr_right fun _ =>
        ⟨fun ⟨a, b⟩ => ⟨b, a.symm⟩, fun ⟨a, b⟩ => ⟨b.symm, a⟩⟩) }

theorem foldlM_comm {α : Type} (g : Store → Store) (f : Store → α → M Store)
    (hf : ∀ s a, f (g s) a = g <$> f s a) : ∀ (l : List α) (s : Store),
    l.foldlM f (g s) = g <$> l.foldlM f s := by
  intro l
  induction l with
  | nil => intro s; rfl
  | cons a t ih =>
    intro s
    rw [List.foldlM_cons, List.foldlM_cons, hf]
    cases h : f s a with
    | error e => rfl
    | ok s1 => exact ih s1

theorem del_setBal (b : Int) (s : Store) (k : OutPoint) (h : Nat) :
    deleteRawUnminedInput (setBal b s) k h = setBal b (deleteRawUnminedInput s k h) := by
  have e : (setBal b s).unminedInputs = s.unminedInputs := rfl
  unfold deleteRawUnminedInput
  rw [e]
  cases s.unminedInputs.find? k with
  | none => rfl
  | some l =>
    show (if _ then _ else if _ then _ else _) = setBal b (if _ then _ else if _ then _ else _)
    rw [apply_ite (setBal b), apply_ite (setBal b)]
    rfl

theorem rcInner_setBal (b : Int) (rc : Store → Tx → M Store)
    (hrc : ∀ s t, rc (setBal b s) t = setBal b <$> rc s t) (s : Store) (h : Nat) :
    rcInner rc (setBal b s) h = setBal b <$> rcInner rc s h := by
  unfold rcInner
  show (match s.unmined.find? h with | none => pure (setBal b s) | some sp => rc (setBal b s) sp) = _
  cases s.unmined.find? h with
  | none => rfl
  | some sp => exact hrc s sp

theorem removeConflict_setBal (b : Int) : ∀ (n : Nat) (s : Store) (t : Tx),
    removeConflict n (setBal b s) t = setBal b <$> removeConflict n s t := by
  intro n
  induction n with
  | zero => intro s t; rfl
  | succ n ih =>
    intro s t
    unfold removeConflict
    rw [removeConflictBody_eq, removeConflictBody_eq]
    have houter : ∀ s io, rcOuter (removeConflict n) t (setBal b s) io =
        setBal b <$> rcOuter (removeConflict n) t s io := by
      intro s io
      unfold rcOuter
      have : spendHashes (setBal b s) ⟨t.hash, io.1⟩ = spendHashes s ⟨t.hash, io.1⟩ := rfl
      rw [this, foldlM_comm (setBal b) _ (rcInner_setBal b _ ih)]
      cases (spendHashes s ⟨t.hash, io.1⟩).foldlM (rcInner (removeConflict n)) s <;> rfl
    rw [foldlM_comm (setBal b) _ houter]
    cases (withIdx t.outs).foldlM (rcOuter (removeConflict n) t) s with
    | error e => rfl
    | ok s1 =>
      show Except.ok _ = Except.ok _
      rw [List.foldl_hom (setBal b) (H := fun s a => del_setBal b s a t.hash)]
      rfl

theorem dsOuter_setBal (b : Int) (skip : Nat → Bool) (s : Store) (op : OutPoint) :
    dsOuter skip (setBal b s) op = setBal b <$> dsOuter skip s op := by
  refine foldlM_comm (setBal b) (dsInner skip) (fun s h => ?_) (spendHashes s op) s
  unfold dsInner
  split
  · rfl
  · exact rcInner_setBal b (fun s => removeConflict (fuelOf s) s) (fun s t => removeConflict_setBal b _ s t) s h

theorem good_disconnected {s : Store} {L : Ledger} (hg : Good s L) (now : Nat) (h : Int) :
    ∃ s', stepEvent s now (.disconnected h) = .ok s' ∧ Good s' (Ledger.apply L (.disconnected h)) ∧
      (NoConflict L → NoConflict (Ledger.apply L (.disconnected h))) := by
  have hl := hg.lwf
  obtain ⟨r, hrun, hI⟩ := rbInv_loop hg (cutPairs L h) [] ⟨s, s.minedBalance, []⟩ (rbInv_init hg)
    (fun p hp => (mem_cutPairs.mp hp).1) (cutPairs_nodup hl h)
  rw [← rbLoop_eq hg] at hrun
  have hgm : Good (rbMid s h r) (detach L h) := ⟨wf2_rbMid hg.wf2 hrun, lwf_detach hl h, refines_rbMid hg h hI⟩
  obtain ⟨s2, P, hclean, hg2, hP⟩ := good_removeSpenders hgm (fun _ => false) (fun _ _ => rfl) r.cb
  rw [← apply_disconnected hl h hI.cb hP] at hg2
  refine ⟨s2, ?_, hg2, fun hn => ?_⟩
  · -- `rollback` runs the clean-up before it sets the counter
    rw [rbMid, foldlM_comm (setBal r.bal) _ (dsOuter_setBal r.bal _)] at hclean
    show rollback s h = .ok s2
    rw [rollback_eq, hrun]
    exact (map_eq_pure_bind _ _).symm.trans hclean
  · rw [apply_disconnected hl h hI.cb hP]
    exact fun u hu => noConflict_detach hl h hn u (mem_pool_minus.mp hu).1

end TxStore
