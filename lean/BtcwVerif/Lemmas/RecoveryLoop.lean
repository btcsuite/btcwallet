/-
C16, the stages of one `FilterBlocks` round, each on its own (the loops over blocks and batches are
Lemmas/RecoveryComplete.lean): what the specification vocabulary (Lemmas/RecoveryDefs.lean) does on appended chains, then
expandAll → filterBlock → applyFound (extendFound, watched outpoints, addRelevantTx).
-/
import BtcwVerif.Lemmas.RecoveryLemmas

namespace Recovery

theorem allTxs_append (a b : Chain) : allTxs (a ++ b) = allTxs a ++ allTxs b := List.flatMap_append

theorem allTxs_cons (h : Nat) (blk : Block) (q : Chain) : allTxs ((h, blk) :: q) = blk ++ allTxs q :=
  List.flatMap_cons

theorem allTxs_single (h : Nat) (blk : Block) : allTxs [(h, blk)] = blk :=
  (allTxs_cons h blk []).trans (List.append_nil blk)

theorem allTxs_snoc (p : Chain) (h : Nat) (blk : Block) : allTxs (p ++ [(h, blk)]) = allTxs p ++ blk := by
  rw [allTxs_append, allTxs_single]

theorem allTxs_split (p : Chain) (h : Nat) (blk : Block) (q : Chain) :
    allTxs (p ++ (h, blk) :: q) = allTxs p ++ blk ++ allTxs q := by
  rw [allTxs_append, allTxs_cons, List.append_assoc]

theorem walletOuts_append (scopes : List Nat) (a b : List Tx) :
    walletOuts scopes (a ++ b) = walletOuts scopes a ++ walletOuts scopes b := List.flatMap_append

theorem wops_append (scopes : List Nat) (a b : List Tx) : wops scopes (a ++ b) = wops scopes a ++ wops scopes b := by
  rw [wops, walletOuts_append, List.map_append]; rfl

theorem wops_cons (scopes : List Nat) (tx : Tx) (rest : List Tx) :
    wops scopes (tx :: rest) = (wouts scopes tx.id tx.outs 0).map (·.1) ++ wops scopes rest :=
  wops_append scopes [tx] rest ▸ congrArg (· ++ _) (congrArg _ (List.flatMap_singleton ..))

theorem paidKeys_append (a b : List Tx) : paidKeys (a ++ b) = paidKeys a ++ paidKeys b := List.flatMap_append

theorem paidKeys_cons (tx : Tx) (rest : List Tx) :
    paidKeys (tx :: rest) = tx.outs.filterMap (·.key) ++ paidKeys rest := List.flatMap_cons

theorem mem_paidKeys {txs : List Tx} {k : Key} :
    k ∈ paidKeys txs ↔ ∃ tx ∈ txs, ∃ o ∈ tx.outs, o.key = some k := by
  simp only [paidKeys, List.mem_flatMap, List.mem_filterMap]

theorem spentIn_append (a b : List Tx) (op : OutPoint) : spentIn (a ++ b) op = (spentIn a op || spentIn b op) :=
  List.any_append

theorem spentIn_single (tx : Tx) (op : OutPoint) : spentIn [tx] op = tx.ins.contains op := by
  simp [spentIn]

theorem spentIn_eq_false {txs : List Tx} {op : OutPoint} : spentIn txs op = false ↔ ∀ t ∈ txs, op ∉ t.ins := by
  simp [spentIn]

theorem mem_wops_iff (scopes : List Nat) (txs : List Tx) (op : OutPoint) :
    op ∈ wops scopes txs ↔ ∃ t ∈ txs, op ∈ (wouts scopes t.id t.outs 0).map (·.1) := by
  simp only [wops, walletOuts, List.mem_map, List.mem_flatMap]
  constructor
  · rintro ⟨p, ⟨t, ht, hp⟩, rfl⟩; exact ⟨t, ht, p, hp, rfl⟩
  · rintro ⟨t, ht, p, hp, rfl⟩; exact ⟨p, ⟨t, ht, hp⟩, rfl⟩

theorem isW_some {scopes : List Nat} {o : TxOut} {k : Key} (h : o.key = some k) :
    isW scopes o = scopes.contains k.scope := by rw [isW, h]

theorem isW_none {scopes : List Nat} {o : TxOut} (h : o.key = none) : isW scopes o = false := by rw [isW, h]

theorem wouts_eq_nil (scopes : List Nat) (txid : Nat) : ∀ (outs : List TxOut) (i : Nat),
    outs.any (isW scopes) = false → wouts scopes txid outs i = [] := by
  intro outs
  induction outs with
  | nil => intro _ _; rfl
  | cons o rest ih =>
    intro i h
    rw [List.any_cons, Bool.or_eq_false_iff] at h
    rw [wouts, h.1]
    exact ih (i + 1) h.2

theorem lookup_filter_ne {β : Type} (l : List (BranchId × β)) {k k' : BranchId} (h : k' ≠ k) :
    (l.filter (fun p => !(p.1 == k))).lookup k' = l.lookup k' := by
  induction l with
  | nil => rfl
  | cons p l ih =>
    by_cases hak : p.1 = k
    · rw [List.filter_cons_of_neg (by simp [hak]), ih, List.lookup_cons, show (k' == p.1) = false by simp [hak, h]]
    · rw [List.filter_cons_of_pos (by simp [hak]), List.lookup_cons, List.lookup_cons, ih]

theorem lookupD_assocSet {β : Type} (l : List (BranchId × β)) (d : β) (k k' : BranchId) (v : β) :
    lookupD (assocSet l k v) d k' = if k' = k then v else lookupD l d k' := by
  unfold lookupD assocSet
  by_cases h : k' = k
  · simp [h]
  · rw [List.lookup_cons, show (k' == k) = false by simp [h], lookup_filter_ne l h, if_neg h]

theorem lookupD_map_mem {β : Type} (g : BranchId → β) (d : β) : ∀ (ids : List BranchId) (k : BranchId), k ∈ ids →
    lookupD (ids.map (fun k => (k, g k))) d k = g k := by
  intro ids
  induction ids with
  | nil => intro k h; cases h
  | cons a ids ih =>
    intro k hk
    by_cases hka : k = a
    · simp [lookupD, hka]
    · have := ih k ((List.mem_cons.mp hk).resolve_left hka)
      unfold lookupD at this ⊢
      rwa [List.map_cons, List.lookup_cons, show (k == a) = false by simp [hka]]
theorem mem_branchIds (scopes : List Nat) (br : BranchId) : br ∈ branchIds scopes ↔ scopes.contains br.1 = true := by
  obtain ⟨s, b⟩ := br
  simp only [branchIds, List.mem_flatMap, List.mem_cons, List.not_mem_nil, or_false, Prod.mk.injEq,
    List.contains_iff_mem]
  constructor
  · rintro ⟨a, ha, h | h⟩ <;> (rw [h.1]; exact ha)
  · intro h
    cases b
    · exact ⟨s, h, Or.inl ⟨rfl, rfl⟩⟩
    · exact ⟨s, h, Or.inr ⟨rfl, rfl⟩⟩

theorem mem_foldl_insert_map {α β : Type} [BEq β] [LawfulBEq β] (g : α → β) (l : List α) : ∀ (w : List β) (x : β),
    x ∈ l.foldl (fun w a => w.insert (g a)) w ↔ x ∈ w ∨ ∃ a ∈ l, g a = x := by
  induction l with
  | nil => intro w x; simp
  | cons a l ih =>
    intro w x
    simp only [List.foldl_cons, ih, List.mem_insert_iff, List.mem_cons, exists_eq_or_imp, or_assoc, @eq_comm _ x]
    exact or_left_comm

theorem mem_foldl_insert {α : Type} [BEq α] [LawfulBEq α] (l w : List α) (x : α) :
    x ∈ l.foldl (fun w op => w.insert op) w ↔ x ∈ w ∨ x ∈ l :=
  (mem_foldl_insert_map id l w x).trans (by simp)

/-- What a step of a left fold establishes for its own element (`Q a`) survives the later steps. -/
theorem foldl_establish {σ α : Type} {f : σ → α → σ} {I : σ → Prop} {Q : α → σ → Prop} {P : α → Prop}
    (step : ∀ s a, P a → I s → I (f s a) ∧ Q a (f s a) ∧ ∀ b, Q b s → Q b (f s a)) :
    ∀ (l : List α) (s : σ), (∀ a ∈ l, P a) → I s → I (l.foldl f s) ∧ ∀ b, b ∈ l ∨ Q b s → Q b (l.foldl f s) := by
  intro l
  induction l with
  | nil => intro s _ hi; exact ⟨hi, fun b h => h.resolve_left List.not_mem_nil⟩
  | cons a l ih =>
    intro s hl hi
    obtain ⟨s1, s2, s3⟩ := step s a (hl a List.mem_cons_self) hi
    obtain ⟨q1, q2⟩ := ih (f s a) (fun b hb => hl b (List.mem_cons_of_mem _ hb)) s1
    refine ⟨q1, fun b h => q2 b ?_⟩
    rcases h with h | h
    · rcases List.mem_cons.mp h with rfl | h
      · exact Or.inr s2
      · exact Or.inl h
    · exact Or.inr (s3 b h)

def wkeys (scopes : List Nat) (outs : List TxOut) : List Key :=
  (outs.filterMap (·.key)).filter (fun k => scopes.contains k.scope)

/-- `BlockFilterer.FilterTx` on the outputs, when the watched addresses cover exactly the wallet keys paid. -/
theorem filterOuts_eq (st : State) (scopes : List Nat) (txid : Nat) : ∀ (outs : List TxOut) (i : Nat) (f : Found),
    (∀ o ∈ outs, ∀ k, o.key = some k → watchesKey st k = scopes.contains k.scope) →
    filterOuts st txid outs i f = (outs.any (isW scopes),
      { f with keys := (wkeys scopes outs).foldl (fun ks k => ks.insert k) f.keys,
               outpoints := ((wouts scopes txid outs i).map (·.1)).foldl (fun w op => w.insert op) f.outpoints }) := by
  intro outs
  induction outs with
  | nil => intro i f _; rfl
  | cons o rest ih =>
    intro i f hw
    have ih' := fun i f => ih i f (fun o' ho' => hw o' (List.mem_cons_of_mem _ ho'))
    cases hk : o.key with
    | none =>
      simp only [filterOuts, hk, ih', List.any_cons, wouts, isW_none hk, wkeys, List.filterMap_cons,
        Bool.false_or, Bool.false_eq_true, if_false]
    | some k =>
      have hwk := hw o List.mem_cons_self k hk
      simp only [filterOuts, hk, hwk, ih', List.any_cons, wouts, isW_some hk, wkeys, List.filterMap_cons,
        List.filter_cons]
      cases scopes.contains k.scope <;> rfl

theorem touches_eq_false {scopes : List Nat} {ops : List OutPoint} {tx : Tx} :
    touches scopes ops tx = false ↔ tx.outs.any (isW scopes) = false ∧ ∀ op ∈ tx.ins, op ∉ ops := by
  simp [touches]

/-- `BlockFilterer.FilterBlock`; `ops` stands for all wallet outpoints of the chain. -/
theorem filterBlock_spec (st : State) (scopes : List Nat) (ops : List OutPoint) : ∀ (blk : Block) (f : Found),
    (∀ tx ∈ blk, ∀ o ∈ tx.outs, ∀ k, o.key = some k → watchesKey st k = scopes.contains k.scope) →
    (∀ a tx b, blk = a ++ tx :: b → ∀ op ∈ tx.ins,
        (op ∈ ops ↔ op ∈ st.watched ∨ op ∈ f.outpoints ∨ op ∈ wops scopes a)) →
    (filterBlock st blk f).txs = f.txs ++ blk.filter (touches scopes ops) ∧
    (∀ k, k ∈ (filterBlock st blk f).keys ↔ k ∈ f.keys ∨ k ∈ paidKeys blk ∧ scopes.contains k.scope = true) ∧
    (∀ op, op ∈ (filterBlock st blk f).outpoints ↔ op ∈ f.outpoints ∨ op ∈ wops scopes blk) := by
  intro blk
  induction blk with
  | nil =>
    intro f _ _
    exact ⟨(List.append_nil _).symm, fun _ => ⟨Or.inl, fun h => h.resolve_right fun h => List.not_mem_nil h.1⟩,
      fun _ => ⟨Or.inl, fun h => h.resolve_right List.not_mem_nil⟩⟩
  | cons tx rest ih =>
    intro f h1 h5
    rw [filterBlock, filterOuts_eq st scopes tx.id tx.outs 0 f (h1 tx List.mem_cons_self)]
    have ht : (tx.ins.any (fun op => st.watched.contains op || f.outpoints.contains op) || tx.outs.any (isW scopes))
        = touches scopes ops tx := by
      rw [touches, Bool.or_comm]
      congr 1
      rw [Bool.eq_iff_iff]
      simp only [List.any_eq_true, Bool.or_eq_true, List.contains_iff_mem]
      exact exists_congr fun op => and_congr_right fun hop =>
        ((h5 [] tx rest rfl op hop).trans (by simp [wops, walletOuts])).symm
    simp only [ht]
    generalize hK : (wkeys scopes tx.outs).foldl (fun ks k => ks.insert k) f.keys = K
    generalize hO : ((wouts scopes tx.id tx.outs 0).map (·.1)).foldl (fun w op => w.insert op) f.outpoints = O
    have hK' : ∀ k, k ∈ K ↔ k ∈ f.keys ∨ k ∈ tx.outs.filterMap (·.key) ∧ scopes.contains k.scope = true :=
      fun k => hK ▸ (mem_foldl_insert _ _ k).trans (or_congr_right List.mem_filter)
    have hO' : ∀ op, op ∈ O ↔ op ∈ f.outpoints ∨ op ∈ (wouts scopes tx.id tx.outs 0).map (·.1) :=
      fun op => hO ▸ mem_foldl_insert _ _ op
    have hf : ∀ t : Bool, (if t = true then (⟨K, O, f.txs ++ [tx]⟩ : Found) else ⟨K, O, f.txs⟩)
        = ⟨K, O, f.txs ++ if t = true then [tx] else []⟩ := by
      intro t; cases t
      · exact congrArg (Found.mk K O) (List.append_nil _).symm
      · rfl
    simp only [hf, List.filter_cons]
    obtain ⟨q1, q2, q3⟩ := ih ⟨K, O, f.txs ++ if touches scopes ops tx = true then [tx] else []⟩
      (fun t ht' => h1 t (List.mem_cons_of_mem _ ht'))
      (fun a t b hab op hop => by
        rw [h5 (tx :: a) t b (by rw [hab]; rfl) op hop, hO' op, wops_cons, List.mem_append, or_assoc])
    refine ⟨?_, fun k => ?_, fun op => ?_⟩
    · rw [q1, List.append_assoc]
      cases touches scopes ops tx <;> rfl
    · rw [q2 k, hK' k, paidKeys_cons, List.mem_append, or_and_right, or_assoc]
    · rw [q3 op, hO' op, wops_cons, List.mem_append, or_assoc]

/-- The in-memory branch states of the recovered scopes are well-formed and agree with the address manager. -/
def BrOK (W : Nat) (scopes : List Nat) (invalid : BranchId → List Nat) (st : State) : Prop :=
  ∀ br, scopes.contains br.1 = true →
    BranchOK (invalid br) (st.branch br) ∧ (st.branch br).window = W ∧ (st.branch br).nextUnfound = st.nextOf br

/-- What `expand` establishes for branch `br` (`Expanded.watched`), read on the state; for all branches: `Exp`. -/
def ExpAt (W : Nat) (invalid : BranchId → List Nat) (st : State) (br : BranchId) : Prop :=
  ∀ i, i < (st.branch br).nextUnfound + W → Valid (invalid br) i → i ∈ (st.branch br).addrs

section
variable {W : Nat} {scopes : List Nat} {invalid : BranchId → List Nat}

/-- The body of the fold in `expandAll` (Model/Recovery.lean), under a name. -/
def expStep (invalid : BranchId → List Nat) (st : State) (k : BranchId) : State :=
  { st with branches := assocSet st.branches k (expand (invalid k) (st.branch k)) }

theorem branch_assocSet (st : State) (k : BranchId) (b : Branch) (nx : List (BranchId × Nat)) (us : List Key)
    (br : BranchId) :
    ({ st with branches := assocSet st.branches k b, next := nx, used := us } : State).branch br
      = if br = k then b else st.branch br :=
  lookupD_assocSet _ _ _ _ _

theorem expStep_spec {st : State} {k : BranchId}
    (hk : scopes.contains k.1 = true) (hb : BrOK W scopes invalid st) :
    BrOK W scopes invalid (expStep invalid st k) ∧ ExpAt W invalid (expStep invalid st k) k ∧
    ∀ br, ExpAt W invalid st br → ExpAt W invalid (expStep invalid st k) br := by
  obtain ⟨hbk, hwk, hnk⟩ := hb k hk
  have e := expand_spec hbk
  have hxk : ExpAt W invalid (expStep invalid st k) k := by
    intro i
    rw [expStep, branch_assocSet, if_pos rfl, e.nextUnfound_eq]
    exact fun hi => e.watched i (hwk ▸ hi)
  refine ⟨fun br hbr => ?_, hxk, fun br hx => ?_⟩
  · rw [State.nextOf, expStep, branch_assocSet]
    by_cases hbk' : br = k
    · subst hbk'; rw [if_pos rfl]; exact ⟨e.ok, e.window_eq.trans hwk, e.nextUnfound_eq.trans hnk⟩
    · rw [if_neg hbk']; exact hb br hbr
  · by_cases hbk' : br = k
    · subst hbk'; exact hxk
    · intro i; rw [expStep, branch_assocSet, if_neg hbk']; exact hx i

theorem expandAll_spec (st : State) (hsc : st.scopes = scopes) (hb : BrOK W scopes invalid st) :
    (∃ brs, expandAll invalid st = { st with branches := brs }) ∧ BrOK W scopes invalid (expandAll invalid st) ∧
    (∀ br, scopes.contains br.1 = true → ExpAt W invalid (expandAll invalid st) br) := by
  obtain ⟨⟨q1, q2⟩, q3⟩ := foldl_establish (f := expStep invalid)
    (I := fun s => (∃ brs, s = { st with branches := brs }) ∧ BrOK W scopes invalid s)
    (Q := fun k s => ExpAt W invalid s k) (P := fun k => scopes.contains k.1 = true)
    (fun s k hk hi => by
      obtain ⟨⟨brs, rfl⟩, hb⟩ := hi
      obtain ⟨s1, s2, s3⟩ := expStep_spec hk hb
      exact ⟨⟨⟨_, rfl⟩, s1⟩, s2, s3⟩)
    (branchIds st.scopes) st (fun k hk => (mem_branchIds scopes k).mp (hsc ▸ hk)) ⟨⟨_, rfl⟩, hb⟩
  exact ⟨q1, q2, fun br hbr => q3 br (Or.inl (hsc ▸ (mem_branchIds scopes br).mpr hbr))⟩

theorem reportFold_spec {inv : List Nat} (idxs : List Nat) (b : Branch) (hb : BranchOK inv b) :
    BranchOK inv (idxs.foldl Branch.reportFound b) ∧
    (idxs.foldl Branch.reportFound b).window = b.window ∧
    b.nextUnfound ≤ (idxs.foldl Branch.reportFound b).nextUnfound ∧
    (∀ i ∈ idxs, i < (idxs.foldl Branch.reportFound b).nextUnfound) := by
  obtain ⟨⟨q1, q2, q3⟩, q4⟩ := foldl_establish (f := Branch.reportFound)
    (I := fun b' => BranchOK inv b' ∧ b'.window = b.window ∧ b.nextUnfound ≤ b'.nextUnfound)
    (Q := fun i b' => i < b'.nextUnfound) (P := fun _ => True)
    (fun b' a _ hi => by
      simp only [reportFound_nextUnfound, reportFound_window]
      exact ⟨⟨branchOK_reportFound hi.1 a, hi.2.1, Nat.le_trans hi.2.2 (Nat.le_max_left _ _)⟩,
        Nat.le_max_right _ _, fun j hj => Nat.lt_of_lt_of_le hj (Nat.le_max_left _ _)⟩)
    idxs b (fun _ _ => trivial) ⟨hb, rfl, Nat.le_refl _⟩
  exact ⟨q1, q2, q3, fun i hi => q4 i (Or.inl hi)⟩

theorem nextOf_assocSet (st : State) (k : BranchId) (v : Nat) (brs : List (BranchId × Branch)) (us : List Key)
    (br : BranchId) :
    ({ st with branches := brs, next := assocSet st.next k v, used := us } : State).nextOf br
      = if br = k then v else st.nextOf br :=
  lookupD_assocSet _ _ _ _ _

/-- `s` is `st` after steps of `extendFoundAddresses`. -/
structure Grown (W : Nat) (scopes : List Nat) (invalid : BranchId → List Nat) (st s : State) : Prop where
  frame : ∃ brs nx us, s = { st with branches := brs, next := nx, used := us }
  ok : BrOK W scopes invalid s
  nextOf_le : ∀ br, st.nextOf br ≤ s.nextOf br
  used_sub : ∀ x ∈ st.used, x ∈ s.used

theorem Grown.refl {st : State} (hb : BrOK W scopes invalid st) : Grown W scopes invalid st st :=
  ⟨⟨_, _, _, rfl⟩, hb, fun _ => Nat.le_refl _, fun _ h => h⟩

theorem Grown.trans {st s t : State} (h1 : Grown W scopes invalid st s) (h2 : Grown W scopes invalid s t) :
    Grown W scopes invalid st t := by
  obtain ⟨brs, nx, us, rfl⟩ := h1.frame
  exact ⟨h2.frame, h2.ok, fun br => Nat.le_trans (h1.nextOf_le br) (h2.nextOf_le br),
    fun x hx => h2.used_sub x (h1.used_sub x hx)⟩

theorem extendFound_spec (st : State) (k : BranchId)
    (idxs : List Nat) (hk : scopes.contains k.1 = true) (hb : BrOK W scopes invalid st) :
    Grown W scopes invalid st (extendFound st k idxs) ∧
    (∀ i ∈ idxs, i < (extendFound st k idxs).nextOf k ∧ (⟨k.1, k.2, i⟩ : Key) ∈ (extendFound st k idxs).used) := by
  cases idxs with
  | nil => exact ⟨Grown.refl hb, fun _ h => absurd h List.not_mem_nil⟩
  | cons a l =>
    obtain ⟨hbk, hwk, hnk⟩ := hb k hk
    obtain ⟨q1, q2, q3, q4⟩ := reportFold_spec (a :: l) (st.branch k) hbk
    have h0 := q4 a List.mem_cons_self
    -- the address manager's next index becomes the branch's `nextUnfound`
    have hmax : max (st.nextOf k) (((a :: l).foldl Branch.reportFound (st.branch k)).nextUnfound - 1 + 1)
        = ((a :: l).foldl Branch.reportFound (st.branch k)).nextUnfound := by
      rw [Nat.sub_add_cancel (Nat.lt_of_le_of_lt (Nat.zero_le a) h0)]; exact Nat.max_eq_right (hnk ▸ q3)
    generalize hb' : (a :: l).foldl Branch.reportFound (st.branch k) = b' at q1 q2 q3 q4 hmax
    have hst : extendFound st k (a :: l) =
        { st with
          branches := assocSet st.branches k b'
          next := assocSet st.next k b'.nextUnfound
          used := (a :: l).foldl (fun u i => u.insert ⟨k.1, k.2, i⟩) st.used } := by
      rw [← hmax, ← hb']; rfl
    rw [hst]
    refine ⟨⟨⟨_, _, _, rfl⟩, fun br hbr => ?_, fun br => ?_,
      fun x hx => (mem_foldl_insert_map _ _ _ x).mpr (Or.inl hx)⟩, fun i hi => ?_⟩
    · rw [nextOf_assocSet, branch_assocSet]
      by_cases hbk' : br = k
      · subst hbk'; rw [if_pos rfl, if_pos rfl]; exact ⟨q1, q2.trans hwk, rfl⟩
      · rw [if_neg hbk', if_neg hbk']; exact hb br hbr
    · rw [nextOf_assocSet]
      by_cases hbk' : br = k
      · subst hbk'; rw [if_pos rfl]; exact hnk ▸ q3
      · rw [if_neg hbk']; exact Nat.le_refl _
    · rw [nextOf_assocSet, if_pos rfl]
      exact ⟨q4 i hi, (mem_foldl_insert_map _ _ _ _).mpr (Or.inr ⟨i, hi, rfl⟩)⟩

/-- The body of the first fold in `applyFound` (Model/Recovery.lean), under a name. -/
def efStep (keys : List Key) (st : State) (k : BranchId) : State :=
  extendFound st k ((keys.filter (fun key => key.scope == k.1 && key.internal == k.2)).map (·.index))

theorem extendFold_spec (keys : List Key) (ids : List BranchId) (st : State)
    (hids : ∀ k ∈ ids, scopes.contains k.1 = true) (hb : BrOK W scopes invalid st) :
    Grown W scopes invalid st (ids.foldl (efStep keys) st) ∧
    (∀ key ∈ keys, (key.scope, key.internal) ∈ ids →
      key.index < (ids.foldl (efStep keys) st).nextOf (key.scope, key.internal) ∧
      key ∈ (ids.foldl (efStep keys) st).used) := by
  obtain ⟨q1, q2⟩ := foldl_establish (f := efStep keys) (I := Grown W scopes invalid st)
    (Q := fun k s => ∀ key ∈ keys, (key.scope, key.internal) = k → key.index < s.nextOf k ∧ key ∈ s.used)
    (P := fun k => scopes.contains k.1 = true)
    (fun s k hk hi => by
      obtain ⟨g, p5⟩ := extendFound_spec s k
        ((keys.filter (fun key => key.scope == k.1 && key.internal == k.2)).map (·.index)) hk hi.ok
      refine ⟨hi.trans g, fun key hkey hk' => ?_, fun b hq key hkey hb' => ?_⟩
      · subst hk'
        exact p5 key.index (List.mem_map.mpr ⟨key, List.mem_filter.mpr ⟨hkey, by simp⟩, rfl⟩)
      · obtain ⟨h1, h2⟩ := hq key hkey hb'
        exact ⟨Nat.lt_of_lt_of_le h1 (g.nextOf_le _), g.used_sub _ h2⟩)
    ids st hids (Grown.refl hb)
  exact ⟨q1, fun key hkey hmem => q2 _ (Or.inl hmem) key hkey rfl⟩

end

theorem addRelevantTx_outs_spec (st : State) (scopes : List Nat) (hsc : st.scopes = scopes) (tx : Tx) :
    ∀ (os : List TxOut) (i : Nat) (cs : List Credit) (used : List Key),
    (∀ o ∈ os, ∀ k, o.key = some k → scopes.contains k.scope = true → k.index < st.nextOf (k.scope, k.internal)) →
    (addRelevantTx.outs st tx os i cs used).1 = cs ++ (wouts scopes tx.id os i).map (fun p => (⟨p.1, p.2, false⟩ : Credit)) ∧
    (∀ x ∈ used, x ∈ (addRelevantTx.outs st tx os i cs used).2) := by
  intro os
  induction os with
  | nil => intro i cs used _; exact ⟨(List.append_nil cs).symm, fun _ h => h⟩
  | cons o rest ih =>
    intro i cs used hk
    have ih' := fun i cs used => ih i cs used (fun o' ho' => hk o' (List.mem_cons_of_mem _ ho'))
    cases hkey : o.key with
    | none =>
      rw [addRelevantTx.outs, hkey, wouts, isW_none hkey]
      exact ih' (i + 1) cs used
    | some k =>
      cases hc : scopes.contains k.scope
      · simp only [addRelevantTx.outs, hkey, wouts, isW_some hkey, hsc, hc, Bool.false_and, Bool.false_eq_true, if_false]
        exact ih' (i + 1) cs used
      · obtain ⟨r1, r2⟩ := ih' (i + 1) (cs ++ [⟨(tx.id, i), o.amount, false⟩]) (used.insert k)
        simp only [addRelevantTx.outs, hkey, wouts, isW_some hkey, hsc, hc,
          decide_eq_true (hk o List.mem_cons_self k hkey hc), Bool.and_self, if_true]
        exact ⟨by rw [r1, List.append_assoc]; rfl, fun x hx => r2 x (List.mem_insert_iff.mpr (Or.inr hx))⟩

theorem specCredits_snoc (scopes : List Nat) (pre : List Tx) (tx : Tx) :
    specCredits scopes (pre ++ [tx]) =
      (specCredits scopes pre).map (fun c => if tx.ins.contains c.op then { c with spent := true } else c) ++
      (wouts scopes tx.id tx.outs 0).map (fun p => ⟨p.1, p.2, spentIn (pre ++ [tx]) p.1⟩) := by
  have hw : walletOuts scopes [tx] = wouts scopes tx.id tx.outs 0 := List.flatMap_singleton ..
  simp only [specCredits, walletOuts_append, List.map_append, List.map_map, hw]
  congr 1
  apply List.map_congr_left
  intro p _
  simp only [Function.comp, spentIn_append, spentIn_single]
  cases tx.ins.contains p.1 <;> simp

theorem addRelevantTx_spec (st : State) (scopes : List Nat) (hsc : st.scopes = scopes) (pre : List Tx) (tx : Tx)
    (h : Nat) (hfresh : ∀ p ∈ st.txs, p.1 ≠ tx.id) (hcr : st.credits = specCredits scopes pre)
    (hknown : ∀ o ∈ tx.outs, ∀ k, o.key = some k → scopes.contains k.scope = true →
      k.index < st.nextOf (k.scope, k.internal))
    (hnew : ∀ p ∈ wouts scopes tx.id tx.outs 0, spentIn (pre ++ [tx]) p.1 = false) :
    ∃ us um ls, addRelevantTx st tx h =
        { st with txs := st.txs ++ [(tx.id, h)], credits := specCredits scopes (pre ++ [tx]), used := us,
                  unmined := um, leased := ls } ∧
      ∀ x ∈ st.used, x ∈ us := by
  have hany : (st.txs.any fun p => p.1 == tx.id) = false :=
    List.any_eq_false.mpr fun p hp => by simpa using hfresh p hp
  obtain ⟨r1, r2⟩ := addRelevantTx_outs_spec st scopes hsc tx tx.outs 0
    (st.credits.map (fun c => if tx.ins.contains c.op then { c with spent := true } else c)) st.used hknown
  refine ⟨_, st.unmined.filter (fun t => !(t.id == tx.id) && !(t.ins.any (fun op => tx.ins.contains op))),
    st.leased.filter (fun op => !tx.ins.contains op), ?_, r2⟩
  have hnew' : (wouts scopes tx.id tx.outs 0).map (fun p => (⟨p.1, p.2, spentIn (pre ++ [tx]) p.1⟩ : Credit))
      = (wouts scopes tx.id tx.outs 0).map (fun p => ⟨p.1, p.2, false⟩) :=
    List.map_congr_left fun p hp => by rw [hnew p hp]
  rw [specCredits_snoc, ← hcr, hnew', ← r1, addRelevantTx, hany]
  rfl

theorem specCredits_untouched (scopes : List Nat) (ops : List OutPoint) (pre : List Tx) (tx : Tx)
    (hsub : ∀ op ∈ wops scopes pre, op ∈ ops) (ht : touches scopes ops tx = false) :
    specCredits scopes (pre ++ [tx]) = specCredits scopes pre := by
  obtain ⟨ht1, ht2⟩ := touches_eq_false.mp ht
  rw [specCredits_snoc, wouts_eq_nil scopes tx.id tx.outs 0 ht1, List.map_nil, List.append_nil]
  refine (List.map_congr_left fun c hc => if_neg ?_).trans (List.map_id _)
  obtain ⟨p, hp, rfl⟩ := List.mem_map.mp hc
  exact fun hcc => ht2 p.1 (List.contains_iff_mem.mp hcc) (hsub p.1 (List.mem_map.mpr ⟨p, hp, rfl⟩))

theorem order_at {scopes : List Nat} {invalid : BranchId → List Nat} {c : Chain} (hwf : ChainWF scopes invalid c)
    {pre : List Tx} {tx : Tx} {post : List Tx} (e : allTxs c = pre ++ tx :: post) :
    ∀ p ∈ wouts scopes tx.id tx.outs 0, spentIn (pre ++ [tx]) p.1 = false := by
  intro p hp
  rw [spentIn_eq_false]
  intro t ht hop
  have hpm : p.1 ∈ (wouts scopes tx.id tx.outs 0).map (·.1) := List.mem_map.mpr ⟨p, hp, rfl⟩
  rcases List.mem_append.mp ht with ht | ht
  · obtain ⟨a, b, hab⟩ := List.append_of_mem ht
    have e' : allTxs c = a ++ t :: (b ++ tx :: post) := by rw [e, hab]; simp
    exact hwf.order a t _ e' p.1 hop tx (by simp) hpm
  · cases List.mem_singleton.mp ht
    exact hwf.order pre tx post e p.1 hop tx List.mem_cons_self hpm

theorem created_before {scopes : List Nat} {invalid : BranchId → List Nat} {c : Chain} (hwf : ChainWF scopes invalid c)
    {pre : List Tx} {tx : Tx} {post : List Tx} (e : allTxs c = pre ++ tx :: post) {op : OutPoint} (hop : op ∈ tx.ins)
    (hops : op ∈ wops scopes (allTxs c)) : op ∈ wops scopes pre := by
  obtain ⟨t, ht, hcr⟩ := (mem_wops_iff scopes _ op).mp hops
  rw [e] at ht
  exact (mem_wops_iff scopes _ op).mpr
    ⟨t, (List.mem_append.mp ht).resolve_right fun ht => hwf.order pre tx post e op hop t ht hcr, hcr⟩

/-- The `for _, txn := range filterResp.RelevantTxns { addRelevantTx }` loop of `recoverScopedAddresses`: it takes `credits`
    from `specCredits pre` to `specCredits (pre ++ blk)` and appends the records of the block's relevant transactions.
    A relevant transaction is new (`ChainWF.ids`) and pays known keys; one the filter left out changes no wallet credit. -/
theorem relevantFold_spec {scopes : List Nat} {invalid : BranchId → List Nat} {c : Chain}
    (hwf : ChainWF scopes invalid c) {ops : List OutPoint} (hops : ∀ op ∈ wops scopes (allTxs c), op ∈ ops) (h : Nat) :
    ∀ (blk : Block) (pre post : List Tx) (st : State), allTxs c = pre ++ blk ++ post → st.scopes = scopes →
    st.credits = specCredits scopes pre →
    (∀ p ∈ st.txs, ∃ t ∈ pre, t.id = p.1) →
    (∀ k ∈ paidKeys blk, scopes.contains k.scope = true → k.index < st.nextOf (k.scope, k.internal)) →
    ∃ us um ls, (blk.filter (touches scopes ops)).foldl (fun st tx => addRelevantTx st tx h) st
        = { st with txs := st.txs ++ (blk.filter (touches scopes ops)).map (fun tx => (tx.id, h)),
                    credits := specCredits scopes (pre ++ blk), used := us, unmined := um, leased := ls } ∧
      ∀ x ∈ st.used, x ∈ us := by
  intro blk
  induction blk with
  | nil =>
    intro pre post st _ _ hcr _ _
    exact ⟨st.used, st.unmined, st.leased, by rw [List.append_nil, ← hcr]; exact (List.append_nil _) ▸ rfl, fun _ h => h⟩
  | cons tx rest ih =>
    intro pre post st e hsc hcr hids hknown
    have ea : pre ++ tx :: rest = pre ++ [tx] ++ rest := (List.append_cons ..)
    have e' : allTxs c = (pre ++ [tx]) ++ rest ++ post := ea ▸ e
    have e'' : allTxs c = pre ++ tx :: (rest ++ post) := e.trans (List.append_assoc pre (tx :: rest) post)
    have hknown' : ∀ k ∈ paidKeys rest, scopes.contains k.scope = true → k.index < st.nextOf (k.scope, k.internal) :=
      fun k hk => hknown k (by rw [paidKeys_cons]; exact List.mem_append_right _ hk)
    rw [ea]
    cases htt : touches scopes ops tx
    · rw [List.filter_cons_of_neg (by rw [htt]; exact Bool.false_ne_true)]
      have hcr' : st.credits = specCredits scopes (pre ++ [tx]) := by
        rw [specCredits_untouched scopes ops pre tx _ htt]
        · exact hcr
        · intro op hop; apply hops; rw [e'', wops_append]; exact List.mem_append_left _ hop
      exact ih (pre ++ [tx]) post st e' hsc hcr'
        (fun p hp => by obtain ⟨t, ht, hid⟩ := hids p hp; exact ⟨t, List.mem_append_left _ ht, hid⟩) hknown'
    · rw [List.filter_cons_of_pos htt, List.foldl_cons, List.map_cons]
      have hfresh : ∀ p ∈ st.txs, p.1 ≠ tx.id := by
        intro p hp
        obtain ⟨t, ht, hid⟩ := hids p hp
        rw [← hid]; exact hwf.ids pre tx _ e'' t ht
      obtain ⟨us1, um1, ls1, e1, hu1⟩ := addRelevantTx_spec st scopes hsc pre tx h hfresh hcr
        (fun o ho k hk hs => hknown k (mem_paidKeys.mpr ⟨tx, List.mem_cons_self, o, ho, hk⟩) hs) (order_at hwf e'')
      rw [e1]
      obtain ⟨us, um, ls, q1, q2⟩ := ih (pre ++ [tx]) post
        { st with txs := st.txs ++ [(tx.id, h)], credits := specCredits scopes (pre ++ [tx]), used := us1,
                  unmined := um1, leased := ls1 }
        e' hsc rfl
        (by
          intro p hp
          rcases List.mem_append.mp hp with hp | hp
          · obtain ⟨t, ht, hid⟩ := hids p hp; exact ⟨t, List.mem_append_left _ ht, hid⟩
          · cases List.mem_singleton.mp hp
            exact ⟨tx, List.mem_append_right _ List.mem_cons_self, rfl⟩)
        hknown'
      exact ⟨us, um, ls, q1.trans (by rw [List.append_assoc]; rfl), fun x hx => q2 x (hu1 x hx)⟩

end Recovery
