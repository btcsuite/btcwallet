/-
`Good` over whole steps: every operation run in its own database transaction (committed when it succeeds, rolled back
when it fails) keeps the running manager coherent with the database (`exec_ro`, `exec_w`, `stGood_step`, `stGood_run`).
At the end, what `C08_rollback_keeps_index` and `C08_next_after_rollback` rest on: a rolled-back NextAddresses leaves the
account cache in agreement with the database (`next_rollback_acct`), and a manager whose account cache agrees issues
what a fresh one issues (`next_same_as_fresh`).
-/
import BtcwVerif.Lemmas.AddrGoodNext
namespace AddrLock

theorem newAccount_err (d : Disk) (m : Mem) (sc : Nat) (n : String) (wo : Bool) (e : Err)
    (h : (newAccount d m sc n wo).2 = .error e) : (newAccount d m sc n wo).1 = d := by
  have ind : ∀ {c : Prop} [Decidable c] {x y : Disk × Except Err Nat}, (c → x.2 = .error e → x.1 = d) →
      (¬ c → y.2 = .error e → y.1 = d) → (if c then x else y).2 = .error e → (if c then x else y).1 = d :=
    fun hx hy => ite_ind (P := fun r : Disk × Except Err Nat => r.2 = .error e → r.1 = d) hx hy
  exact ind (fun _ _ => rfl) (fun _ => ind (fun _ _ => rfl) fun _ =>
    ind (fun _ _ => rfl) fun _ => ind (fun _ _ => rfl) fun _ h => nomatch h) h

/-- state-level invariant at transaction boundaries -/
def StGood (s : State) : Prop :=
  s.snap = none ∧ s.pend = [] ∧ DiskWF s.disk ∧ ∀ m, s.mem = some m → Good s.disk m

def Op.single : Op → Bool
  | .begin | .commit | .rollback => false
  | _ => true

theorem diskWF_create (pub priv : Nat) : DiskWF (createDisk pub priv) := by
  have hsc : ∀ sc, (createDisk pub priv).scopes sc = if sc < nScopes then defaultScope else {} := fun _ => rfl
  refine ⟨?_, ?_, ?_⟩
  · intro _ sc a row hr _
    obtain ⟨h1, h2⟩ := acctAns_ok_row hr
    rw [hsc] at h1
    split at h1
    · simp only [defaultScope, aget] at h1
      split at h1
      · cases h1; rfl
      · split at h1
        · rename_i h; exact absurd h.symm h2
        · cases h1
    · simp [aget] at h1
  · intro sc k row h
    rw [hsc] at h
    split at h <;> simp [defaultScope, aget] at h
  · intro sc a row h
    rw [hsc] at h ⊢
    split at h
    · simp only [defaultScope, aget] at h
      split at h
      · rename_i h0; left; rw [← h0]; simp [defaultScope]
      · split at h
        · rename_i h0; right; exact h0.symm
        · cases h
    · simp [aget] at h

theorem exec_ro (s : State) (m : Mem) (op : Op) (hw : op.writes = false) (hs : op.single = true)
    (hm : s.mem = some m) (hg : Good s.disk m) :
    ∃ m', Good s.disk m' ∧ (exec s m op).1 = { s with mem := some m' } := by
  have same : ∀ r : Res, ∃ m', Good s.disk m' ∧ ((s, r) : State × Res).1 = { s with mem := some m' } :=
    fun _ => ⟨m, hg, by cases s; cases hm; rfl⟩
  cases op <;> try (first | exact Bool.noConfusion hw | exact Bool.noConfusion hs)
  case create => exact same _
  case reopen => exact same _
  case unlock p => exact ⟨_, good_unlock _ hg p, rfl⟩
  case lock => exact ⟨_, good_lockOp _ hg, rfl⟩
  case privKey sc k =>
    simp only [exec]
    cases hr : addressOf s.disk m sc k with
    | error e => exact same _
    | ok r => exact ⟨_, good_privKeyObj (addressOf_good hg hr) _, rfl⟩
  case lastPrivKey sc a int =>
    simp only [exec]
    have hq := good_query hg (.lastAddr sc a int)
    split
    · rename_i m1 k' a' heq
      rw [heq] at hq
      cases acctInfoOf m1 sc a with
      | some ai => exact ⟨_, good_privKeyObj hq _, rfl⟩
      | none => exact ⟨_, hq, rfl⟩
    · rename_i m1 e heq; rw [heq] at hq; exact ⟨_, hq, rfl⟩
    · rename_i m1 _ _ _ heq; rw [heq] at hq; exact ⟨_, hq, rfl⟩
  case script sc k =>
    simp only [exec]
    cases hr : addressOf s.disk m sc k with
    | error e => exact same _
    | ok r => exact ⟨_, good_scriptObj (addressOf_good hg hr) _, rfl⟩
  case crypt kt => exact same _
  case derive sc a b i => exact ⟨_, good_derivePath hg .., rfl⟩
  case deriveCache sc a b i => exact ⟨_, good_deriveCache _ hg .., rfl⟩
  case q x => exact ⟨_, good_query hg x, rfl⟩

theorem isErr_ofErr (x : Option Err) : isErr (ofErr x) = true ↔ x ≠ none := by
  cases x <;> simp [isErr, ofErr]

theorem isErr_ofErr_false (x : Option Err) : isErr (ofErr x) = false ↔ x = none := by
  cases x <;> simp [isErr, ofErr]

/-- what `step` needs of a writing operation executed as `r` from `s` in the transaction opened for it alone -/
structure ExecOK (s : State) (r : State × Res) : Prop where
  err : isErr r.2 = true → ∀ m', r.1.mem = some m' → Good s.disk m'
  ok  : isErr r.2 = false → DiskWF r.1.disk ∧
          ∀ m', r.1.mem = some m' → Good r.1.disk (r.1.pend.foldl (runPend s.cfg) m')

theorem execOK_write {s : State} (hp : s.pend = []) {r : Disk × Mem × Option Err} (h : WriteOK s.disk r) :
    ExecOK s ({ s with disk := r.1, mem := some r.2.1 }, ofErr r.2.2) :=
  ⟨fun he m' hm' => by cases hm'; exact h.err ((isErr_ofErr _).mp he),
   fun he => ⟨(h.ok ((isErr_ofErr_false _).mp he)).2, fun m' hm' => by
     cases hm'; rw [hp]; exact (h.ok ((isErr_ofErr_false _).mp he)).1⟩⟩

theorem execOK_ok {s : State} (hp : s.pend = []) {d' : Disk} {mem : Option Mem}
    (h : DiskWF d' ∧ ∀ m', mem = some m' → Good d' m') : ExecOK s ({ s with disk := d', mem := mem }, .ok) :=
  ⟨(fun he => nomatch he), fun _ => ⟨h.1, fun m' hm' => by rw [hp]; exact h.2 m' hm'⟩⟩

theorem exec_w (s : State) (m : Mem) (op : Op) (hw : op.writes = true) (hm : s.mem = some m)
    (hg : Good s.disk m) (hd : DiskWF s.disk) (hp : s.pend = []) : ExecOK s (exec s m op) := by
  cases op <;> try exact Bool.noConfusion hw
  case changePass o n pr => exact execOK_write hp (good_changePass s.cfg hg hd o n pr)
  case convertWO =>
    have := good_convertWO s.cfg hg hd
    exact execOK_ok hp ⟨this.2, fun m' hm' => by cases hm'; exact this.1⟩
  case newAccount sc name wo =>
    simp only [exec]
    have := good_newAccount hg hd sc name wo
    split
    · rename_i d' a heq
      rw [heq] at this
      exact ⟨(fun he => nomatch he), fun _ => ⟨this.2, fun m' h => by rw [hm] at h; cases h; rw [hp]; exact this.1⟩⟩
    · exact ⟨fun _ m' h => by rw [hm] at h; cases h; exact hg, (fun he => nomatch he)⟩
  case rename sc a name => exact execOK_write hp (good_rename hg hd sc a name)
  case next sc a n int =>
    simp only [exec]
    have := good_next s.cfg hg hd sc a n int
    cases hres : (nextAddresses s.disk m sc a n int).res with
    | error e => exact ⟨fun _ m' h => by cases h; exact (this.err e hres).2, (fun he => nomatch he)⟩
    | ok l =>
      obtain ⟨p, h1, h2, h3⟩ := this.ok l hres
      refine ⟨(fun he => nomatch he), fun _ => ⟨h3, fun m' h => ?_⟩⟩
      cases h
      simp only [h1, hp, List.nil_append, List.foldl]
      exact h2
  case extend sc a li int => exact execOK_write hp (good_extend s.cfg hg hd sc a li int)
  case importKey sc k pr => exact execOK_write hp (good_importKey hg hd sc k pr)
  case importScript sc kind sid sec => exact execOK_write hp (good_importScript hg hd sc kind sid sec)
  case markUsed sc k =>
    have := good_markUsed hg hd sc k
    exact execOK_ok hp ⟨this.2, fun m' hm' => by cases hm'; exact this.1⟩
  case setSynced h x => exact execOK_write hp (good_setSynced hg hd h x)
  case setBirthday =>
    have := good_setBirthday hg hd
    exact execOK_ok hp ⟨this.2, fun m' hm' => by rw [hm] at hm'; cases hm'; exact this.1⟩

/-- **every operation run in its own transaction keeps the manager coherent with the database**; not through
`Tr` / `step_induction`: `StGood` is not kept by the single `begin`, and `Tr.exec` hides the result deciding commit or rollback -/
theorem stGood_step (s : State) (op : Op) (h : StGood s) (hop : op.single = true) : StGood (step s op).1 := by
  obtain ⟨h1, h2, h3, h4⟩ := h
  have ind := @ite_ind (State × Res) (fun r => StGood r.1)
  cases hctl : op.ctl
  case true =>
    cases op <;> first | exact Bool.noConfusion hop | cases hctl | skip
    · exact ind (fun _ => ⟨h1, h2, h3, h4⟩) fun _ => ind (fun _ => ⟨h1, h2, h3, h4⟩) fun _ =>
        ⟨h1, h2, diskWF_create _ _, fun m hm => by cases hm; exact good_open (diskWF_create _ _)⟩
    · exact ind (fun _ => ⟨h1, h2, h3, h4⟩) fun _ => ind (fun _ => ⟨h1, h2, h3, h4⟩) fun _ =>
        ind (fun _ => ⟨h1, h2, h3, fun m hm => nomatch hm⟩) fun _ =>
          ⟨h1, h2, h3, fun m hm => by cases hm; exact good_open h3⟩
  case false =>
    rw [step_of_not_ctl s hctl]
    cases hm : s.mem with
    | none => exact ⟨h1, h2, h3, h4⟩
    | some m =>
      dsimp only
      by_cases hwr : op.writes = true
      · rw [h1, hwr, if_neg (by simp)]
        have E := exec_w ⟨s.cfg, s.disk, some s.disk, [], some m⟩ m op hwr rfl (h4 m hm) h3 rfl
        have hx := exec_fst ⟨s.cfg, s.disk, some s.disk, [], some m⟩ m rfl op
        have hsnap : (exec ⟨s.cfg, s.disk, some s.disk, [], some m⟩ m op).1.snap = some s.disk := congrArg State.snap hx
        refine ind (fun he => ⟨rfl, rfl, ?_, fun m' hm' => ?_⟩) fun he => ?_
        · simp only [rollbackTx, hsnap, Option.getD]; exact h3
        · simp only [rollbackTx, hsnap, Option.getD] at hm' ⊢; exact E.err he m' hm'
        · obtain ⟨w1, w2⟩ := E.ok (by simpa using he)
          refine ⟨rfl, rfl, w1, fun m' hm' => ?_⟩
          have hmem := congrArg State.mem hx
          simp only [commitTx, hmem, Option.map] at hm' ⊢
          cases hm'
          rw [show (exec ⟨s.cfg, s.disk, some s.disk, [], some m⟩ m op).1.cfg = s.cfg by rw [hx]]
          exact w2 _ hmem
      · rw [if_pos (by simp [hwr])]
        obtain ⟨m', g', e'⟩ := exec_ro s m op (by simpa using hwr) hop hm (h4 m hm)
        rw [e']
        exact ⟨h1, h2, h3, fun _ hm' => by cases hm'; exact g'⟩

theorem stGood_run (s : State) (ops : List Op) (h : StGood s) (hops : ∀ op ∈ ops, op.single = true) :
    StGood (run s ops) :=
  run_inv (fun op ho s h => stGood_step s op h (hops op ho)) s h

theorem stGood_init (cfg : Cfg) : StGood { cfg := cfg } :=
  ⟨rfl, rfl,
   ⟨fun _ sc a row hr _ => by simp [acctAns, aget] at hr, fun sc k row h => by simp [aget] at h,
    fun sc a row h => by simp [aget] at h⟩,
   fun m hm => by cases hm⟩

theorem next_rollback_acct {d : Disk} {m : Mem} (hg : Good d m) (sc a n : Nat) (int : Bool) :
    AcctCoh d (nextAddresses d m sc a n int).mem := by
  cases hl : loadAcct d m sc a with
  | error e => unfold nextAddresses; rw [hl]; exact ⟨hg.coh.acct, hg.coh.priv⟩
  | ok m1 =>
    have hf := loadAcct_good hg hl
    obtain ⟨ai, row, hc, hr, _⟩ := hf.cached
    obtain ⟨d2, m2, _, hS, heq⟩ := nextAddresses_loaded n int hl hc (acctAns_ok_row hr).1
    rw [heq]
    have ind := @ite_ind NextOut fun r => AcctCoh d r.mem
    refine ind (fun _ => ⟨hf.good.coh.acct, hf.good.coh.priv⟩) fun _ =>
      ind (fun _ => ⟨hf.good.coh.acct, hf.good.coh.priv⟩) fun _ => ?_
    have k1 := (mkAddrs_spec a (brOf int) (!m1.locked && !(m1.watchOnly || !ai.hasEnc)) n (nextOf ai int) m1).1
    have he := k1.trans hS.ext
    refine ⟨fun sc' a' ai' h => ?_, privOK_of (he.wo.trans hf.good.wo) hf.good.dpriv⟩
    rw [hS.acct sc' a', mkAddrs_scopes] at h
    exact ((hf.good.acctOK h).mono he.heapN he.heap rfl).1

theorem mkAddrs_keys (acct br : Nat) : ∀ (n start : Nat) (m m' : Mem) (p p' : Bool),
    (mkAddrs m acct br p start n).2.map (fun e => AKey.chain e.acct e.br e.idx) =
    (mkAddrs m' acct br p' start n).2.map (fun e => AKey.chain e.acct e.br e.idx) := by
  intro n
  induction n with
  | zero => intro _ _ _ _ _; rfl
  | succ n ih => intro start m m' p p'; simp only [mkAddrs, List.map_cons]; rw [ih]

/-- whenever a manager whose account cache agrees with database `d` issues addresses, a manager freshly opened
on `d` issues exactly the same ones -/
theorem next_same_as_fresh {d : Disk} {m : Mem} (h : AcctCoh d m) (sc a n : Nat) (int : Bool) (l : List AKey)
    (hres : (nextAddresses d m sc a n int).res = .ok l) :
    (nextAddresses d (openMem d) sc a n int).res = .ok l := by
  have hA := loadAcct_ans h sc a
  have hF := loadAcct_ans (coherent_open d).acctCoh sc a
  cases hr : acctAns d sc a with
  | error e =>
    rw [hr] at hA; simp only at hA
    unfold nextAddresses at hres; simp [hA] at hres
  | ok row =>
    rw [hr] at hA hF; simp only at hA hF
    obtain ⟨m1, ai, hl, hai, hok⟩ := hA
    obtain ⟨f1, fi, hlf, hfi, hokf⟩ := hF
    have hrow0 := (acctAns_ok_row hr).1
    have hnext : nextOf fi int = nextOf ai int := by
      rw [(lastOf_info hok int).1, (lastOf_info hokf int).1]
    have hflocked : f1.locked = true := congrArg (·.1) (scal_loadAcct hlf)
    obtain ⟨_, _, _, _, heq⟩ := nextAddresses_loaded n int hl hai hrow0
    obtain ⟨_, _, _, _, heqF⟩ := nextAddresses_loaded n int hlf hfi hrow0
    rw [heq] at hres
    rw [heqF, hnext, hflocked]
    -- both requests pass the same bound check; the fresh manager is locked and cannot hit the missing private key
    have pass : ∀ {c : Prop} [Decidable c] {e : Err} {dd : Disk} {mm : Mem} {y : NextOut},
        (if c then (⟨dd, mm, none, .error e⟩ : NextOut) else y).res = .ok l → ¬ c ∧ y.res = .ok l := by
      intro c _ e dd mm y h
      by_cases hc : c
      · rw [if_pos hc] at h; cases h
      · rw [if_neg hc] at h; exact ⟨hc, h⟩
    obtain ⟨htm, hres⟩ := pass hres
    obtain ⟨_, hres⟩ := pass hres
    cases hres
    rw [if_neg htm, if_neg (by simp)]
    exact congrArg Except.ok (mkAddrs_keys a (brOf int) n (nextOf ai int) f1 m1 _ _)

end AddrLock
