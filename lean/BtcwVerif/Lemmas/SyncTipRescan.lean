/-
C15, what the rescan theorems of Props/C15.lean (`C15_rescan_in_flight`, `C15_reconnect_*`) are assembled from: an evolution
as one notification list (`runNtfns`, `evolve_eq`, `evolve_append`, `ValidRun.append`), `RescanFinished` on a wallet that is
already at the chain (`rescanFinished_stopped`), and `syncWithChain` against the wallet's own chain (`resync_same`).
Why a rescan in flight is invisible to the tip tracking: on both paths that start one on a running wallet — a backend
reconnect, `ImportPrivateKey(…, rescan = true)` — `chainClientSynced` is left as it is (Model/SyncTip.lean, "Rescans on a
RUNNING wallet"), so the notifications of the window are handled as at any other time.
-/
import BtcwVerif.Lemmas.SyncTipCompose
namespace SyncTip

/-! Statement vocabulary of `C15_rescan_in_flight`: `runNtfns`. -/

def runNtfns (C : Content) : BlockId → List Step → List Ntfn
  | _, [] => []
  | tip, st :: rest => ntfnsOf C tip st ++ runNtfns C (stepTip tip st) rest

theorem evolve_eq (cfg : Cfg) (steps : List Step) (w : Wallet) (tip : BlockId) :
    (evolve cfg (w, tip) steps).1 = process cfg w (runNtfns cfg.C tip steps) := by
  induction steps generalizing w tip with
  | nil => rfl
  | cons st rest ih =>
    simp only [evolve, runNtfns, process_append]
    exact ih _ _

theorem evolve_append (cfg : Cfg) (s1 s2 : List Step) (w : Wallet) (tip : BlockId) :
    evolve cfg (w, tip) (s1 ++ s2) = evolve cfg (evolve cfg (w, tip) s1) s2 := by
  induction s1 generalizing w tip with
  | nil => rfl
  | cons st rest ih => simp only [List.cons_append, evolve]; exact ih _ _

theorem ValidRun.append {W : Nat} {tip : BlockId} {lo : Nat} {s1 : List Step} {tip1 : BlockId} {lo1 : Nat}
    {s2 : List Step} {tip2 : BlockId} {lo2 : Nat} (h1 : ValidRun W tip lo s1 tip1 lo1)
    (h2 : ValidRun W tip1 lo1 s2 tip2 lo2) : ValidRun W tip lo (s1 ++ s2) tip2 lo2 := by
  induction h1 with
  | nil _ _ => exact h2
  | cons hv _ ih => exact .cons hv (ih h2)

/-- `RescanFinished` only marks the wallet chain-synced when it is at the chain `tip` and the rescan does not report a
    height above the wallet's (`n ≤ |tip|`: `catchUpHashes` has nothing to do) or the backend's chain at that moment is
    not higher than the wallet's (`GetBlockHash(|tip| + 1)` fails, the catch-up transaction writes nothing). -/
theorem rescanFinished_stopped {cfg : Cfg} {w : Wallet} {tip : BlockId} {lo : Nat} (hS : StoppedInv cfg w tip lo)
    (now : BlockId) (n : Nat) (h : n ≤ tip.length ∨ now.length ≤ tip.length) :
    handle cfg w (.rescanFinished now n) = setSynced w true := by
  have hk : orKeep w (catchUpHashes cfg now w n) = w := by
    rw [catchUpHashes, hS.catch.height]
    cases hc : n - tip.length with
    | zero => rfl
    | succ k => rw [catchUpFrom, show getBlockHash now (tip.length + 1) = none from if_neg (by omega)]; rfl
  show setSynced (orKeep w (catchUpHashes cfg now w n)) true = _
  rw [hk]

/-- The rollback loop finds the tip itself, recovery has no block to scan, the rescan from the tip reports nothing —
    the wallet is unchanged. -/
theorem resync_same {cfg : Cfg} {w : Wallet} {tip : BlockId} {lo : Nat} (hS : StoppedInv cfg w tip lo)
    (recW batch : Nat) : resync cfg recW batch w tip = (w, true) := by
  have hs := hS.catch.height
  have hrec : recoveryRun cfg batch tip (tip.length + 1) w = (w, true) := by
    simp only [recoveryRun, hs, if_pos (Nat.lt_succ_self _)]
  have hres : process cfg w (rescanTxNtfns cfg.C tip tip.length) = w := by
    rw [rescanTxNtfns, Nat.sub_self]; rfl
  simp only [resync, startupRollback_same hS, hrec, ite_self, hs, hres]
  rfl

end SyncTip
