/-! What several families need and none owns; invariants of a `foldl` are core's `List.foldlRecOn` and `List.foldl_hom`. -/

/-- case distinction on an `if` under a predicate, as a term (`split` rewrites the whole goal, which is slow on the terms
the operations of the models unfold to) -/
theorem ite_ind {α : Sort _} {P : α → Prop} {c : Prop} [Decidable c] {a b : α} (ha : c → P a) (hb : ¬c → P b) :
    P (if c then a else b) := by
  by_cases h : c
  · rw [if_pos h]; exact ha h
  · rw [if_neg h]; exact hb h

theorem List.Nodup.inj_of_map {α β : Type _} {f : α → β} {l : List α} (h : (l.map f).Nodup) {a b : α} (ha : a ∈ l)
    (hb : b ∈ l) (e : f a = f b) : a = b := by
  induction l with
  | nil => cases ha
  | cons x t ih =>
    obtain ⟨hx, ht⟩ := List.nodup_cons.mp h
    rcases List.mem_cons.mp ha with rfl | ha' <;> rcases List.mem_cons.mp hb with rfl | hb'
    · rfl
    · exact (hx (e ▸ List.mem_map_of_mem hb')).elim
    · exact (hx (e.symm ▸ List.mem_map_of_mem ha')).elim
    · exact ih ht ha' hb'

theorem filter_sublist_of_imp {α : Type} {p q : α → Bool} {l : List α} (h : ∀ x ∈ l, p x = true → q x = true) :
    (l.filter p).Sublist (l.filter q) := by
  have : l.filter p = (l.filter q).filter p := by
    rw [List.filter_filter]
    exact List.filter_congr fun x hx => by cases hp : p x <;> simp [h x hx, hp]
  rw [this]; exact List.filter_sublist

/-- the measure of the loops that collect more of a list at every round: a stricter filter that loses an element is shorter -/
theorem filter_length_lt_of_imp {α : Type} (p q : α → Bool) (l : List α) (h : ∀ x ∈ l, p x = true → q x = true)
    (hex : ∃ x ∈ l, q x = true ∧ p x = false) : (l.filter p).length < (l.filter q).length := by
  have hsub := filter_sublist_of_imp h
  refine Nat.lt_of_le_of_ne hsub.length_le fun e => ?_
  obtain ⟨x, hx, hq, hp⟩ := hex
  have : x ∈ l.filter p := hsub.eq_of_length e ▸ List.mem_filter.mpr ⟨hx, hq⟩
  rw [List.mem_filter, hp] at this
  cases this.2

section loop
variable {α : Type} {f : α → α} {loop : Nat → α → α}

/-- `h0`, `hS` are the two defining equations of a fuel loop (`fun _ => rfl`, `fun _ _ => rfl` at every use); a property
    kept by one sweep `f` is kept by the loop. -/
theorem loop_keeps (h0 : ∀ a, loop 0 a = a) (hS : ∀ n a, loop (n + 1) a = loop n (f a))
    {I : α → Prop} (hI : ∀ a, I a → I (f a)) : ∀ n a, I a → I (loop n a)
  | 0, a, h => by rw [h0]; exact h
  | n + 1, a, h => by rw [hS]; exact loop_keeps h0 hS hI n _ (hI a h)

/-- Once `P` holds it stays; while it does not, each sweep lowers the measure `m`: so `m a` sweeps reach `P`. -/
theorem loop_reaches (h0 : ∀ a, loop 0 a = a) (hS : ∀ n a, loop (n + 1) a = loop n (f a))
    {P : α → Prop} (m : α → Nat) (hstay : ∀ a, P a → P (f a)) (hdrop : ∀ a, ¬ P a → m (f a) < m a) :
    ∀ n a, m a ≤ n → P (loop n a) := by
  intro n
  induction n with
  | zero =>
    intro a hm
    rw [h0]
    exact Classical.byContradiction fun hP => Nat.not_lt_zero _ (Nat.lt_of_lt_of_le (hdrop a hP) hm)
  | succ n ih =>
    intro a hm
    rw [hS]
    by_cases hP : P a
    · exact loop_keeps h0 hS hstay n _ (hstay a hP)
    · exact ih _ (Nat.le_of_lt_succ (Nat.lt_of_lt_of_le (hdrop a hP) hm))

end loop

/-- the first component of a fold over pairs, when each step's first component is a function of the first component alone -/
theorem foldl_fst {α β γ : Type} (f : α × β → γ → α × β) (g : α → γ → α) (h : ∀ p c, (f p c).1 = g p.1 c)
    (l : List γ) (p : α × β) : (l.foldl f p).1 = l.foldl g p.1 :=
  (List.foldl_hom Prod.fst fun p c => (h p c).symm).symm

theorem ite_fst {α β : Type _} {Q : α → Prop} {c : Prop} [Decidable c] {a b : α × β} (ha : c → Q a.1) (hb : ¬c → Q b.1) :
    Q (if c then a else b).1 :=
  ite_ind (P := fun r : α × β => Q r.1) ha hb
