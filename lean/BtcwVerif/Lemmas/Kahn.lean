/-
Helper lemmas for C14 (Props/C14.lean): association-list graph algebra, the exact shape of `makeGraph`'s result
(`makeGraph_inv`), the Kahn loop invariant `LInv`, "a finite non-empty set in which every node has a parent contains a
cycle", the two general statements `dependencySort_inv` (the final state, `txOrder = S`, no acyclicity assumed) and
`dependencySort_spec` (any `txOrder`, acyclic `S`), and the decision procedure `acyclicB` for `Acyclic` with
`acyclic_of_rank`.  Everything is in namespace `Kahn`, the property theorems included.
`Publish.dependencySort` (C20) is a second, layer-by-layer model of the same Go function with lemmas of its own
(`Lemmas/Publish.lean`); nothing connects the two, and a change of kahnsort.go goes into `Model/Kahn.lean`.
-/
import BtcwVerif.Model.Kahn
import BtcwVerif.Lemmas.Util
namespace Kahn

section
variable (g : Graph) (h h' : Nat) (n : Node)

theorem Graph.find?_set : (g.set h n).find? h' = if h = h' then some n else g.find? h' := by
  induction g with
  | nil => rfl
  | cons kn g ih =>
    obtain ⟨k, m⟩ := kn
    simp only [Graph.set]
    by_cases hk : k = h
    · subst hk
      simp only [if_true, Graph.find?]
      by_cases hk' : k = h' <;> simp [hk']
    · simp only [hk, if_false, Graph.find?, ih]
      by_cases hk' : k = h'
      · subst hk'
        simp [Ne.symm hk]
      · simp [hk']

theorem Graph.get_set : (g.set h n).get h' = if h = h' then n else g.get h' := by
  unfold Graph.get
  rw [Graph.find?_set]
  by_cases hh : h = h' <;> simp [hh]

theorem Graph.has_set : (g.set h n).has h' = (decide (h = h') || g.has h') := by
  unfold Graph.has
  rw [Graph.find?_set]
  by_cases hh : h = h' <;> simp [hh]

end

theorem Graph.get_of_find? {g : Graph} {h : Nat} {n : Node} (hf : g.find? h = some n) : g.get h = n := by
  simp [Graph.get, hf]

theorem Graph.get_of_not_has {g : Graph} {h : Nat} (hf : g.has h = false) : g.get h = Node.zero := by
  unfold Graph.has at hf
  unfold Graph.get
  cases hx : g.find? h <;> simp_all

theorem Graph.find?_of_has {g : Graph} {h : Nat} (hf : g.has h = true) : g.find? h = some (g.get h) := by
  unfold Graph.has at hf
  unfold Graph.get
  cases hx : g.find? h <;> simp_all

@[simp] theorem hashes_nil : hashes [] = [] := rfl
@[simp] theorem hashes_cons (t : Tx) (S : List Tx) : hashes (t :: S) = t.hash :: hashes S := rfl
@[simp] theorem hashes_append (S T : List Tx) : hashes (S ++ T) = hashes S ++ hashes T := List.map_append
@[simp] theorem length_hashes (S : List Tx) : (hashes S).length = S.length := List.length_map _
section
variable {S : List Tx} {h : Nat} {t : Tx}

theorem mem_hashes : h ∈ hashes S ↔ ∃ t ∈ S, t.hash = h := List.mem_map
theorem hash_mem (ht : t ∈ S) : t.hash ∈ hashes S := List.mem_map_of_mem ht

theorem lookupTx_eq_find? (S : List Tx) (h : Nat) : lookupTx S h = S.find? (·.hash == h) := by
  induction S with
  | nil => rfl
  | cons t ts ih => by_cases ht : t.hash = h <;> simp [lookupTx, ht, ih]

theorem lookupTx_none : lookupTx S h = none ↔ h ∉ hashes S := by
  simp [lookupTx_eq_find?, hashes]

theorem lookupTx_of_mem (hnd : (hashes S).Nodup) (ht : t ∈ S) :
    lookupTx S t.hash = some t := by
  induction S with
  | nil => cases ht
  | cons u us ih =>
    rw [hashes_cons, List.nodup_cons] at hnd
    rcases List.mem_cons.mp ht with rfl | ht'
    · simp [lookupTx]
    · have : u.hash ≠ t.hash := fun he => hnd.1 (he ▸ hash_mem ht')
      simp only [lookupTx, this, if_false]
      exact ih hnd.2 ht'

end

theorem lookupTx_some {S : List Tx} {h : Nat} {t : Tx} (hl : lookupTx S h = some t) : t ∈ S ∧ t.hash = h := by
  rw [lookupTx_eq_find?] at hl
  exact ⟨List.mem_of_find?_eq_some hl, by simpa using List.find?_some hl⟩

/-- Edges contributed by one transaction, in input order. -/
def edgesOfTx (S : List Tx) (c : Tx) : List (Nat × Nat) :=
  (c.ins.filter fun i => (hashes S).contains i.1).map fun i => (i.1, c.hash)

theorem edges_eq (S : List Tx) : edges S = S.flatMap (edgesOfTx S) := rfl

section
variable {S : List Tx} {e : Nat × Nat}

theorem mem_edges {p c : Nat} :
    (p, c) ∈ edges S ↔ ∃ t ∈ S, t.hash = c ∧ p ∈ hashes S ∧ ∃ i ∈ t.ins, i.1 = p := by
  simp only [edges, List.mem_flatMap, List.mem_map, List.mem_filter, List.contains_iff_mem, Prod.mk.injEq]
  constructor
  · rintro ⟨t, ht, i, ⟨hi, hm⟩, rfl, rfl⟩
    exact ⟨t, ht, rfl, hm, i, hi, rfl⟩
  · rintro ⟨t, ht, rfl, hm, i, hi, rfl⟩
    exact ⟨t, ht, i, ⟨hi, hm⟩, rfl, rfl⟩

theorem edges_fst_mem (he : e ∈ edges S) : e.1 ∈ hashes S :=
  let ⟨_, _, _, hm, _⟩ := mem_edges.mp he; hm

theorem edges_snd_mem (he : e ∈ edges S) : ∃ t ∈ S, t.hash = e.2 :=
  let ⟨t, ht, hc, _⟩ := mem_edges.mp he; ⟨t, ht, hc⟩

end

/-- children recorded for `h`, in edge order -/
def outOf (E : List (Nat × Nat)) (h : Nat) : List Nat := (E.filter fun e => e.1 == h).map (·.2)
def degOf (E : List (Nat × Nat)) (h : Nat) : Nat := E.countP fun e => e.2 == h

section
variable (E F : List (Nat × Nat)) (p c h : Nat)

theorem outOf_append : outOf (E ++ F) h = outOf E h ++ outOf F h := by
  simp [outOf]

theorem degOf_append : degOf (E ++ F) h = degOf E h + degOf F h := by
  simp [degOf]

theorem outOf_singleton : outOf [(p, c)] h = if p = h then [c] else [] := by
  by_cases hp : p = h <;> simp [outOf, hp]

theorem degOf_singleton : degOf [(p, c)] h = if c = h then 1 else 0 := by
  by_cases hc : c = h <;> simp [degOf, hc]

end

theorem mem_outOf {E : List (Nat × Nat)} {h c : Nat} : c ∈ outOf E h ↔ (h, c) ∈ E := by
  simp [outOf]

/-- State of `makeGraph` after the edges `E` have been recorded. -/
structure GInv (S : List Tx) (g : Graph) (E : List (Nat × Nat)) : Prop where
  out : ∀ h, (g.get h).outEdges = outOf E h
  deg : ∀ h, (g.get h).inDegree = degOf E h
  val : ∀ h, g.has h = true → (g.get h).value = lookupTx S h
  noself : ∀ e ∈ E, e.1 ≠ e.2

section
variable {S : List Tx} {g : Graph} {E : List (Nat × Nat)} {c : Tx} {i : Nat × Nat} {h : Nat}

/-- Storing a node that carries the right transaction keeps `GInv.val`; `makeGraph` changes the graph in no other way. -/
theorem val_set (hv : ∀ h, g.has h = true → (g.get h).value = lookupTx S h) {k : Nat} {n : Node}
    (hn : n.value = lookupTx S k) (h : Nat) (hh : (g.set k n).has h = true) :
    ((g.set k n).get h).value = lookupTx S h := by
  rw [Graph.get_set]
  split
  · next hk => rw [← hk, hn]
  · next hk => exact hv h (by simpa [Graph.has_set, hk] using hh)

theorem GInv.stepInput (hg : GInv S g E) (hc : lookupTx S c.hash = some c) (hi : i.1 ≠ c.hash) :
    GInv S (addInput S c g i) (E ++ if (hashes S).contains i.1 then [(i.1, c.hash)] else []) := by
  cases hl : lookupTx S i.1 with
  | none => simpa [addInput, hl, lookupTx_none.mp hl] using hg
  | some p =>
    have hm : i.1 ∈ hashes S := (lookupTx_some hl).2 ▸ hash_mem (lookupTx_some hl).1
    -- the "skip duplicate edges" test looks for the parent among its own children
    have hdup : (g.get i.1).outEdges.contains i.1 = false := by
      rw [hg.out, Bool.eq_false_iff]
      exact fun hcon => hg.noself _ (mem_outOf.mp (List.contains_iff_mem.mp hcon)) rfl
    have hp : (g.get i.1).value.or (some p) = some p := by
      by_cases hh : g.has i.1 = true
      · rw [hg.val _ hh, hl]; rfl
      · rw [Graph.get_of_not_has (Bool.not_eq_true _ ▸ hh)]; rfl
    have hget : ∀ h, (addInput S c g i).get h =
        ⟨if c.hash = h then some c else if i.1 = h then some p else (g.get h).value,
         (g.get h).outEdges ++ if i.1 = h then [c.hash] else [],
         (g.get h).inDegree + if c.hash = h then 1 else 0⟩ := by
      intro h
      simp only [addInput, hl, hdup, Bool.false_eq_true, if_false, Graph.get_set, hi, hp]
      by_cases h1 : c.hash = h
      · simp [h1, h1 ▸ hi]
      · by_cases h2 : i.1 = h <;> simp [h1, h2]
    rw [if_pos (List.contains_iff_mem.mpr hm)]
    refine ⟨fun h => ?_, fun h => ?_, fun h hh => ?_, fun e he => ?_⟩
    · rw [hget, outOf_append, outOf_singleton, hg.out]
    · rw [hget, degOf_append, degOf_singleton, hg.deg]
    · simp only [addInput, hl, hdup, Bool.false_eq_true, if_false] at hh ⊢
      exact val_set (val_set hg.val (hp.trans hl.symm)) hc.symm h hh
    · exact (List.mem_append.mp he).elim (hg.noself e) (List.mem_singleton.mp · ▸ hi)

theorem GInv.foldInputs (hc : lookupTx S c.hash = some c) (ins : List (Nat × Nat))
    (hins : ∀ i ∈ ins, i.1 ≠ c.hash) (hg : GInv S g E) :
    GInv S (ins.foldl (addInput S c) g)
      (E ++ (ins.filter fun i => (hashes S).contains i.1).map fun i => (i.1, c.hash)) := by
  induction ins generalizing g E with
  | nil => simpa using hg
  | cons i is ih =>
    have h2 := ih (fun j hj => hins j (List.mem_cons_of_mem _ hj)) (hg.stepInput hc (hins i List.mem_cons_self))
    by_cases hm : i.1 ∈ hashes S <;> simpa [List.filter_cons, hm] using h2

theorem GInv.stepTx (hg : GInv S g E) (hc : lookupTx S c.hash = some c) (hins : ∀ i ∈ c.ins, i.1 ≠ c.hash) :
    GInv S (addTx S g c) (E ++ edgesOfTx S c) := by
  refine GInv.foldInputs hc _ hins ?_
  by_cases hh : g.has c.hash = true
  · simpa [hh] using hg
  · rw [if_neg hh]
    have hget : ∀ h, (g.set c.hash ⟨some c, [], 0⟩).get h =
        ⟨if c.hash = h then some c else (g.get h).value, (g.get h).outEdges, (g.get h).inDegree⟩ := by
      intro h
      rw [Graph.get_set]
      split
      · next h1 => rw [← h1, Graph.get_of_not_has (Bool.not_eq_true _ ▸ hh)]; rfl
      · rfl
    exact ⟨fun h => hget h ▸ hg.out h, fun h => hget h ▸ hg.deg h, val_set hg.val hc.symm, hg.noself⟩

theorem GInv.foldTxs (l : List Tx) (hl : ∀ c ∈ l, lookupTx S c.hash = some c ∧ ∀ i ∈ c.ins, i.1 ≠ c.hash)
    (hg : GInv S g E) : GInv S (l.foldl (addTx S) g) (E ++ l.flatMap (edgesOfTx S)) := by
  induction l generalizing g E with
  | nil => simpa using hg
  | cons c cs ih =>
    have h1 := hg.stepTx (hl c List.mem_cons_self).1 (hl c List.mem_cons_self).2
    simpa using ih (fun d hd => hl d (List.mem_cons_of_mem _ hd)) h1

theorem has_addInput (hh : g.has h = true) : (addInput S c g i).has h = true := by
  unfold Kahn.addInput
  cases hl : lookupTx S i.1 with
  | none => simpa [hl] using hh
  | some parentTx =>
    simp only [hl]
    split
    · exact hh
    · simp [Graph.has_set, hh]

theorem has_addTx (hh : g.has h = true ∨ c.hash = h) : (addTx S g c).has h = true := by
  refine List.foldlRecOn (motive := fun g => Graph.has g h = true) _ _ ?_ fun _ hh _ _ => has_addInput hh
  split
  · next hc => rcases hh with hh | rfl <;> assumption
  · rcases hh with hh | hh <;> simp [Graph.has_set, hh]

theorem has_foldl_addTx {l : List Tx} (hc : c ∈ l) : (l.foldl (addTx S) g).has c.hash = true := by
  obtain ⟨l₁, l₂, rfl⟩ := List.append_of_mem hc
  rw [List.foldl_append, List.foldl_cons]
  exact List.foldlRecOn (motive := fun g => Graph.has g c.hash = true) l₂ _ (has_addTx (Or.inr rfl)) fun _ hh _ _ => has_addTx (Or.inl hh)

end

def NoSelf (S : List Tx) : Prop := ∀ c ∈ S, ∀ i ∈ c.ins, i.1 ≠ c.hash

theorem makeGraph_inv {S : List Tx} (hnd : (hashes S).Nodup) (hns : NoSelf S) :
    GInv S (makeGraph S) (edges S) := by
  have h0 : GInv S [] [] := ⟨fun _ => rfl, fun _ => rfl, fun _ hh => (nomatch hh), fun _ he => (nomatch he)⟩
  simpa [makeGraph, edges_eq] using h0.foldTxs S fun c hc => ⟨lookupTx_of_mem hnd hc, hns c hc⟩

/-- Every node of `makeGraph`'s result carries its transaction (never the nil pointer). -/
theorem makeGraph_value {S : List Tx} (hnd : (hashes S).Nodup) (hns : NoSelf S) {t : Tx} (ht : t ∈ S) :
    (makeGraph S).has t.hash = true ∧ ((makeGraph S).get t.hash).value = some t := by
  have hh : (makeGraph S).has t.hash = true := has_foldl_addTx ht
  exact ⟨hh, by rw [(makeGraph_inv hnd hns).val _ hh, lookupTx_of_mem hnd ht]⟩

section
variable {r r' : Nat → Nat → Prop} {a b c : Nat}

theorem Reach.trans (h1 : Reach r a b) (h2 : Reach r b c) : Reach r a c := by
  induction h1 with
  | single h => exact Reach.cons h h2
  | cons h _ ih => exact Reach.cons h (ih h2)

theorem Reach.mono (hrr : ∀ a b, r a b → Reach r' a b) (h : Reach r a b) : Reach r' a b := by
  induction h with
  | single h => exact hrr _ _ h
  | cons h _ ih => exact (hrr _ _ h).trans ih

end

theorem exists_cycle_of_all_have_parent (R : List Nat) :
    ∀ (r : Nat → Nat → Prop), R ≠ [] → (∀ x ∈ R, ∃ y ∈ R, r y x) → ∃ x, Reach r x x := by
  induction R with
  | nil => intro r h; exact absurd rfl h
  | cons a R' ih =>
    intro r _ hpar
    by_cases haa : r a a
    · exact ⟨a, Reach.single haa⟩
    -- `a` has a parent `w` among the others; contract `a`: y →' z  iff  y → z  or  y → a → z
    obtain ⟨w, hw, hwa⟩ := hpar a List.mem_cons_self
    have hw' : w ∈ R' := (List.mem_cons.mp hw).resolve_left fun e => haa (e ▸ hwa)
    obtain ⟨x, hx⟩ := ih (fun y z => r y z ∨ (r y a ∧ r a z)) (List.ne_nil_of_mem hw') fun z hz => by
      obtain ⟨y, hy, hyz⟩ := hpar z (List.mem_cons_of_mem _ hz)
      rcases List.mem_cons.mp hy with rfl | hy
      · exact ⟨w, hw', Or.inr ⟨hwa, hyz⟩⟩
      · exact ⟨y, hy, Or.inl hyz⟩
    refine ⟨x, hx.mono ?_⟩
    rintro u v (h | ⟨h1, h2⟩)
    · exact Reach.single h
    · exact Reach.cons h1 (Reach.single h2)

theorem Acyclic.noSelf {S : List Tx} (hd : Acyclic S) : NoSelf S :=
  fun c hc i hi he => hd c.hash (Reach.single (mem_edges.mpr ⟨c, hc, rfl, hash_mem hc, i, hi, he⟩))

/-- edges into `h` from parents that are not in `em` (not yet emitted) -/
def remDeg (E : List (Nat × Nat)) (em : List Nat) (h : Nat) : Nat :=
  E.countP fun e => e.2 == h && !em.contains e.1

theorem remDeg_nil (E : List (Nat × Nat)) (h : Nat) : remDeg E [] h = degOf E h := by
  simp [remDeg, degOf]

/-- Emitting `n` (not emitted before) moves exactly the edges `n → h` out of the remaining in-degree of `h`. -/
theorem remDeg_emit (E : List (Nat × Nat)) (em : List Nat) (n h : Nat) (hn : n ∉ em) :
    remDeg E em h = remDeg E (em ++ [n]) h + (outOf E n).count h := by
  unfold remDeg outOf
  rw [List.countP_eq_countP_filter_add E _ (fun e => e.1 == n), Nat.add_comm, List.countP_filter,
    List.count_eq_countP, List.countP_map]
  congr 1
  · exact List.countP_congr fun e _ => by simp [and_assoc]
  · refine List.countP_congr fun e he => ?_
    have h1 : e.1 = n := by simpa using (List.mem_filter.mp he).2
    simp [h1, hn]

/-- parents-first so far: every edge into an emitted node comes from an earlier emitted node -/
def Closed (E : List (Nat × Nat)) (l : List Nat) : Prop :=
  ∀ e ∈ E, e.2 ∈ l → l.idxOf e.1 < l.idxOf e.2

theorem Closed.snoc {E : List (Nat × Nat)} {l : List Nat} (hc : Closed E l) {x : Nat} (hx : x ∉ l)
    (hpar : ∀ e ∈ E, e.2 = x → e.1 ∈ l) : Closed E (l ++ [x]) := by
  intro e he hmem
  rcases List.mem_append.mp hmem with h2 | h2
  · have hlt := hc e he h2
    have h1 : e.1 ∈ l := List.idxOf_lt_length_iff.mp (Nat.lt_trans hlt (List.idxOf_lt_length_iff.mpr h2))
    simpa [List.idxOf_append, h1, h2] using hlt
  · have h2 := List.mem_singleton.mp h2
    have h1 : e.1 ∈ l := hpar e he h2
    rw [List.idxOf_append, List.idxOf_append, h2, if_pos h1, if_neg hx]
    have := List.idxOf_lt_length_iff.mpr h1
    omega

/-- Invariant of `DependencySort`'s loop.  `sorted` = emitted so far, `s` = work list, `rest` = the out-edges of
the transaction emitted last that the inner `for` loop has not visited yet.  Two clauses carry the proof: `deg` (in-degree
= edges from parents not yet emitted + the decrements `rest` still owes) and `zero` (in-degree 0 ⇔ emitted or on the work
list), which `LInv.complete` turns into "every node left over has a parent left over". -/
structure LInv (S : List Tx) (g : Graph) (sorted s : List Tx) (rest : List Nat) : Prop where
  out : ∀ h, (g.get h).outEdges = outOf (edges S) h
  val : ∀ t ∈ S, (g.get t.hash).value = some t
  deg : ∀ h, (g.get h).inDegree = remDeg (edges S) (hashes sorted) h + rest.count h
  zero : ∀ t ∈ S, (t.hash ∈ hashes sorted ∨ t.hash ∈ hashes s) ↔ (g.get t.hash).inDegree = 0
  mem : ∀ t, t ∈ sorted ∨ t ∈ s → t ∈ S
  nodup : (hashes sorted ++ hashes s).Nodup
  restH : ∀ m ∈ rest, ∃ t ∈ S, t.hash = m
  closed : Closed (edges S) (hashes sorted)

section
variable {S : List Tx} {g : Graph} {sorted s : List Tx} {rest : List Nat} {t : Tx}

theorem LInv.pop (h : LInv S g sorted (t :: s) []) : LInv S g (sorted ++ [t]) s (outOf (edges S) t.hash) := by
  have hnd : (hashes sorted ++ t.hash :: hashes s).Nodup := h.nodup
  have hn : t.hash ∉ hashes sorted := fun hmem =>
    (List.nodup_append.mp hnd).2.2 _ hmem _ List.mem_cons_self rfl
  have hdeg : ∀ x, (g.get x).inDegree = remDeg (edges S) (hashes sorted) x := h.deg
  refine ⟨h.out, h.val, fun x => ?_, fun u hu => ?_, fun u hu => h.mem u ?_, ?_,
    fun m hm => edges_snd_mem (mem_outOf.mp hm), ?_⟩
  · rw [hdeg, hashes_append]
    exact remDeg_emit _ _ _ _ hn
  · rw [← h.zero u hu]
    simp [or_assoc]
  · simpa [or_assoc] using hu
  · simpa using hnd
  · have hz : remDeg (edges S) (hashes sorted) t.hash = 0 :=
      (hdeg _).symm.trans ((h.zero t (h.mem t (Or.inr List.mem_cons_self))).mp (Or.inr List.mem_cons_self))
    rw [hashes_append]
    refine h.closed.snoc hn fun e he h2 => ?_
    simpa [h2] using List.countP_eq_zero.mp hz e he

/-- Without edges the loop would only move the work list to the output, which is what the `len(s) == len(txs)`
shortcut returns. -/
theorem LInv.flush (hE : edges S = []) (h : LInv S g sorted s []) : LInv S g (sorted ++ s) [] [] := by
  induction s generalizing sorted with
  | nil => rwa [List.append_nil]
  | cons t s ih =>
    have h1 := h.pop
    rw [hE] at h1
    simpa using ih h1

theorem relax_spec (hne : (g.get t.hash).inDegree ≠ 0) (hv : (g.get t.hash).value = some t) :
    (∀ y, (relax (g, s) t.hash).1.get y = ⟨(g.get y).value, (g.get y).outEdges,
        if t.hash = y then (g.get y).inDegree - 1 else (g.get y).inDegree⟩) ∧
      (relax (g, s) t.hash).2 = if (g.get t.hash).inDegree - 1 = 0 then s ++ [t] else s := by
  simp only [relax, hne, ne_eq, not_false_eq_true, if_true, hv]
  refine ⟨fun y => ?_, by split <;> rfl⟩
  rw [← hv, apply_ite Prod.fst, ite_self, Graph.get_set]
  split
  · next hy => rw [hy]
  · rfl

/-- one iteration of the inner `for _, mHash := range n.outEdges` -/
theorem LInv.relaxStep {m : Nat} (h : LInv S g sorted s (m :: rest)) :
    LInv S (relax (g, s) m).1 sorted (relax (g, s) m).2 rest := by
  obtain ⟨t, htS, rfl⟩ := h.restH m List.mem_cons_self
  have hd : (g.get t.hash).inDegree = remDeg (edges S) (hashes sorted) t.hash + (rest.count t.hash + 1) := by
    rw [h.deg, List.count_cons_self]
  have hne : (g.get t.hash).inDegree ≠ 0 := hd ▸ Nat.succ_ne_zero _
  have hnot : ¬ (t.hash ∈ hashes sorted ∨ t.hash ∈ hashes s) := fun hc => hne ((h.zero t htS).mp hc)
  obtain ⟨hget, hs⟩ := relax_spec (s := s) hne (h.val t htS)
  generalize (relax (g, s) t.hash).1 = g' at hget ⊢
  rw [hs]
  have hdeg : ∀ x, (g'.get x).inDegree = if t.hash = x then (g.get x).inDegree - 1 else (g.get x).inDegree :=
    fun x => by rw [hget]
  refine ⟨fun x => hget x ▸ h.out x, fun u hu => hget u.hash ▸ h.val u hu, fun x => ?_, fun u hu => ?_,
    fun u hu => ?_, ?_, fun m hm => h.restH m (List.mem_cons_of_mem _ hm), h.closed⟩
  · rw [hdeg]
    split
    · next hx => rw [← hx, hd]; rfl
    · next hx => rw [h.deg x, List.count_cons_of_ne hx]
  · rw [hdeg]
    by_cases hx : t.hash = u.hash
    · rw [if_pos hx, ← hx]
      split
      · next hz => simp [hz]
      · next hz => simp [hz, hnot]
    · rw [if_neg hx, ← h.zero u hu]
      split <;> simp [Ne.symm hx]
  · refine hu.elim (fun hu => h.mem u (Or.inl hu)) fun hu => ?_
    split at hu
    · exact (List.mem_append.mp hu).elim (fun hu => h.mem u (Or.inr hu)) (List.mem_singleton.mp · ▸ htS)
    · exact h.mem u (Or.inr hu)
  · split
    · rw [hashes_append, ← List.append_assoc, List.nodup_append]
      refine ⟨h.nodup, List.pairwise_singleton _ _, fun a ha b hb hab => hnot ?_⟩
      rw [hab, List.mem_singleton.mp hb] at ha
      exact List.mem_append.mp ha
    · exact h.nodup

theorem LInv.relaxAll (rest : List Nat) {g : Graph} {s : List Tx} (h : LInv S g sorted s rest) :
    LInv S (rest.foldl relax (g, s)).1 sorted (rest.foldl relax (g, s)).2 [] := by
  induction rest generalizing g s with
  | nil => exact h
  | cons m rest ih => exact ih h.relaxStep

theorem LInv.length_le (h : LInv S g sorted s rest) : sorted.length + s.length ≤ S.length := by
  have := List.Nodup.length_le_of_subset h.nodup (l₂ := hashes S) (by
    intro x hx
    rw [← hashes_append] at hx
    obtain ⟨t, ht, rfl⟩ := mem_hashes.mp hx
    exact hash_mem (h.mem t (List.mem_append.mp ht)))
  simpa using this

end

/-- The `for len(s) != 0` loop ends with an empty work list (the fuel is never exhausted) in a state that still
satisfies the invariant. -/
theorem sortLoop_inv {S : List Tx} (fuel : Nat) {g : Graph} {s sorted : List Tx}
    (h : LInv S g sorted s []) (hf : S.length + 1 ≤ fuel + sorted.length) :
    ∃ g', LInv S g' (sortLoop fuel g s sorted) [] [] := by
  induction fuel generalizing g s sorted with
  | zero =>
    have := h.length_le
    omega
  | succ fuel ih =>
    cases s with
    | nil => exact ⟨g, h⟩
    | cons tx s =>
      have h1 := h.pop
      rw [← h.out tx.hash] at h1
      refine ih h1.relaxAll ?_
      rw [List.length_append, List.length_singleton]
      omega

theorem LInv.complete {S : List Tx} {g : Graph} {out : List Tx} (h : LInv S g out [] [])
    (hd : Acyclic S) : ∀ t ∈ S, t.hash ∈ hashes out := by
  intro t ht
  apply Classical.byContradiction
  intro hnot
  -- `R`: the hashes not emitted; each of them still has a parent in `R`
  let R := (hashes S).filter fun x => !(hashes out).contains x
  have hpar : ∀ x ∈ R, ∃ y ∈ R, (fun p c => (p, c) ∈ edges S) y x := by
    intro x hx
    have hx' := List.mem_filter.mp hx
    obtain ⟨t, ht, rfl⟩ := mem_hashes.mp hx'.1
    have hnot : t.hash ∉ hashes out := by simpa using hx'.2
    have hpos : remDeg (edges S) (hashes out) t.hash ≠ 0 := fun hz =>
      hnot (((h.zero t ht).mpr ((h.deg t.hash).trans hz)).resolve_right (by simp))
    obtain ⟨e, he, hp⟩ := List.countP_pos_iff.mp (Nat.pos_of_ne_zero hpos)
    simp only [Bool.and_eq_true, beq_iff_eq, Bool.not_eq_true', List.contains_eq_mem,
      decide_eq_false_iff_not] at hp
    exact ⟨e.1, List.mem_filter.mpr ⟨edges_fst_mem he, by simpa using hp.2⟩, hp.1 ▸ he⟩
  have hR : t.hash ∈ R := List.mem_filter.mpr ⟨hash_mem ht, by simpa using hnot⟩
  obtain ⟨x, hx⟩ := exists_cycle_of_all_have_parent R _ (List.ne_nil_of_mem hR) hpar
  exact hd x hx

theorem graphRoots_spec {S : List Tx} {G : Graph}
    (hval : ∀ t ∈ S, G.has t.hash = true ∧ (G.get t.hash).value = some t)
    (ro : List Nat) (hro : ∀ h ∈ ro, h ∈ hashes S) :
    hashes (graphRoots G ro) = ro.filter (fun h => (G.get h).inDegree == 0) ∧
      ∀ t ∈ graphRoots G ro, t ∈ S := by
  induction ro with
  | nil => exact ⟨rfl, fun t ht => nomatch ht⟩
  | cons h ro ih =>
    obtain ⟨ih1, ih2⟩ := ih fun x hx => hro x (List.mem_cons_of_mem _ hx)
    obtain ⟨t, ht, rfl⟩ := mem_hashes.mp (hro h List.mem_cons_self)
    have hcons : graphRoots G (t.hash :: ro) =
        if (G.get t.hash).inDegree = 0 then t :: graphRoots G ro else graphRoots G ro := by
      simp only [graphRoots, List.filterMap_cons, Graph.find?_of_has (hval t ht).1, (hval t ht).2]
      by_cases hz : (G.get t.hash).inDegree = 0 <;> simp only [hz, if_true, if_false]
    rw [hcons, List.filter_cons]
    by_cases hz : (G.get t.hash).inDegree = 0
    · simp only [hz, if_true, beq_self_eq_true, hashes_cons, ih1, true_and]
      exact fun u hu => (List.mem_cons.mp hu).elim (· ▸ ht) (ih2 u)
    · simpa [hz] using ⟨ih1, ih2⟩

/-- Covers the `len(s) == len(txs)` shortcut too. -/
theorem dependencySort_inv {S : List Tx} (hnd : (hashes S).Nodup) (hns : NoSelf S) {ro : List Nat}
    (hro : ro.Perm (hashes S)) : ∃ g, LInv S g (dependencySort S ro) [] [] := by
  have hinv := makeGraph_inv hnd hns
  have hval := fun t ht => makeGraph_value hnd hns (t := t) ht
  obtain ⟨hr1, hr2⟩ := graphRoots_spec hval ro fun h hh => hro.mem_iff.mp hh
  have h0 : LInv S (makeGraph S) [] (graphRoots (makeGraph S) ro) [] := by
    refine ⟨hinv.out, fun t ht => (hval t ht).2, fun h => ?_, fun t ht => ?_,
      fun t ht => ht.elim (nomatch ·) (hr2 t), ?_, fun m hm => (nomatch hm), fun e _ h2 => (nomatch h2)⟩
    · rw [hinv.deg h]
      exact (remDeg_nil _ _).symm
    · have : t.hash ∈ ro := hro.mem_iff.mpr (hash_mem ht)
      simp [hr1, List.mem_filter, this]
    · rw [hr1]
      exact (hro.nodup_iff.mpr hnd).sublist List.filter_sublist
  unfold dependencySort
  dsimp only
  split
  · next hlen =>
    -- every hash is a root, so there is no edge at all
    have hl : (ro.filter fun h => ((makeGraph S).get h).inDegree == 0).length = ro.length := by
      rw [← hr1, hro.length_eq, length_hashes, length_hashes, hlen]
    have hE : edges S = [] := List.eq_nil_iff_forall_not_mem.mpr fun e he => by
      obtain ⟨t, ht, hte⟩ := edges_snd_mem he
      have hz := List.length_filter_eq_length_iff.mp hl _ (hro.mem_iff.mpr (hash_mem ht))
      rw [beq_iff_eq, hinv.deg] at hz
      simpa [hte] using List.countP_eq_zero.mp hz e he
    exact ⟨_, h0.flush hE⟩
  · exact sortLoop_inv (S.length + 1) h0 (Nat.le_refl _)

theorem nodup_of_hashes {l : List Tx} (h : (hashes l).Nodup) : l.Nodup :=
  List.Pairwise.of_map (·.hash) (fun _ _ hne hab => hne (hab ▸ rfl)) h

section
variable {S S' : List Tx} (hp : S.Perm S')
-- every lemma of this section takes `hp` first
include hp

theorem hashes_perm : (hashes S).Perm (hashes S') := hp.map _

theorem mem_edges_perm {e : Nat × Nat} : e ∈ edges S ↔ e ∈ edges S' := by
  obtain ⟨p, c⟩ := e
  simp only [mem_edges, (hashes_perm hp).mem_iff, hp.mem_iff]

theorem Acyclic.perm (hd : Acyclic S) : Acyclic S' :=
  fun h hr => hd h (hr.mono fun _ _ hab => Reach.single ((mem_edges_perm hp).mpr hab))

end

theorem dependencySort_spec {S txOrder : List Tx} {ro : List Nat} (hnd : (hashes S).Nodup) (hd : Acyclic S)
    (htx : txOrder.Perm S) (hro : ro.Perm (hashes S)) :
    (dependencySort txOrder ro).Perm S ∧ ∀ e ∈ edges S,
      (hashes (dependencySort txOrder ro)).idxOf e.1 < (hashes (dependencySort txOrder ro)).idxOf e.2 := by
  have hnd' : (hashes txOrder).Nodup := (hashes_perm htx).nodup_iff.mpr hnd
  have hd' : Acyclic txOrder := hd.perm htx.symm
  obtain ⟨_, h⟩ := dependencySort_inv hnd' hd'.noSelf (hro.trans (hashes_perm htx).symm)
  have hmem := fun t ht => h.mem t (Or.inl ht)
  refine ⟨.trans ?_ htx, fun e he => ?_⟩
  · refine (List.perm_ext_iff_of_nodup (nodup_of_hashes (by simpa using h.nodup)) (nodup_of_hashes hnd')).mpr
      fun t => ⟨hmem t, fun ht => ?_⟩
    obtain ⟨u, hu, hut⟩ := mem_hashes.mp (h.complete hd' t ht)
    exact hnd'.inj_of_map (f := Tx.hash) (hmem u hu) ht hut ▸ hu
  · -- `Closed` speaks of the edges into emitted nodes, and every node is emitted
    have he' := (mem_edges_perm htx).mpr he
    obtain ⟨t, ht, hte⟩ := edges_snd_mem he'
    exact h.closed e he' (hte ▸ h.complete hd' t ht)

/-- a ranking (e.g. creation time) that strictly increases along every spend edge witnesses acyclicity -/
theorem acyclic_of_rank {S : List Tx} (rank : Nat → Nat)
    (hr : ∀ e ∈ edges S, rank e.1 < rank e.2) : Acyclic S := by
  have key : ∀ a b, Reach (fun p c => (p, c) ∈ edges S) a b → rank a < rank b := by
    intro a b hab
    induction hab with
    | single h => exact hr _ h
    | cons h _ ih => exact Nat.lt_trans (hr _ h) ih
  exact fun h hh => Nat.lt_irrefl _ (key h h hh)

/-- one peeling round: keep the hashes that still have a parent among the kept ones -/
def peelStep (E : List (Nat × Nat)) (R : List Nat) : List Nat :=
  R.filter fun x => R.any fun y => E.contains (y, x)

def peel (E : List (Nat × Nat)) : Nat → List Nat → List Nat
  | 0, R => R
  | k + 1, R => peel E k (peelStep E R)

/-- Decision procedure for `Acyclic` (`acyclicB_iff`): after `|S|` peeling rounds nothing is left. -/
def acyclicB (S : List Tx) : Bool := (peel (edges S) S.length (hashes S)).isEmpty

theorem mem_peelStep {E : List (Nat × Nat)} {R : List Nat} {x : Nat} :
    x ∈ peelStep E R ↔ x ∈ R ∧ ∃ y ∈ R, (y, x) ∈ E := by
  simp [peelStep, List.mem_filter]

theorem cycle_parent {r : Nat → Nat → Prop} {x : Nat} (h : Reach r x x) : ∃ y, r y x ∧ Reach r y y := by
  -- the last step `y → b` of a walk `a ⇝ b`; `a = y` if it is the only step
  have last : ∀ {a b}, Reach r a b → ∃ y, r y b ∧ (a = y ∨ Reach r a y) := by
    intro a b h
    induction h with
    | single h => exact ⟨_, h, Or.inl rfl⟩
    | cons h _ ih =>
      obtain ⟨y, hy, hor⟩ := ih
      exact ⟨y, hy, Or.inr (hor.elim (· ▸ Reach.single h) (Reach.cons h))⟩
  obtain ⟨y, hy, rfl | hor⟩ := last h
  · exact ⟨_, hy, Reach.single hy⟩
  · exact ⟨y, hy, Reach.cons hy hor⟩

theorem peel_keeps_cycles {E : List (Nat × Nat)} (k : Nat) (R : List Nat)
    (hR : ∀ x, Reach (fun p c => (p, c) ∈ E) x x → x ∈ R) :
    ∀ x, Reach (fun p c => (p, c) ∈ E) x x → x ∈ peel E k R := by
  induction k generalizing R with
  | zero => exact hR
  | succ k ih =>
    refine ih _ fun x hx => ?_
    obtain ⟨y, hyx, hy⟩ := cycle_parent hx
    exact mem_peelStep.mpr ⟨hR x hx, y, hR y hy, hyx⟩

theorem peel_length_le {E : List (Nat × Nat)} (hac : ∀ h, ¬ Reach (fun p c => (p, c) ∈ E) h h)
    (k : Nat) (R : List Nat) : (peel E k R).length ≤ R.length - k := by
  induction k generalizing R with
  | zero => exact Nat.le_refl _
  | succ k ih =>
    have h1 : (peel E (k + 1) R).length ≤ (peelStep E R).length - k := ih (peelStep E R)
    by_cases hne : R = []
    · subst hne
      simpa [peelStep] using h1
    · -- nothing dropped: every hash has a parent, hence a cycle
      have : (peelStep E R).length < R.length := by
        refine Nat.lt_of_le_of_ne (List.length_filter_le _ _) fun heq => ?_
        obtain ⟨x, hx⟩ := exists_cycle_of_all_have_parent R (fun p c => (p, c) ∈ E) hne fun x hx => by
          simpa using List.length_filter_eq_length_iff.mp heq x hx
        exact hac x hx
      omega

theorem acyclicB_iff (S : List Tx) : acyclicB S = true ↔ Acyclic S := by
  unfold acyclicB
  rw [List.isEmpty_iff]
  constructor
  · intro hnil h hh
    have hmem : ∀ x, Reach (fun p c => (p, c) ∈ edges S) x x → x ∈ hashes S := by
      intro x hx
      obtain ⟨y, hyx, _⟩ := cycle_parent hx
      obtain ⟨t, ht, rfl⟩ := edges_snd_mem hyx
      exact hash_mem ht
    exact nomatch hnil ▸ peel_keeps_cycles S.length (hashes S) hmem h hh
  · intro hac
    have := peel_length_le hac S.length (hashes S)
    rw [length_hashes, Nat.sub_self] at this
    exact List.eq_nil_of_length_eq_zero (Nat.le_zero.mp this)

instance (S : List Tx) : Decidable (Acyclic S) := decidable_of_iff _ (acyclicB_iff S)

end Kahn
