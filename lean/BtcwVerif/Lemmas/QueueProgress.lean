/-
Progress lemmas for C18 (existence of worker/consumer schedules; bound on worker steps after Stop).
-/
import BtcwVerif.Lemmas.Queue
namespace Queue
variable {α : Type}

/-- Steps a draining run may use: the worker's sends / default, the consumer's receive / block.  No producer.
A new label is not a drain step unless it is listed here (the every-schedule theorems then do not speak of it). -/
def Label.isDrain : Label α → Bool
  | .w .sendFront | .w .sendItem | .w .dflt | .e .consume | .e .wait => true
  | _ => false

def Label.isWorker : Label α → Bool
  | .w _ => true
  | .e _ => false

def Label.isWorkerNoRecv : Label α → Bool
  | .w (.recvIn _) => false
  | .w _ => true
  | .e _ => false

/-- `s'` is reached from `s` under `expectedTable` by at most `n` steps, all with labels in `P`. -/
def RunsIn (P : Label α → Prop) (s : State α) (n : Nat) (s' : State α) : Prop :=
  ∃ tr : List (Label α), (∀ l ∈ tr, P l) ∧ tr.length ≤ n ∧ run expectedTable s tr = some s'

namespace RunsIn
variable {P : Label α → Prop} {s s1 s' : State α} {n m : Nat}

theorem refl (s : State α) : RunsIn P s 0 s := ⟨[], nofun, Nat.le_refl _, rfl⟩

theorem cons {l : Label α} (hs : step expectedTable s l = some s1) (hl : P l) :
    RunsIn P s1 n s' → RunsIn P s (n + 1) s'
  | ⟨tr, hP, hn, hr⟩ =>
    ⟨l :: tr, List.forall_mem_cons.mpr ⟨hl, hP⟩, Nat.succ_le_succ hn, run_cons_eq_some.mpr ⟨_, hs, hr⟩⟩

theorem le : RunsIn P s n s' → n ≤ m → RunsIn P s m s'
  | ⟨tr, hP, hl, hr⟩, hn => ⟨tr, hP, Nat.le_trans hl hn, hr⟩

end RunsIn

section
variable {c : Nat} {s s' : State α} {l : Label α}

/-- From the nested `select` one worker step (the send if it can proceed, else `default`) leads back to the loop head without
`Stop()` or a producer; the last conjunct is the price in the length bound of `drain_all`: the item moved to `out` (+1) or
to the empty overflow list (+2). -/
theorem inner_to_top (hI : Inv c s) (hq : s.quitClosed = false) {cs : List ICase}
    (hpc : s.pc = .inner cs) :
    ∃ l s1, (l = WLabel.sendItem ∨ l = WLabel.dflt) ∧ step expectedTable s (.w l) = some s1 ∧ s1.pc = .top ∧
      s1.quitClosed = false ∧ s1.accepted = s.accepted ∧
      s1.out.length + 2 * s1.overflow.length ≤ s.out.length + 2 := by
  obtain ⟨rfl, hh, hov, -, -⟩ := hI.inner cs hpc
  obtain ⟨x, hx⟩ := Option.isSome_iff_exists.mp hh
  cases hw : s.waiting with
  | true => exact ⟨_, _, .inl rfl, step_of_Move hI (.sendItemDirect hpc hx hw), rfl, hq, rfl, by simp [hov]⟩
  | false =>
    rcases Nat.lt_or_ge s.out.length s.cap with hroom | hfull
    · exact ⟨_, _, .inl rfl, step_of_Move hI (.sendItemBuf hpc hx hw hroom), rfl, hq, rfl, by simp [hov]⟩
    · exact ⟨_, _, .inr rfl, step_of_Move hI (.dflt hpc hx hw hfull hq), rfl, hq, rfl, by simp⟩

theorem Inv.drained (hI : Inv c s) (hpc : s.pc = .top) (ho : s.out = [])
    (hv : s.overflow = []) : s.delivered = s.accepted := by
  simp [hI.top_acc hpc, ho, hv]

theorem drain_top (c : Nat) : ∀ (n : Nat) (s : State α), Inv c s → s.pc = .top → s.quitClosed = false →
    s.out.length + s.overflow.length = n →
    ∃ s', RunsIn (Label.isDrain · = true) s (s.out.length + 2 * s.overflow.length) s' ∧
      s'.delivered = s.accepted ∧ s'.accepted = s.accepted
  | 0, s, hI, hpc, _, hn =>
    have h0 := Nat.add_eq_zero_iff.mp hn
    ⟨s, .le (.refl s) (Nat.zero_le _),
      hI.drained hpc (List.eq_nil_of_length_eq_zero h0.1) (List.eq_nil_of_length_eq_zero h0.2), rfl⟩
  | n + 1, s, hI, hpc, hq, hn => by
    cases ho : s.out with
    | cons x o =>
      have hs := step_of_Move hI (.consume ho)
      obtain ⟨s', hr, h⟩ := drain_top c n _ (inv_step hI hs) hpc hq (by simp +arith [ho] at hn ⊢; exact hn)
      exact ⟨s', .le (.cons hs rfl hr) (by simp +arith), h⟩
    | nil =>
      cases hv : s.overflow with
      | nil => simp [ho, hv] at hn
      | cons f r =>
        -- make sure the consumer is blocked on the empty channel, then the worker hands the front over directly
        obtain ⟨hr0, hI0⟩ : (∀ {n s'}, RunsIn (Label.isDrain · = true) { s with waiting := true } n s' →
            RunsIn (Label.isDrain · = true) s (n + 1) s') ∧ Inv c { s with waiting := true } := by
          cases hw : s.waiting with
          | true =>
            have : s = { s with waiting := true } := by cases s; cases hw; rfl
            exact this ▸ ⟨fun h => .le h (Nat.le_succ _), hI⟩
          | false =>
            have hs := step_of_Move hI (.wait ho hw)
            exact ⟨.cons hs rfl, inv_step hI hs⟩
        have hs := step_of_Move hI0 (.sendFrontDirect hpc hv rfl)
        obtain ⟨s', hr, h⟩ := drain_top c n _ (inv_step hI0 hs) hpc hq (by simp +arith [ho, hv] at hn ⊢; exact hn)
        exact ⟨s', .le (hr0 (.cons hs rfl hr)) (by simp +arith [ho]), h⟩

theorem drain_all (hI : Inv c s) (hq : s.quitClosed = false) :
    ∃ s', RunsIn (Label.isDrain · = true) s (s.out.length + 2 * s.overflow.length + 3) s' ∧
      s'.delivered = s.accepted ∧ s'.accepted = s.accepted := by
  cases hpc : s.pc with
  | exited => exact absurd hpc (hI.not_exited hq)
  | top =>
    obtain ⟨s', hr, h⟩ := drain_top c _ s hI hpc hq rfl
    exact ⟨s', .le hr (by omega), h⟩
  | inner cs =>
    obtain ⟨l, s1, hl, hs, hpc1, hq1, hacc1, hlen⟩ := inner_to_top hI hq hpc
    obtain ⟨s', hr, h⟩ := drain_top c _ s1 (inv_step hI hs) hpc1 hq1 rfl
    exact ⟨s', .le (.cons hs (by rcases hl with rfl | rfl <;> rfl) hr) (by omega), hacc1 ▸ h⟩

/-- Bound on the worker/consumer steps still possible when no producer offers anything and the consumer never gives up.
Every stage an item passes lowers its weight: in hand 4 → overflow 3 → `out` 2 → delivered 0; the last stage weighs 2
because a direct hand-off unblocks the consumer (the last summand goes up by 1), who then has a `wait` step again.
(The schedule `drain_top` constructs needs fewer steps, `|out| + 2·|overflow|`: it hands the front of the overflow list to
the blocked consumer directly.) -/
def drainMeasure (s : State α) : Nat :=
  4 * s.held.toList.length + 3 * s.overflow.length + 2 * s.out.length + (if s.waiting then 0 else 1)

theorem drain_step_decreases (hI : Inv c s)
    (hl : Label.isDrain l = true) (h : step expectedTable s l = some s') : drainMeasure s' < drainMeasure s := by
  cases (step_iff hI).mp h with
  | consume ho => simp [drainMeasure, ho]
  | wait ho hw => simp [drainMeasure, hw]
  | sendFrontDirect hpc hov hw => simp +arith [drainMeasure, hov, hw]
  | sendFrontBuf hpc hov hw => simp +arith [drainMeasure, hov, hw]
  | sendItemDirect hpc hx hw => simp +arith [drainMeasure, hx, hw]
  | sendItemBuf hpc hx hw => simp +arith [drainMeasure, hx, hw]
  | dflt hpc hx hw => simp [drainMeasure, hx, hw, hI.inner _ hpc]
  | _ => cases hl

theorem drain_bound (tr : List (Label α)) (s s' : State α) (hI : Inv c s) (hq : s.quitClosed = false)
    (hl : ∀ l ∈ tr, Label.isDrain l = true) (h : run expectedTable s tr = some s') :
    tr.length + drainMeasure s' ≤ drainMeasure s ∧ Inv c s' ∧ s'.quitClosed = false ∧ s'.accepted = s.accepted :=
  run_measure (m := drainMeasure)
    (Q := fun s1 => Inv c s1 ∧ s1.quitClosed = false ∧ s1.accepted = s.accepted)
    (fun ⟨hI1, hq1, ha1⟩ hl hs => ⟨drain_step_decreases hI1 hl hs, inv_step hI1 hs,
      ((step_frame hI1 hs).1 (by rintro rfl; cases hl)).trans hq1,
      ((step_frame hI1 hs).2 (by rintro x rfl; cases hl)).trans ha1⟩)
    tr ⟨hI, hq, rfl⟩ hl h

theorem drain_stuck (hI : Inv c s) (hq : s.quitClosed = false)
    (hstuck : ∀ l : Label α, Label.isDrain l = true → step expectedTable s l = none) :
    s.delivered = s.accepted ∧ s.out = [] ∧ s.overflow = [] := by
  -- the draining schedule of `drain_all` cannot take a first step, so it is empty and `s` is where it ends
  obtain ⟨s', ⟨tr, hP, -, hr⟩, hd, -⟩ := drain_all hI hq
  cases tr with
  | cons l tr =>
    obtain ⟨_, hs, -⟩ := run_cons_eq_some.mp hr
    exact nomatch (hstuck l (hP l List.mem_cons_self)).symm.trans hs
  | nil =>
    cases hr
    have hacc := hI.acc
    rw [← hd] at hacc
    simp only [List.append_assoc, List.self_eq_append_right, List.append_eq_nil_iff] at hacc
    exact ⟨hd, hacc.1, hacc.2.1⟩

theorem recv_enabled_top (hI : Inv c s) (hpc : s.pc = .top) (x : α) :
    ∃ s1, step expectedTable s (.w (.recvIn x)) = some s1 ∧ s1.accepted = s.accepted ++ [x] ∧
      s1.quitClosed = s.quitClosed := by
  cases hv : s.overflow with
  | nil => exact ⟨_, step_of_Move hI (.recvEmpty x hpc hv), rfl, rfl⟩
  | cons f r => exact ⟨_, step_of_Move hI (.recvNonEmpty x hpc hv), rfl, rfl⟩

theorem accept_one (hI : Inv c s) (hq : s.quitClosed = false) (x : α) :
    ∃ s1, (∀ {n s'}, RunsIn (Label.isWorker · = true) s1 n s' → RunsIn (Label.isWorker · = true) s (n + 2) s') ∧
      Inv c s1 ∧ s1.accepted = s.accepted ++ [x] ∧ s1.quitClosed = false := by
  cases hpc : s.pc with
  | exited => exact absurd hpc (hI.not_exited hq)
  | top =>
    obtain ⟨s1, hs, ha, hq1⟩ := recv_enabled_top hI hpc x
    exact ⟨s1, fun h => .le (.cons hs rfl h) (Nat.le_succ _), inv_step hI hs, ha, hq1.trans hq⟩
  | inner cs =>
    obtain ⟨l, s0, -, hs0, hpc0, hq0, ha0, -⟩ := inner_to_top hI hq hpc
    obtain ⟨s1, hs, ha, hq1⟩ := recv_enabled_top (inv_step hI hs0) hpc0 x
    exact ⟨s1, fun h => .cons hs0 rfl (.cons hs rfl h), inv_step (inv_step hI hs0) hs, ha0 ▸ ha, hq1.trans hq0⟩

theorem burst_accepted : ∀ (xs : List α) (s : State α), Inv c s → s.quitClosed = false →
    ∃ s', RunsIn (Label.isWorker · = true) s (2 * xs.length) s' ∧ s'.accepted = s.accepted ++ xs ∧
      s'.quitClosed = false
  | [], s, _, hq => ⟨s, .refl s, by simp, hq⟩
  | x :: xs, s, hI, hq => by
    obtain ⟨s1, pre, hI1, ha1, hq1⟩ := accept_one hI hq x
    obtain ⟨s', hr, ha, hq'⟩ := burst_accepted xs s1 hI1 hq1
    exact ⟨s', pre hr, by simp [ha, ha1], hq'⟩

/-- The nested select never blocks (it has a `default`) and every clause of it leaves it. -/
theorem inner_nonblocking (hI : Inv c s) (cs : List ICase) (hpc : s.pc = .inner cs) :
    (∃ l s1, step expectedTable s (.w l) = some s1) ∧
    (∀ l s1, step expectedTable s (.w l) = some s1 → s1.pc = .top ∨ s1.pc = .exited) := by
  constructor
  · cases hq : s.quitClosed with
    | true => exact ⟨_, _, step_of_Move hI (.quit (.inr ((hI.inner cs hpc).1 ▸ hpc)) hq)⟩
    | false =>
      obtain ⟨l, s1, -, hs, -⟩ := inner_to_top hI hq hpc
      exact ⟨l, s1, hs⟩
  · intro l s1 hs
    cases (step_iff hI).mp hs with
    | recvEmpty _ hp => exact nomatch hp.symm.trans hpc
    | recvNonEmpty _ hp | sendFrontDirect hp | sendFrontBuf hp => exact .inl hp
    | sendItemDirect | sendItemBuf | dflt => exact .inl rfl
    | quit => exact .inr rfl

theorem quit_enabled (hI : Inv c s) (hq : s.quitClosed = true) (hpc : s.pc ≠ .exited) :
    ∃ s', step expectedTable s (.w .quit) = some s' ∧ s'.pc = .exited := by
  refine ⟨_, step_of_Move hI (.quit ?_ hq), rfl⟩
  cases hp : s.pc with
  | exited => exact absurd hp hpc
  | top => exact .inl rfl
  | inner cs => exact .inr (by rw [(hI.inner cs hp).1])

theorem exited_dead (t : Table) (hpc : s.pc = .exited) (l : WLabel α) : step t s (.w l) = none := by
  simp [step, wstep, curCases, hpc]

theorem env_step_pc {l : ELabel} (hI : Inv c s)
    (h : step expectedTable s (.e l) = some s') : s'.pc = s.pc := by
  cases (step_iff hI).mp h <;> rfl

/-- Bound on the worker steps still possible after `Stop()` in a schedule of worker steps alone (no producer offers
anything, the consumer takes nothing out of `chanOut`). -/
def stopMeasure (s : State α) : Nat :=
  match s.pc with
  | .exited => 0
  | _ => 1 + (s.cap - s.out.length) + (if s.waiting then 1 else 0)

theorem stopMeasure_le (hI : Inv c s) : stopMeasure s ≤ c + 2 := by
  have h1 := hI.capc
  unfold stopMeasure
  split
  · omega
  · split <;> omega

theorem stop_step_decreases (hI : Inv c s) (hq : s.quitClosed = true)
    (hl : Label.isWorkerNoRecv l = true) (h : step expectedTable s l = some s') :
    stopMeasure s' < stopMeasure s := by
  cases (step_iff hI).mp h with
  | dflt _ _ _ _ hq' => exact nomatch hq'.symm.trans hq
  | quit hpc => rcases hpc with hp | hp <;> simp +arith [stopMeasure, hp]
  | sendFrontDirect hpc hov hw => simp [stopMeasure, hpc, hw]
  | sendFrontBuf hpc hov hw hroom => simp [stopMeasure, hpc, hw]; omega
  | sendItemDirect hpc hx hw => simp [stopMeasure, hpc, hw]
  | sendItemBuf hpc hx hw hroom => simp [stopMeasure, hpc, hw]; omega
  | _ => cases hl

theorem stop_bound (tr : List (Label α)) (s s' : State α) (hI : Inv c s) (hq : s.quitClosed = true)
    (hl : ∀ l ∈ tr, Label.isWorkerNoRecv l = true) (h : run expectedTable s tr = some s') :
    tr.length + stopMeasure s' ≤ stopMeasure s :=
  (run_measure (m := stopMeasure) (Q := fun s1 => Inv c s1 ∧ s1.quitClosed = true)
    (fun ⟨hI1, hq1⟩ hl hs => ⟨stop_step_decreases hI1 hq1 hl hs, inv_step hI1 hs,
      ((step_frame hI1 hs).1 (by rintro rfl; cases hl)).trans hq1⟩)
    tr ⟨hI, hq⟩ hl h).1

theorem sendItem_only_if_overflow_empty (hI : Inv c s)
    (h : step expectedTable s (.w .sendItem) = some s') :
    s.overflow = [] ∧ (∃ x, s.held = some x ∧ (s'.delivered = s.delivered ++ [x] ∨ s'.out = s.out ++ [x])) := by
  cases (step_iff hI).mp h with
  | sendItemDirect hpc hx => exact ⟨(hI.inner _ hpc).2.2.1, _, hx, .inl rfl⟩
  | sendItemBuf hpc hx => exact ⟨(hI.inner _ hpc).2.2.1, _, hx, .inr rfl⟩

end

/-! ### Vocabulary of `Props/C18` (`C18_direct_handoff_only_if_overflow_empty`, `C18_mutant_direct_handoff_reorders`) -/

/-- Does a clause (or its nested select) send `item` straight to `chanOut`? -/
def OCase.sendsItem (c : OCase) : Bool :=
  c.kind == .sendItem || c.body.any fun
    | .select cs => cs.any (·.kind == .sendItem)
    | .simple _ => false

/-- The mutant of seed C18-1 (DESIGN §11.1, row C18): the `nextElement != nil` branch also tries the direct hand-off. -/
def mutantDirectHandoff : Table :=
  { expectedTable with onNonEmpty :=
      [⟨.recvIn, [.select expectedInner]⟩, ⟨.sendFront, [.simple .removeFront]⟩, ⟨.quit, [.simple .ret]⟩] }

end Queue
