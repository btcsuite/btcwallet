/-
Lemmas about the recovery model (C16): the birthday-block binary search (`locateLoop_spec`) and ONE branch's recovery state:
the invariant `BranchOK`, the horizon expansion (`expand_spec : BranchOK → Expanded`) and `Resurrect` (`resurrect_ok`).
-/
import BtcwVerif.Lemmas.RecoveryDefs

namespace Recovery

/-! Statement vocabulary of `C16_birthday_*`: `Mono`. -/

def Mono (ts : Nat → Int) (best : Nat) : Prop := ∀ i j, i ≤ j → j ≤ best → ts i ≤ ts j

/-- When the search stops at the midpoint for one of its three reasons, the midpoint is `l` and the interval has at
    most two points. -/
theorem mid_stop {l r best : Nat} (hlr : l ≤ r) (hrb : r ≤ best)
    (h : l + (r - l) / 2 = 0 ∨ l + (r - l) / 2 = best ∨ l + (r - l) / 2 = l) :
    l + (r - l) / 2 = l ∧ r ≤ l + 1 := by omega

theorem mid_between {l r : Nat} (hlr : l ≤ r) (h : l + (r - l) / 2 ≠ l) :
    l < l + (r - l) / 2 ∧ l + (r - l) / 2 < r := by omega

/-- The binary search, with `right - left < fuel`: it returns; every iteration either returns or strictly shrinks
    `right - left`.  "Not late" follows from the invariant `left = 0 ∨ ts left - b < -delta`, "not early" from
    `right = best ∨ ts right - b > delta`.  No monotonicity of `ts` is needed. -/
theorem locateLoop_spec (ts : Nat → Int) (b delta : Int) (best : Nat) :
    ∀ (fuel left right : Nat), left ≤ right → right ≤ best → right - left < fuel →
      ∃ r, locateLoop ts b delta best fuel left right = some r ∧ r ≤ right ∧
        (0 ≤ delta →
          ((left = 0 ∨ ts left - b < -delta) → r = 0 ∨ ts r ≤ b + delta) ∧
          ((right = best ∨ ts right - b > delta) →
            best ≤ r + 1 ∨ -delta ≤ ts r - b ∨ ts (r + 1) - b > delta)) := by
  intro fuel
  induction fuel with
  | zero => intro _ _ _ _ h; exact absurd h (Nat.not_lt_zero _)
  | succ fuel ih =>
    intro left right hlr hrb hf
    have hstop := mid_stop hlr hrb
    have hgo := mid_between hlr
    simp only [locateLoop]
    generalize left + (right - left) / 2 = mid at hstop hgo ⊢
    by_cases h : mid = 0 ∨ mid = best ∨ mid = left
    · rw [if_pos h]
      obtain ⟨rfl, h1⟩ := hstop h
      clear hstop hgo ih h
      refine ⟨_, rfl, hlr, fun hd => ⟨?_, ?_⟩⟩
      · rintro (h0 | hlt)
        · exact Or.inl h0
        · exact Or.inr (by omega)
      · have : right = mid ∨ right = mid + 1 := by omega
        rcases this with rfl | rfl
        · rintro (rfl | hgt)
          · exact Or.inl (Nat.le_succ _)
          · exact Or.inr (Or.inl (by omega))
        · rintro (rfl | hgt)
          · exact Or.inl (Nat.le_refl _)
          · exact Or.inr (Or.inr hgt)
    · rw [if_neg h]
      obtain ⟨h1, h2⟩ := hgo (fun e => h (Or.inr (Or.inr e)))
      clear hstop hgo h
      by_cases hgt : ts mid - b > delta
      · rw [if_pos hgt]
        obtain ⟨r, hr, hle, hp⟩ := ih left mid (Nat.le_of_lt h1) (Nat.le_trans (Nat.le_of_lt h2) hrb) (by omega)
        exact ⟨r, hr, Nat.le_trans hle (Nat.le_of_lt h2), fun hd => ⟨(hp hd).1, fun _ => (hp hd).2 (Or.inr hgt)⟩⟩
      · rw [if_neg hgt]
        by_cases hlt : ts mid - b < -delta
        · rw [if_pos hlt]
          obtain ⟨r, hr, hle, hp⟩ := ih mid right (Nat.le_of_lt h2) hrb (by omega)
          exact ⟨r, hr, hle, fun hd => ⟨fun _ => (hp hd).1 (Or.inr hlt), (hp hd).2⟩⟩
        · rw [if_neg hlt]
          exact ⟨mid, rfl, Nat.le_of_lt h2,
            fun hd => ⟨fun _ => Or.inr (by omega), fun _ => Or.inr (Or.inl (by omega))⟩⟩

theorem locateBirthdayBlock_spec (ts : Nat → Int) (b delta : Int) (best : Nat) :
    ∃ r, locateBirthdayBlock ts b delta best = some r ∧ r ≤ best ∧
      (0 ≤ delta → (r = 0 ∨ ts r ≤ b + delta) ∧
        (best ≤ r + 1 ∨ -delta ≤ ts r - b ∨ ts (r + 1) - b > delta)) := by
  obtain ⟨r, hr, hle, hp⟩ :=
    locateLoop_spec ts b delta best (best + 2) 0 best (Nat.zero_le _) (Nat.le_refl _) (by omega)
  exact ⟨r, hr, hle, fun hd => ⟨(hp hd).1 (Or.inl rfl), (hp hd).2 (Or.inl rfl)⟩⟩

/-- The returned block is not needlessly early: it is one of the last two blocks, or its timestamp is
    `≥ birthday - delta` (within tolerance), or the very next block is already later than `birthday + delta`. -/
theorem birthday_not_early (ts : Nat → Int) (b delta : Int) (hd : 0 ≤ delta) (best : Nat) (r : Nat)
    (h : locateBirthdayBlock ts b delta best = some r) :
    best ≤ r + 1 ∨ -delta ≤ ts r - b ∨ ts (r + 1) - b > delta := by
  obtain ⟨r', hr', _, hp⟩ := locateBirthdayBlock_spec ts b delta best
  cases hr'.symm.trans h
  exact (hp hd).2

/-! Non-vacuity: a monotone chain of 6 blocks, timestamps 0,10,20,30,40,50. -/

/-- birthday 31, tolerance 2: the search returns block 3 (timestamp 30), a middle block. -/
example : locateBirthdayBlock (fun h => 10 * (h : Int)) 31 2 5 = some 3 := by decide
/-- birthday 25, tolerance 2: nothing in tolerance; the search returns block 2 (timestamp 20 ≤ 25 + 2, and block 3 is later). -/
example : locateBirthdayBlock (fun h => 10 * (h : Int)) 25 2 5 = some 2 := by decide
example : Mono (fun h => 10 * (h : Int)) 5 := by
  intro i j hij _; show 10 * (i : Int) ≤ 10 * (j : Int); omega

def numInv (inv : List Nat) (nu n : Nat) : Nat :=
  ((List.range n).filter (fun i => decide (nu ≤ i) && inv.contains i)).length

def numValid (inv : List Nat) (nu n : Nat) : Nat :=
  ((List.range n).filter (fun i => decide (nu ≤ i) && !inv.contains i)).length

theorem length_filter_range_succ (p : Nat → Bool) (n : Nat) :
    ((List.range (n + 1)).filter p).length = ((List.range n).filter p).length + if p n then 1 else 0 := by
  rw [List.range_succ, List.filter_append, List.length_append]
  cases h : p n <;> simp [h]

theorem numInv_succ_valid {inv : List Nat} {n : Nat} (h : inv.contains n = false) (nu : Nat) :
    numInv inv nu (n + 1) = numInv inv nu n := by
  simp only [numInv, length_filter_range_succ, h, Bool.and_false, Bool.false_eq_true, if_false, Nat.add_zero]

theorem numInv_succ_le (inv : List Nat) (nu n : Nat) : numInv inv nu (n + 1) ≤ numInv inv nu n + 1 := by
  simp only [numInv, length_filter_range_succ]
  split <;> omega

theorem numValid_add_numInv (inv : List Nat) (nu n : Nat) : numValid inv nu n + numInv inv nu n = n - nu := by
  induction n with
  | zero => exact (Nat.zero_sub nu).symm
  | succ n ih =>
    simp only [numValid, numInv, length_filter_range_succ] at ih ⊢
    generalize (List.filter _ (List.range n)).length = V at ih ⊢
    generalize (List.filter _ (List.range n)).length = I at ih ⊢
    by_cases h1 : nu ≤ n
    · -- exactly one of the two counts grows
      rw [decide_eq_true h1, Nat.succ_sub h1, ← ih]
      cases inv.contains n
      · exact Nat.add_right_comm V 1 I
      · rfl
    · rw [decide_eq_false h1, Nat.sub_eq_zero_of_le (Nat.lt_of_not_ge h1)]
      rw [Nat.sub_eq_zero_of_le (Nat.le_of_lt (Nat.lt_of_not_ge h1))] at ih
      exact ih

theorem foldl_max_le (l : List Nat) : ∀ m n,
    l.foldl (fun m i => max m (i + 1)) m ≤ n ↔ m ≤ n ∧ ∀ i ∈ l, i < n := by
  induction l with
  | nil => intro m n; simp
  | cons a l ih =>
    intro m n
    rw [List.foldl_cons, ih, List.forall_mem_cons, Nat.max_le, and_assoc]
    rfl

theorem invBound_le_iff {l : List Nat} {n : Nat} : invBound l ≤ n ↔ ∀ i ∈ l, i < n :=
  (foldl_max_le l 0 n).trans (and_iff_right (Nat.zero_le n))

theorem lt_invBound {inv : List Nat} {i : Nat} (h : inv.contains i = true) : i < invBound inv :=
  invBound_le_iff.mp (Nat.le_refl _) i (List.contains_iff_mem.mp h)

/-! Statement vocabulary of `C16_branch_*`: `OKat`, `BranchOK`. -/

/-- Well-formedness of a branch w.r.t. the true invalid set, "up to index `n`". -/
structure OKat (inv : List Nat) (b : Branch) (n : Nat) : Prop where
  watched : ∀ i, i < n → Valid inv i → i ∈ b.addrs
  marked  : ∀ i, b.nextUnfound ≤ i → i < n → inv.contains i = true → i ∈ b.invalid
  sound   : ∀ i, i ∈ b.invalid → inv.contains i = true
  nodup   : b.invalid.Nodup

def BranchOK (inv : List Nat) (b : Branch) : Prop := OKat inv b b.horizon

theorem OKat.mono {inv : List Nat} {b : Branch} {n m : Nat} (h : OKat inv b n) (hm : m ≤ n) : OKat inv b m :=
  ⟨fun i hi => h.watched i (Nat.lt_of_lt_of_le hi hm), fun i h1 h2 => h.marked i h1 (Nat.lt_of_lt_of_le h2 hm),
   h.sound, h.nodup⟩

theorem nodup_insert {l : List Nat} (a : Nat) (h : l.Nodup) : (l.insert a).Nodup := by
  by_cases ha : a ∈ l
  · rw [List.insert_of_mem ha]; exact h
  · rw [List.insert_of_not_mem ha]; exact List.nodup_cons.mpr ⟨ha, h⟩

theorem branchOK_new (inv : List Nat) (w : Nat) : BranchOK inv (Branch.new w) :=
  ⟨fun _ hi => absurd hi (Nat.not_lt_zero _), fun _ _ hi => absurd hi (Nat.not_lt_zero _),
   fun _ hi => absurd hi List.not_mem_nil, List.nodup_nil⟩

theorem reportFound_nextUnfound (b : Branch) (i : Nat) :
    (b.reportFound i).nextUnfound = max b.nextUnfound (i + 1) := by
  unfold Branch.reportFound
  split
  · exact (Nat.max_eq_right (Nat.le_succ_of_le ‹_›)).symm
  · exact (Nat.max_eq_left (Nat.lt_of_not_ge ‹_›)).symm

theorem reportFound_horizon (b : Branch) (i : Nat) : (b.reportFound i).horizon = b.horizon := by
  unfold Branch.reportFound; split <;> rfl

theorem reportFound_window (b : Branch) (i : Nat) : (b.reportFound i).window = b.window := by
  unfold Branch.reportFound; split <;> rfl

theorem OKat.reportFound {inv : List Nat} {b : Branch} {n : Nat} (h : OKat inv b n) (i : Nat) :
    OKat inv (b.reportFound i) n := by
  unfold Branch.reportFound
  split
  · rename_i hi
    refine ⟨h.watched, fun j hj hjn hinv => ?_, fun j hj => h.sound j (List.mem_filter.mp hj).1,
      List.Nodup.sublist List.filter_sublist h.nodup⟩
    have hij : ¬ j < i := Nat.not_lt.mpr (Nat.le_of_succ_le hj)
    exact List.mem_filter.mpr ⟨h.marked j (Nat.le_trans hi (Nat.le_of_succ_le hj)) hjn hinv, by simp [hij]⟩
  · exact h

theorem branchOK_reportFound {inv : List Nat} {b : Branch} (h : BranchOK inv b) (i : Nat) :
    BranchOK inv (b.reportFound i) := by
  unfold BranchOK
  rw [reportFound_horizon]
  exact OKat.reportFound h i

theorem OKat.addAddr {inv : List Nat} {b : Branch} {n : Nat} (hok : OKat inv b n) (hinv : inv.contains n = false) :
    OKat inv (b.addAddr n) (n + 1) := by
  refine ⟨fun i hi hv => List.mem_insert_iff.mpr ?_, fun i h1 h2 h3 => ?_, hok.sound, hok.nodup⟩
  · rcases Nat.lt_succ_iff_lt_or_eq.mp hi with hi | rfl
    · exact Or.inr (hok.watched i hi hv)
    · exact Or.inl rfl
  · rcases Nat.lt_succ_iff_lt_or_eq.mp h2 with h2 | rfl
    · exact hok.marked i h1 h2 h3
    · rw [hinv] at h3; cases h3

theorem OKat.markInvalid {inv : List Nat} {b : Branch} {n : Nat} (hok : OKat inv b n) (hinv : inv.contains n = true) :
    OKat inv (b.markInvalid n) (n + 1) := by
  refine ⟨fun i hi hv => ?_, fun i h1 h2 h3 => List.mem_insert_iff.mpr ?_, fun i hi => ?_, nodup_insert _ hok.nodup⟩
  · rcases Nat.lt_succ_iff_lt_or_eq.mp hi with hi | rfl
    · exact hok.watched i hi hv
    · rw [Valid, hinv] at hv; cases hv
  · rcases Nat.lt_succ_iff_lt_or_eq.mp h2 with h2 | rfl
    · exact Or.inr (hok.marked i h1 h2 h3)
    · exact Or.inl rfl
  · rcases List.mem_insert_iff.mp hi with rfl | hi
    · exact hinv
    · exact hok.sound i hi

/-- The recorded invalid children in `[nextUnfound, horizon)` are at least the true ones: the true ones are a
    duplicate-free list all of whose members are recorded. -/
theorem BranchOK.numInv_le {inv : List Nat} {b : Branch} (h : BranchOK inv b) :
    numInv inv b.nextUnfound b.horizon ≤ b.numInvalidInHorizon := by
  apply List.Nodup.length_le_of_subset (List.Nodup.sublist List.filter_sublist List.nodup_range)
  intro i hi
  simp only [List.mem_filter, List.mem_range, Bool.and_eq_true, decide_eq_true_eq] at hi ⊢
  exact ⟨h.marked i hi.2.1 hi.1 hi.2.2, hi.2.1, hi.1⟩

/-- `b'` is `b` with its horizon pushed out far enough: "invalid children extend the horizon". -/
structure Expanded (inv : List Nat) (b b' : Branch) : Prop where
  ok : BranchOK inv b'
  nextUnfound_eq : b'.nextUnfound = b.nextUnfound
  window_eq : b'.window = b.window
  horizon_ge : b'.nextUnfound + b'.window + numInv inv b'.nextUnfound b'.horizon ≤ b'.horizon

theorem Expanded.horizon_le {inv : List Nat} {b b' : Branch} (h : Expanded inv b b') :
    b'.nextUnfound + b'.window ≤ b'.horizon :=
  Nat.le_trans (Nat.le_add_right _ _) h.horizon_ge

theorem Expanded.watched {inv : List Nat} {b b' : Branch} (h : Expanded inv b b') (i : Nat)
    (hi : i < b.nextUnfound + b.window) (hv : Valid inv i) : i ∈ b'.addrs :=
  h.ok.watched i (Nat.lt_of_lt_of_le (h.nextUnfound_eq ▸ h.window_eq ▸ hi) h.horizon_le) hv

theorem Expanded.count {inv : List Nat} {b b' : Branch} (h : Expanded inv b b') :
    b'.window ≤ numValid inv b'.nextUnfound b'.horizon := by
  have := numValid_add_numInv inv b'.nextUnfound b'.horizon
  have := h.horizon_ge
  omega

/-- Loop lemma for `deriveLoop`: with enough fuel (`todo` valid children still to derive plus all invalid
    indexes `≥ child`), the invariant `horizon = child + todo`, the branch well-formed up to `child`, and
    `horizon ≥ nextUnfound + window + #invalid in [nextUnfound, child)`. -/
theorem deriveLoop_spec (inv : List Nat) : ∀ (fuel : Nat) (b : Branch) (todo child : Nat),
    todo + (invBound inv - child) < fuel → b.horizon = child + todo → OKat inv b child →
    b.nextUnfound + b.window + numInv inv b.nextUnfound child ≤ b.horizon →
    Expanded inv b (deriveLoop (fun i => inv.contains i) fuel b todo child) := by
  intro fuel
  induction fuel with
  | zero => intro _ _ _ hf; exact absurd hf (Nat.not_lt_zero _)
  | succ fuel ih =>
    intro b todo child hf hh hok hn
    cases todo with
    | zero =>
      have hc : b.horizon = child := hh
      exact ⟨hc ▸ hok, rfl, rfl, hc ▸ hn⟩
    | succ todo' =>
      rw [deriveLoop]
      cases hinv : inv.contains child
      · -- valid child: AddAddr
        have r := ih (b.addAddr child) todo' (child + 1)
          (Nat.lt_of_le_of_lt (Nat.add_le_add_left (Nat.sub_le_sub_left (Nat.le_succ child) _) todo')
            (show todo' + (invBound inv - child) + 1 ≤ fuel from
              Nat.add_right_comm todo' 1 _ ▸ Nat.le_of_lt_succ hf))
          (show b.horizon = _ by rw [hh, Nat.add_assoc, Nat.add_comm 1])
          (hok.addAddr hinv) (by rw [numInv_succ_valid hinv]; exact hn)
        exact ⟨r.ok, r.nextUnfound_eq, r.window_eq, r.horizon_ge⟩
      · -- invalid child: MarkInvalidChild; it is below `invBound`, so the fuel still suffices
        have e : invBound inv - (child + 1) + 1 = invBound inv - child := by
          rw [Nat.sub_add_eq, Nat.sub_add_cancel (Nat.sub_pos_of_lt (lt_invBound hinv))]
        rw [← e] at hf
        have r := ih (b.markInvalid child) (todo' + 1) (child + 1) (Nat.lt_of_succ_lt_succ hf)
          (show b.horizon + 1 = _ by rw [hh, Nat.add_right_comm])
          (hok.markInvalid hinv)
          (Nat.le_trans (Nat.add_le_add_left (numInv_succ_le inv b.nextUnfound child) _) (Nat.succ_le_succ hn))
        exact ⟨r.ok, r.nextUnfound_eq, r.window_eq, r.horizon_ge⟩

theorem extendHorizon_eq (b : Branch) :
    b.extendHorizon =
      ((b.horizon, max b.horizon (b.nextUnfound + b.window + b.numInvalidInHorizon) - b.horizon),
       { b with horizon := max b.horizon (b.nextUnfound + b.window + b.numInvalidInHorizon) }) := by
  simp only [Branch.extendHorizon]
  split
  · rename_i h; rw [Nat.max_eq_left h, Nat.sub_self]
  · rename_i h; rw [Nat.max_eq_right (Nat.le_of_not_ge h)]

/-- In particular the fuel `expand` gives to `deriveLoop` is never exhausted. -/
theorem expand_spec {inv : List Nat} {b : Branch} (h : BranchOK inv b) : Expanded inv b (expand inv b) := by
  simp only [expand, extendHorizon_eq]
  have r := deriveLoop_spec inv _ { b with horizon := max b.horizon _ } _ b.horizon (Nat.lt_succ_self _)
    (Nat.add_sub_of_le (Nat.le_max_left _ _)).symm ⟨h.watched, h.marked, h.sound, h.nodup⟩
    (show b.nextUnfound + b.window + _ ≤ max _ _ from
      Nat.le_trans (Nat.add_le_add_left h.numInv_le _) (Nat.le_max_right _ _))
  exact ⟨r.ok, r.nextUnfound_eq, r.window_eq, r.horizon_ge⟩

theorem resurrect_fold (w : Nat) (inv : List Nat) : ∀ count, ∃ b,
    (List.range count).foldl (fun b i => if inv.contains i then b.markInvalid i else b.addAddr i) (Branch.new w) = b ∧
    OKat inv b count ∧ b.nextUnfound = 0 ∧ b.window = w ∧ b.horizon ≤ count := by
  intro count
  induction count with
  | zero => exact ⟨_, rfl, branchOK_new inv w, rfl, rfl, Nat.le_refl _⟩
  | succ k ih =>
    obtain ⟨b, hb, h1, h2, h3, h4⟩ := ih
    rw [List.range_succ, List.foldl_append, hb]
    cases hinv : inv.contains k
    · exact ⟨b.addAddr k, by simp only [List.foldl_cons, List.foldl_nil, hinv]; rfl, h1.addAddr hinv, h2, h3, Nat.le_succ_of_le h4⟩
    · exact ⟨b.markInvalid k, by simp only [List.foldl_cons, List.foldl_nil, hinv]; rfl, h1.markInvalid hinv, h2, h3, Nat.succ_le_succ h4⟩

/-- The resurrected branch is well-formed up to its horizon, which is small (`resurrect_fold`: at most `count`; the
    horizon is not restored), and has `nextUnfound = count`: the next `expand` re-derives the window. -/
theorem resurrect_ok (w : Nat) (inv : List Nat) (count : Nat) :
    BranchOK inv (resurrectBranch w inv count) ∧
    (resurrectBranch w inv count).nextUnfound = count ∧
    (resurrectBranch w inv count).window = w := by
  obtain ⟨b, hb, h1, h2, h3, h4⟩ := resurrect_fold w inv count
  simp only [resurrectBranch, hb]
  split
  · refine ⟨?_, ?_, ?_⟩
    · unfold BranchOK; rw [reportFound_horizon]; exact (h1.reportFound _).mono h4
    · rw [reportFound_nextUnfound, h2, Nat.zero_max, Nat.sub_add_cancel ‹_›]
    · rw [reportFound_window]; exact h3
  · cases Nat.eq_zero_of_not_pos ‹_›
    exact ⟨h1.mono h4, h2, h3⟩

/-! ### Non-vacuity: children 2 and 3 invalid, window 2 -/

/-- From a fresh branch: children 0,1 are watched, horizon 2 (no invalid child met yet). -/
example : expand [2, 3] (Branch.new 2) = ⟨2, 2, 0, [1, 0], []⟩ := by decide
/-- After child 1 was found (`nextUnfound = 2`): the loop meets the invalid children 2 and 3, records them, and
    still derives two valid children 4 and 5; horizon = 2 + 2 + 2 = 6. -/
example : expand [2, 3] ((expand [2, 3] (Branch.new 2)).reportFound 1) = ⟨2, 6, 2, [5, 4, 1, 0], [3, 2]⟩ := by decide
/-- A second expansion with nothing new found changes nothing (the two recorded invalid children are counted). -/
example : expand [2, 3] (expand [2, 3] ((expand [2, 3] (Branch.new 2)).reportFound 1)) =
    ⟨2, 6, 2, [5, 4, 1, 0], [3, 2]⟩ := by decide
/-- Resurrect with 3 keys known (children 0,1 valid, 2 invalid): horizon restarts at 1, `nextUnfound = 3`. -/
example : resurrectBranch 2 [2, 3] 3 = ⟨2, 1, 3, [1, 0], [2]⟩ := by decide
/-- …and the next expansion watches the valid children 4 and 5 (= the window above `count = 3`, skipping the
    invalid 3).  It even goes one further (6): the loop restarts at child 1 and counts the re-derived child 1 as one
    of the `delta` new ones while child 2 is marked a second time (horizon + 1 again) — harmless over-extension. -/
example : expand [2, 3] (resurrectBranch 2 [2, 3] 3) = ⟨2, 7, 3, [6, 5, 4, 1, 0], [3, 2]⟩ := by decide

end Recovery
