import BtcwVerif.Lemmas.RefConfirm
import BtcwVerif.Lemmas.RefSpenders
/-!
# Refinement, event *confirmed*: conflict removal, lease release, credits, and the assembly (`good_confirmed`)
-/
namespace TxStore
open KMap Ledger

def dropLeases (L : Ledger) (t : Tx) : Ledger := { L with leases := L.leases.filter fun p => !t.ins.contains p.1 }

section
variable {s : Store} {L : Ledger} {t : Tx} {bm : BlockMeta} {cr : List (Nat × Bool)}

theorem good_dropLeases (hg : Good s L) (t : Tx) :
    Good (t.ins.foldl unlockOutputRaw s) (dropLeases L t) := by
  have hr := hg.ref
  rw [foldl_unlock_eq]
  refine ⟨wf2_of_sameMined hg.wf2 (.refl s) hg.wf2.wf.nodupUC,
    { hg.lwf with leaseKeys := nodup_map_filter _ _ _ hg.lwf.leaseKeys },
    { hr with leases := fun op => ?_, nodupLocked := loop_inv NodupKeys nodupKeys_erase _ hr.nodupLocked }⟩
  show ((t.ins.foldl KMap.erase s.locked).find? op).map _ =
    (lookup (L.leases.filter fun p => (fun o => !t.ins.contains o) p.1) op).map _
  rw [find?_foldl_erase, lookup_filter_key L.leases (fun o => !t.ins.contains o) op]
  by_cases e : op ∈ t.ins
  · simp [e]
  · simp only [e, if_false, List.contains_eq_mem, decide_false, Bool.not_false, if_true]
    exact hr.leases op

theorem mem_expCredits_addCredit1 (hl : LWF L) (ht : (t, bm) ∈ chainTxs L)
    {c : Nat × Bool} {amt : Int} (ha : t.outs[c.1]? = some amt) (hn : lookup L.credit ⟨t.hash, c.1⟩ = none)
    (hsp : spenderOf L ⟨t.hash, c.1⟩ = none) (p : CredKey × CreditVal) :
    p ∈ expCredits (addCredit1 L t c) ↔ p ∈ expCredits L ∨ p = (⟨t.hash, bm.block, c.1⟩, ⟨amt, c.2, false, none⟩) := by
  obtain ⟨k, v⟩ := p
  have hc := (List.getElem?_eq_some_iff.mp ha).1
  simp only [mem_expCredits, lookup_addCredit1 hc hn, show chainTxs (addCredit1 L t c) = chainTxs L from rfl,
    show ∀ op, spenderOf (addCredit1 L t c) op = spenderOf L op from fun _ => rfl]
  by_cases e : k.outPoint = ⟨t.hash, c.1⟩
  · simp only [e, if_true, hn, hsp, reduceCtorEq, false_and, and_false, exists_false, false_or, Prod.mk.injEq,
      Option.isSome_none, Option.some.injEq]
    constructor
    · rintro ⟨x, b, hxb, e1, e2, e3, e4, e5, e6⟩
      obtain ⟨rfl, rfl⟩ := hl.mined_unique hxb ht (e1.symm.trans (congrArg OutPoint.hash e))
      have e7 : k.index = c.1 := congrArg OutPoint.index e
      rw [e7, ha] at e3
      cases k; cases v; simp_all
    · rintro ⟨rfl, rfl⟩; exact ⟨t, bm, ht, rfl, rfl, ha, rfl, rfl, rfl⟩
  · simp only [e, if_false, Prod.mk.injEq, iff_self_or]
    rintro ⟨rfl, _⟩; exact absurd rfl e

theorem good_addCredit_mined (hg : Good s L)
    (ht : (t, bm) ∈ chainTxs L) (c : Nat × Bool) (hc : c.1 < t.outs.length)
    (hsp : spenderOf L ⟨t.hash, c.1⟩ = none) :
    ∃ s1, addCredit s t (some bm) c.1 c.2 = .ok s1 ∧ Good s1 (addCredit1 L t c) := by
  have hr := hg.ref
  obtain ⟨amt, hamt⟩ : ∃ amt, t.outs[c.1]? = some amt := ⟨t.outs[c.1], List.getElem?_eq_getElem hc⟩
  cases hlk : lookup L.credit ⟨t.hash, c.1⟩ with
  | some chg =>
    have hf := hr.credit_of_mined ht hamt hlk
    rw [addCredit1_of_some hlk]
    exact ⟨s, by simp only [addCredit, hamt, contains_eq, hf, Option.isSome_some, if_true, pure_eq], hg⟩
  | none =>
    have hfresh : ∀ v, (⟨t.hash, bm.block, c.1⟩, v) ∉ expCredits L := fun v h => by
      obtain ⟨_, _, _, _, _, _, h4, _⟩ := mem_expCredits.mp h
      rw [show (⟨t.hash, bm.block, c.1⟩ : CredKey).outPoint = ⟨t.hash, c.1⟩ from rfl, hlk] at h4; cases h4
    have hf := Holds.find?_eq_none hr.credits hfresh
    have hstep : addCredit s t (some bm) c.1 c.2 = .ok
        { s with credits := s.credits.insert ⟨t.hash, bm.block, c.1⟩ ⟨amt, c.2, false, none⟩,
                 minedBalance := s.minedBalance + amt,
                 unspent := s.unspent.insert ⟨t.hash, c.1⟩ bm.block } := by
      simp only [addCredit, hamt, contains_eq, hf, Option.isSome_none, Bool.false_eq_true, if_false, pure_eq]
    refine ⟨_, hstep, wf2_addCredit_mined hg.wf2 hstep (hr.txrec_of_mined ht),
      lwf_addCredit1 hg.lwf c ⟨_, known_of_mined ht⟩, ?_⟩
    exact { hr with
      credits := Holds.insert hr.credits hfresh (mem_expCredits_addCredit1 hg.lwf ht hamt hlk hsp)
      -- the new record has no spender
      debits := fun dk d => (hr.debits dk d).trans <| exists_congr fun cv => and_congr_left fun h2 => by
        show _ ↔ (s.credits.insert _ _).find? _ = _
        rw [find?_insert]
        split
        · rename_i e; rw [← e, hf]; exact ⟨nofun, fun h => by rw [← Option.some.inj h] at h2; cases h2.1⟩
        · rfl
      ucredits := Holds.congr hr.ucredits (mem_expUnminedCredits_congr rfl fun u hu op e =>
        lookup_addCredit1_ne (e ▸ (hg.lwf.pool_not_mined hu ht).symm)) }

theorem good_addCredits_mined (cr : List (Nat × Bool))
    (hg : Good s L) (ht : (t, bm) ∈ chainTxs L) (hv : ∀ c ∈ cr, c.1 < t.outs.length)
    (hsp : ∀ i, spenderOf L ⟨t.hash, i⟩ = none) :
    ∃ s', cr.foldlM (fun s (c : Nat × Bool) => addCredit s t (some bm) c.1 c.2) s = .ok s' ∧
      Good s' (cr.foldl (fun L c => addCredit1 L t c) L) :=
  good_foldlM (g := fun L c => addCredit1 L t c) (I := fun L => (t, bm) ∈ chainTxs L ∧ ∀ i, spenderOf L ⟨t.hash, i⟩ = none) cr
    (fun c hc _ _ hg hi => (good_addCredit_mined hg hi.1 c (hv c hc) (hi.2 _)).imp fun _ h => ⟨h.1, h.2, hi⟩)
    hg ⟨ht, hsp⟩

/-- descendants of an unconfirmed transaction other than `t` never pass through `t` (its parents are confirmed) -/
theorem desc_avoid (hf : ConfFacts L bm t cr)
    {a b : Nat} (ha : ∃ w ∈ L.pool, w.hash = a) (h : Desc L.pool a b) : Desc (toChain L bm t).pool a b := by
  induction h with
  | refl => exact Desc.refl _
  | @step b' u hd hu hi ih =>
    obtain ⟨i, hi1, hi2⟩ := hi
    obtain ⟨w, hw, hwb⟩ := hd.pool_or_eq.elim (fun e => e ▸ ha) id
    have hne : u.hash ≠ t.hash := fun e => by
      cases hf.sameTx u hu e
      exact hf.parentsNotPool i hi1 w hw (by rw [hwb, hi2])
    exact Desc.step ih (mem_pool_toChain.mpr ⟨hu, hne⟩) ⟨i, hi1, hi2⟩

/-- the hashes of the unconfirmed transactions that conflict with `t` (the roots of `Ledger.apply`) -/
def conflictRoots (L : Ledger) (t : Tx) : List Nat :=
  (L.pool.filter fun u => u.hash != t.hash && u.ins.any fun i => t.ins.contains i).map (·.hash)

theorem mem_conflictRoots {h : Nat} :
    h ∈ conflictRoots L t ↔ ∃ v ∈ L.pool, v.hash = h ∧ v.hash ≠ t.hash ∧ ∃ op ∈ v.ins, op ∈ t.ins := by
  simp only [conflictRoots, List.mem_map, List.mem_filter, Bool.and_eq_true, bne_iff_ne, ne_eq, List.any_eq_true,
    List.contains_iff_mem]
  exact ⟨fun ⟨v, ⟨h1, h2, h3⟩, h4⟩ => ⟨v, h1, h4, h2, h3⟩, fun ⟨v, h1, h4, h2, h3⟩ => ⟨v, ⟨h1, h2, h3⟩, h4⟩⟩

/-- the ledger after *confirmed*, as the steps the store takes: `t` joins the chain, the conflicting unconfirmed
transactions go with their descendants, the leases of the spent outputs end, the outputs are credited -/
theorem apply_confirmed (hf : ConfFacts L bm t cr)
    (hin : inChain L t.hash = false) {P : Nat → Bool}
    (hP : ∀ h, P h = true ↔ ∃ v ∈ (toChain L bm t).pool, (∃ op ∈ t.ins, op ∈ v.ins) ∧ Desc (toChain L bm t).pool v.hash h) :
    Ledger.apply L (.confirmed bm t cr) =
      cr.foldl (fun L c => addCredit1 L t c) (dropLeases (minus (toChain L bm t) P fun _ => false) t) := by
  have hPgone : ∀ h, P h = (closure L.pool L.pool.length (conflictRoots L t)).contains h := fun h => by
    rw [Bool.eq_iff_iff, hP, List.contains_iff_mem, mem_closure_iff]
    constructor
    · rintro ⟨v, hv, ⟨op, hop, hov⟩, hd⟩
      obtain ⟨hv1, hv2⟩ := mem_pool_toChain.mp hv
      exact ⟨v.hash, mem_conflictRoots.mpr ⟨v, hv1, rfl, hv2, op, hov, hop⟩, hd.mono fun x hx => (mem_pool_toChain.mp hx).1⟩
    · rintro ⟨r, hr, hd⟩
      obtain ⟨v, hv1, rfl, hne, op, hov, hop⟩ := mem_conflictRoots.mp hr
      have hv' : v ∈ (toChain L bm t).pool := mem_pool_toChain.mpr ⟨hv1, hne⟩
      exact ⟨v, hv', ⟨op, hop, hov⟩, desc_avoid hf ⟨v, hv1, rfl⟩ hd⟩
  rw [foldl_addCredit1]
  simp only [Ledger.apply, hin, Bool.false_eq_true, if_false, dropLeases, minus, toChain]
  rw [show (L.pool.filter fun u => u.hash != t.hash && u.ins.any fun i => t.ins.contains i).map (·.hash) =
    conflictRoots L t from rfl, closure_of_isEmpty, List.filter_filter]
  congr 1
  · exact List.filter_congr fun u _ => by rw [hPgone]; cases (u.hash != t.hash) <;> simp
  · exact congrArg (addCredits · t cr) (List.filter_congr fun p _ => by rw [hPgone]; simp)

end

theorem good_confirmed {s : Store} {L : Ledger} (hg : Good s L) {bm : BlockMeta} {t : Tx} {cr : List (Nat × Bool)}
    (now : Nat) (hc : Consistent L (.confirmed bm t cr)) :
    ∃ s', stepEvent s now (.confirmed bm t cr) = .ok s' ∧ Good s' (Ledger.apply L (.confirmed bm t cr)) ∧
      (NoConflict L → NoConflict (Ledger.apply L (.confirmed bm t cr))) := by
  unfold stepEvent addRelevantTx insertTx
  cases hin : inChain L t.hash with
  | true =>
    -- redelivery of a confirmed transaction
    obtain ⟨p, hp, hph⟩ := inChain_iff.mp hin
    obtain ⟨c1, c4⟩ := confirmed_same hc.cons
    have hdup : insertMinedTx s t bm = .error Err.duplicate := by
      rw [insertMinedTx_core, contains_eq, hg.ref.txrec_of_mined
        (c1 _ (known_of_mined hp) hph ▸ c4 p hp hph ▸ hp)]
      rfl
    simp only [hdup, Ledger.apply, hin, if_true]
    exact ⟨s, rfl, hg, fun h => h⟩
  | false =>
    have hf := confFacts_of hc hin
    have hsh := hf.sameHeight
    have hg1 : Good (confirmCore s t bm) (toChain L bm t) :=
      ⟨wf2_confirmCore hg.wf2 (confirmPre2_of hg hf), lwf_toChain hg.lwf hf, refines_confirmCore hg hf⟩
    obtain ⟨s2, P, h2, hg2, hP⟩ := good_removeSpenders hg1 (fun h => h == t.hash)
      (fun v hv => by simpa using (mem_pool_toChain.mp hv).2) t.ins
    obtain ⟨s4, h4, hg4⟩ := good_addCredits_mined cr (good_dropLeases hg2 t)
      ((mem_chainTxs_toChain hsh _).mpr (Or.inr rfl)) hf.crValid (spenderOf_own_none hg.lwf hf)
    have hnc : s.txrecs.find? ⟨t.hash, bm.block⟩ = none := Holds.find?_eq_none hg.ref.txrecs fun v h => hf.no_txrec h rfl
    have hins : insertMinedTx s t bm = .ok (t.ins.foldl unlockOutputRaw s2) := by
      rw [insertMinedTx_core, contains_eq, hnc, removeDoubleSpends_eq, h2]
      rfl
    rw [apply_confirmed hf hin hP]
    refine ⟨s4, ?_, hg4, fun hn => noConflict_foldl_addCredit1 _ _ _ fun u hu i hi => ?_⟩
    · simp only [hins, pure_eq, bind_ok, Bool.false_and, Bool.false_eq_true, if_false]
      rw [h4]; rfl
    · obtain ⟨hu3, hu4⟩ := mem_pool_minus.mp (show u ∈ (minus (toChain L bm t) P fun _ => false).pool from hu)
      rw [spentConfirmed_false_iff]
      intro p hp hin'
      rcases (mem_chainTxs_toChain hsh p).mp hp with hold | rfl
      · exact (spentConfirmed_false_iff.mp (hn u (mem_pool_toChain.mp hu3).1 i hi)) p hold hin'
      · rw [(hP _).mpr ⟨u, hu3, ⟨i, hin', hi⟩, Desc.refl _⟩] at hu4; cases hu4

end TxStore
