import BtcwVerif.Lemmas.RefRead
/-!
# Observables of a good pair: `TxDetails` reports the ledger's record of a transaction (C13)
The store reads the credit / debit records of a transaction off its buckets; what it reads is a permutation of the
ledger's records (which come in index order), each record once.  `Lemmas/RefExact.lean` adds the order.
`txDetails_rel`: `TxDetails` against `Ledger.details` for any relation `R` of single records (`RecordsRel`; instances
`records_equiv`, `records_total`, and `records_eq` in RefExact); `txDetails_total` is the weak form `insertMemPoolTx` needs
(RefSeen.lean).
-/
namespace TxStore
open KMap Ledger

/-- same transaction, same block, the same credit records and the same debit records (membership both ways, the store's
without duplicates: a permutation) -/
structure DetEquiv (d d' : Details) : Prop where
  tx : d.tx = d'.tx
  block : d.block = d'.block
  credits : ∀ c, c ∈ d.credits ↔ c ∈ d'.credits
  debits : ∀ x, x ∈ d.debits ↔ x ∈ d'.debits
  creditsNodup : (d.credits.map (·.index)).Nodup
  debitsNodup : (d.debits.map (·.index)).Nodup

/-- the record `minedTxDetails` makes of an entry of the credits bucket (`h` the transaction's hash) -/
def creditRec (s : Store) (h : Nat) (p : CredKey × CreditVal) : CreditRecord :=
  ⟨p.1.index, p.2.amount, p.2.spent || spentByUnmined s ⟨h, p.1.index⟩, p.2.change⟩

def debitRec (p : CredKey × DebitVal) : DebitRecord := ⟨p.1.index, p.2.amount⟩

/-- the record `unminedTxDetails` makes of an entry of the unconfirmed-credits bucket -/
def ucreditRec (s : Store) (p : OutPoint × UCredit) : CreditRecord :=
  ⟨p.1.index, p.2.amount, spentByUnmined s p.1, p.2.change⟩

theorem minedTxDetails_eq_ok {s : Store} {k : TxKey} {rec : Tx} {d : Details} :
    minedTxDetails s k rec = .ok d ↔ ∃ br, s.blocks.find? k.block.height = some br ∧
      (∀ p ∈ creditsOf s k, ¬ p.1.index ≥ rec.outs.length) ∧ (∀ p ∈ debitsOf s k, ¬ p.1.index ≥ rec.ins.length) ∧
      d = ⟨rec, some ⟨k.block, br.time⟩, (creditsOf s k).map (creditRec s k.hash), (debitsOf s k).map debitRec⟩ := by
  unfold minedTxDetails
  cases s.blocks.find? k.block.height with
  | none => simp
  | some br =>
    simp only [pure_eq, throw_eq, bind_ok, bind_ok_iff, Except.ok.injEq, Option.some.injEq, exists_eq_left', mapM_guard]
    constructor
    · rintro ⟨_, ⟨h1, rfl⟩, _, ⟨h2, rfl⟩, rfl⟩; exact ⟨h1, h2, rfl⟩
    · rintro ⟨h1, h2, rfl⟩; exact ⟨_, ⟨h1, rfl⟩, _, ⟨h2, rfl⟩, rfl⟩

theorem unminedTxDetails_eq_ok {s : Store} {h : Nat} {rec : Tx} {d : Details} :
    unminedTxDetails s h rec = .ok d ↔ (∀ p ∈ unminedCreditsOf s h, ¬ p.1.index ≥ rec.outs.length) ∧
      ∃ ds, (withIdx rec.ins).mapM (fun p => unminedDebit s p.1 p.2) = .ok ds ∧
        d = ⟨rec, none, (unminedCreditsOf s h).map (ucreditRec s), ds.filterMap id⟩ := by
  unfold unminedTxDetails
  simp only [pure_eq, throw_eq, bind_ok_iff, Except.ok.injEq, mapM_guard]
  constructor
  · rintro ⟨_, ⟨h1, rfl⟩, ds, h2, rfl⟩; exact ⟨h1, ds, h2, rfl⟩
  · rintro ⟨h1, ds, h2, rfl⟩; exact ⟨_, ⟨h1, rfl⟩, ds, h2, rfl⟩

theorem withIdx_filterMap_index_sorted {α β : Type} (F : Nat × α → Option β) (idx : β → Nat)
    (hidx : ∀ p b, F p = some b → idx b = p.1) (l : List α) :
    (((withIdx l).filterMap F).map idx).Pairwise (· < ·) := by
  have hnd : ((withIdx l).map (·.1)).Pairwise (· < ·) := by rw [withIdx_map_fst_eq]; exact List.pairwise_lt_range'
  rw [List.pairwise_map] at hnd ⊢
  exact hnd.filterMap F fun a a' hlt b hb b' hb' => by rw [hidx a b hb, hidx a' b' hb']; exact hlt

theorem detailsOf_credits_sorted (L : Ledger) (t : Tx) (ob : Option BlockMeta) :
    ((detailsOf L t ob).credits.map (·.index)).Pairwise (· < ·) := by
  apply withIdx_filterMap_index_sorted
  rintro ⟨i, v⟩ b hb
  dsimp only at hb
  split at hb <;> cases hb
  rfl

theorem detailsOf_debits_sorted (L : Ledger) (t : Tx) (ob : Option BlockMeta) :
    ((detailsOf L t ob).debits.map (·.index)).Pairwise (· < ·) := by
  apply withIdx_filterMap_index_sorted
  rintro ⟨j, inp⟩ b hb
  dsimp only at hb
  split at hb <;> cases hb
  rfl

theorem mem_detailsOf_credits {L : Ledger} {t : Tx} {ob : Option BlockMeta} {c : CreditRecord} :
    c ∈ (detailsOf L t ob).credits ↔ ∃ chg, lookup L.credit ⟨t.hash, c.index⟩ = some chg ∧
      t.outs[c.index]? = some c.amount ∧ c.change = chg ∧ c.spent = Ledger.spent L ⟨t.hash, c.index⟩ := by
  unfold detailsOf
  rw [List.mem_filterMap]
  constructor
  · rintro ⟨⟨i, v⟩, hiv, hcv⟩
    dsimp only at hcv
    split at hcv <;> cases hcv
    exact ⟨_, ‹_›, (mem_withIdx0 _ _ _).mp hiv, rfl, rfl⟩
  · rintro ⟨chg, h2, h3, h4, h5⟩
    refine ⟨(c.index, c.amount), (mem_withIdx0 _ _ _).mpr h3, ?_⟩
    dsimp only
    rw [h2, ← h4, ← h5]

theorem mem_detailsOf_debits {L : Ledger} {t : Tx} {ob : Option BlockMeta} {x : DebitRecord} :
    x ∈ (detailsOf L t ob).debits ↔ ∃ inp, t.ins[x.index]? = some inp ∧ creditValue L inp = some x.amount := by
  unfold detailsOf
  rw [List.mem_filterMap]
  constructor
  · rintro ⟨⟨j, inp⟩, hji, hx⟩
    dsimp only at hx
    split at hx <;> cases hx
    exact ⟨inp, (mem_withIdx0 _ _ _).mp hji, ‹_›⟩
  · rintro ⟨inp, h2, h3⟩
    refine ⟨(x.index, inp), (mem_withIdx0 _ _ _).mpr h2, ?_⟩
    dsimp only
    rw [h3]

theorem nodup_indices_of_same_txkey {ν : Type} (m : KMap CredKey ν) (hn : NodupKeys m) (k : TxKey) :
    ((m.filter fun p => decide (p.1.hash = k.hash ∧ p.1.block = k.block)).map (·.1.index)).Nodup := by
  have hk : (m.map (·.1)).Nodup := hn
  rw [List.Nodup, List.pairwise_map] at hk ⊢
  refine (hk.filter _).imp_of_mem ?_
  intro a b ha hb hab e
  have h1 := of_decide_eq_true (List.mem_filter.mp ha).2
  have h2 := of_decide_eq_true (List.mem_filter.mp hb).2
  obtain ⟨⟨ah, ab, ai⟩, _⟩ := a
  obtain ⟨⟨bh, bb, bi⟩, _⟩ := b
  dsimp only at h1 h2 e hab
  exact hab (by rw [h1.1, h1.2, h2.1, h2.2, e])

theorem detEquiv_detailsOf {L : Ledger} {t : Tx} {ob : Option BlockMeta} {cs : List CreditRecord} {ds : List DebitRecord}
    (hc : cs.Perm (detailsOf L t ob).credits) (hd : ds.Perm (detailsOf L t ob).debits) :
    DetEquiv ⟨t, ob, cs, ds⟩ (detailsOf L t ob) :=
  ⟨rfl, rfl, fun _ => hc.mem_iff, fun _ => hd.mem_iff,
    (hc.map _).nodup_iff.mpr (nodup_of_sorted (detailsOf_credits_sorted L t ob)),
    (hd.map _).nodup_iff.mpr (nodup_of_sorted (detailsOf_debits_sorted L t ob))⟩

theorem details_known {L : Ledger} (hl : LWF L) {t : Tx} {ob : Option BlockMeta} (hp : (t, ob) ∈ known L) :
    Ledger.details L t.hash = some (detailsOf L t ob) := by
  unfold Ledger.details
  rw [known_find hl hp]

theorem details_unknown {L : Ledger} {h : Nat} (hp : ∀ p ∈ known L, p.1.hash ≠ h) : Ledger.details L h = none := by
  unfold Ledger.details
  rw [List.find?_eq_none.mpr fun p hp' => by simpa using hp p hp']

theorem details_eq_some {L : Ledger} {h : Nat} {d : Details} (hd : Ledger.details L h = some d) :
    ∃ t ob, (t, ob) ∈ known L ∧ t.hash = h ∧ d = detailsOf L t ob := by
  unfold Ledger.details at hd
  cases hf : (known L).find? (fun p => p.1.hash == h) with
  | none => rw [hf] at hd; cases hd
  | some p =>
    rw [hf] at hd
    cases hd
    exact ⟨p.1, p.2, List.mem_of_find?_eq_some hf, by simpa using List.find?_some hf, rfl⟩

theorem details_isSome_iff {L : Ledger} {h : Nat} : (Ledger.details L h).isSome = true ↔ isKnown L h = true := by
  have : (Ledger.details L h).isSome = ((known L).find? (fun p => p.1.hash == h)).isSome := by
    unfold Ledger.details; cases (known L).find? (fun p => p.1.hash == h) <;> rfl
  rw [this, List.find?_isSome, isKnown, List.any_eq_true]

section
-- every theorem from here to the end of the section takes `hg : Good s L` as its first explicit argument (`omit hg in` where not)
variable {s : Store} {L : Ledger} (hg : Good s L)
include hg

theorem unminedDebit_good {inp : OutPoint}
    (hsc : spentConfirmed L inp = false) (j : Nat) :
    unminedDebit s j inp = .ok ((creditValue L inp).map fun v => (⟨j, v⟩ : DebitRecord)) := by
  unfold unminedDebit
  cases hu : s.unspent.find? inp with
  | some blk =>
    obtain ⟨cv, h1, h2, _⟩ := credit_of_unspent hg hu
    simp only [h1, h2]; rfl
  | none =>
    cases huc : s.unminedCredits.find? inp with
    | some uc => rw [(ucredit_value hg huc).1]; rfl
    | none =>
      cases hv : creditValue L inp with
      | none => rfl
      | some v => rcases value_stored hg hv hsc with ⟨_, h⟩ | ⟨_, h⟩ <;> simp [hu, huc] at h

theorem unminedCreditsOf_perm {t : Tx} (ht : t ∈ L.pool) :
    (unminedCreditsOf s t.hash).Perm ((withIdx t.outs).filterMap fun iv =>
      (lookup L.credit ⟨t.hash, iv.1⟩).map fun chg => ((⟨t.hash, iv.1⟩ : OutPoint), (⟨iv.2, chg⟩ : UCredit))) := by
  refine filter_perm_of_find?_iff hg.wf2.wf.nodupUC _ ?_ fun op uc => ?_
  · apply nodup_of_nodup_map (·.1.index)
    apply nodup_of_sorted
    apply withIdx_filterMap_index_sorted
    rintro ⟨i, v⟩ b hb
    obtain ⟨_, _, rfl⟩ := Option.map_eq_some_iff.mp hb
    rfl
  · rw [hg.ref.ucredits_iff, List.mem_filterMap, decide_eq_true_eq]
    constructor
    · rintro ⟨⟨w, hw, h1, h2, h3⟩, hh⟩
      cases hg.lwf.pool_unique hw ht (h1.symm.trans hh)
      obtain ⟨oh, oi⟩ := op
      cases hh
      exact ⟨(oi, uc.amount), (mem_withIdx0 _ _ _).mpr h2, by rw [h3]; rfl⟩
    · rintro ⟨⟨i, v⟩, hiv, he⟩
      obtain ⟨chg, hlk, he⟩ := Option.map_eq_some_iff.mp he
      cases he
      exact ⟨⟨t, ht, rfl, (mem_withIdx0 _ _ _).mp hiv, hlk⟩, rfl⟩

theorem ucredits_perm {t : Tx} (ht : t ∈ L.pool) :
    ((unminedCreditsOf s t.hash).map (ucreditRec s)).Perm (detailsOf L t none).credits := by
  refine ((unminedCreditsOf_perm hg ht).map _).trans (List.Perm.of_eq ?_)
  unfold detailsOf
  rw [List.map_filterMap]
  apply filterMap_congr'
  rintro ⟨i, v⟩ _
  dsimp only
  cases lookup L.credit ⟨t.hash, i⟩ with
  | none => rfl
  | some chg =>
    simp only [Option.map_some, ucreditRec, spent_eq hg.ref, hg.lwf.spentConfirmed_pool ht, Bool.false_or]

/-- `unminedTxDetails` succeeds on a good pair, conflicts or not: an input found in the unspent index has its credit
record.  That the debits it reads are the ledger's takes `NoConflict` (`unminedTxDetails_good`) -/
theorem unminedTxDetails_ok {t : Tx} (ht : t ∈ L.pool) :
    unminedTxDetails s t.hash t = .ok ⟨t, none, (unminedCreditsOf s t.hash).map (ucreditRec s),
      ((withIdx t.ins).map fun p => okOr none (unminedDebit s p.1 p.2)).filterMap id⟩ := by
  refine unminedTxDetails_eq_ok.mpr ⟨fun p hp => ?_, _, mapM_eq_map_of_forall _ _ _ fun p _ => ?_, rfl⟩
  · obtain ⟨⟨i, v⟩, hiv, he⟩ := List.mem_filterMap.mp ((unminedCreditsOf_perm hg ht).mem_iff.mp hp)
    obtain ⟨_, _, rfl⟩ := Option.map_eq_some_iff.mp he
    exact Nat.not_le.mpr (List.getElem?_eq_some_iff.mp ((mem_withIdx0 _ _ _).mp hiv)).1
  · unfold unminedDebit
    cases hu : s.unspent.find? p.2 with
    | some blk => obtain ⟨cv, h1, _⟩ := credit_of_unspent hg hu; simp only [h1]; rfl
    | none => cases s.unminedCredits.find? p.2 <;> rfl

theorem unminedTxDetails_good (hn : NoConflict L) {t : Tx} (ht : t ∈ L.pool) :
    unminedTxDetails s t.hash t =
      .ok ⟨t, none, (unminedCreditsOf s t.hash).map (ucreditRec s), (detailsOf L t none).debits⟩ := by
  rw [unminedTxDetails_ok hg ht, List.filterMap_map]
  refine congrArg (fun ds => Except.ok (Details.mk t none _ ds)) (filterMap_congr' _ _ _ ?_)
  rintro ⟨j, inp⟩ hp
  dsimp only [Function.comp, id]
  rw [unminedDebit_good hg (hn t ht inp (List.mem_of_getElem? ((mem_withIdx0 _ _ _).mp hp))) j]
  cases creditValue L inp <;> rfl

theorem creditsOf_perm {t : Tx} {b : BlockMeta} (ht : (t, b) ∈ chainTxs L) :
    (creditsOf s ⟨t.hash, b.block⟩).Perm (expCreditsOf L t b) := by
  refine filter_perm_of_find?_iff hg.wf2.wf.nodupCredits _ ?_ fun k cv => ?_
  · apply nodup_of_nodup_map (·.1.index)
    apply nodup_of_sorted
    apply withIdx_filterMap_index_sorted
    rintro ⟨i, v⟩ p hp
    dsimp only at hp
    split at hp <;> cases hp
    rfl
  · rw [hg.ref.credits_iff, mem_expCreditsOf, decide_eq_true_eq]
    constructor
    · rintro ⟨⟨x, bx, hx, h⟩, hh, _⟩
      obtain ⟨rfl, rfl⟩ := hg.lwf.mined_unique hx ht (h.1.symm.trans hh)
      exact h
    · exact fun h => ⟨⟨t, b, ht, h⟩, h.1, h.2.1⟩

theorem credits_perm {t : Tx} {b : BlockMeta} (ht : (t, b) ∈ chainTxs L) :
    ((creditsOf s ⟨t.hash, b.block⟩).map (creditRec s t.hash)).Perm (detailsOf L t (some b)).credits := by
  refine ((creditsOf_perm hg ht).map _).trans (List.Perm.of_eq ?_)
  unfold expCreditsOf detailsOf
  rw [List.map_filterMap]
  apply filterMap_congr'
  rintro ⟨i, v⟩ _
  dsimp only
  cases lookup L.credit ⟨t.hash, i⟩ with
  | none => rfl
  | some chg => simp only [Option.map_some, creditRec, spent_eq hg.ref, spenderOf_isSome]

theorem debit_sound {dk : CredKey} {dv : DebitVal}
    (h : s.debits.find? dk = some dv) :
    ∃ q ∈ chainTxs L, ∃ j, q.1.ins[j]? = some dv.credKey.outPoint ∧ dk = ⟨q.1.hash, q.2.block, j⟩ ∧
      creditValue L dv.credKey.outPoint = some dv.amount := by
  obtain ⟨cv, h1, h2, h3⟩ := (hg.ref.debits dk dv).mp h
  obtain ⟨x, bx, hx, g1, _, g3, g4, g5, _⟩ := (hg.ref.credits_iff _ _).mp h1
  obtain ⟨q, hq, j, hj, hdk⟩ := spenderOf_some_elim (g5.symm.trans h2)
  exact ⟨q, hq, j, hj, hdk, (creditValue_eq_some_iff hg.lwf).mpr ⟨_, _, g4, known_of_mined hx, g1.symm, h3 ▸ g3⟩⟩

theorem debit_complete {t : Tx} {b : BlockMeta} (ht : (t, b) ∈ chainTxs L)
    {j : Nat} {inp : OutPoint} (hj : t.ins[j]? = some inp) {v : Int} (hv : creditValue L inp = some v) :
    ∃ ck, s.debits.find? ⟨t.hash, b.block, j⟩ = some ⟨v, ck⟩ := by
  obtain ⟨chg, ⟨x, ob⟩, hlk, hp, hh, hx⟩ := (creditValue_eq_some_iff hg.lwf).mp hv
  obtain ⟨bx, rfl, _⟩ := hg.lwf.parents (t, b) ht inp (List.mem_of_getElem? hj) (x, ob) hp hh
  have hxm : (x, bx) ∈ chainTxs L :=
    (mem_known.mp hp).elim (fun ⟨_, e, hm⟩ => by cases e; exact hm) (fun ⟨e, _⟩ => by cases e)
  obtain ⟨_, i⟩ := inp
  cases hh
  exact ⟨_, (hg.ref.debits _ _).mpr ⟨_, hg.ref.credit_of_mined hxm hx hlk,
    (spenderOf_eq_some_iff hg.lwf.noDouble).mpr ⟨(t, b), ht, j, hj, rfl⟩, rfl⟩⟩

theorem debits_perm {t : Tx} {b : BlockMeta} (ht : (t, b) ∈ chainTxs L) :
    ((debitsOf s ⟨t.hash, b.block⟩).map debitRec).Perm (detailsOf L t (some b)).debits := by
  refine (List.perm_ext_iff_of_nodup (nodup_of_nodup_map (·.index) ?_) (nodup_of_nodup_map (·.index)
    (nodup_of_sorted (detailsOf_debits_sorted _ _ _)))).mpr fun x => ?_
  · rw [List.map_map]
    exact nodup_indices_of_same_txkey _ hg.ref.nodupDebits ⟨t.hash, b.block⟩
  · rw [mem_detailsOf_debits]
    unfold debitsOf
    simp only [List.mem_map, List.mem_filter, decide_eq_true_eq]
    constructor
    · rintro ⟨⟨dk, dv⟩, ⟨hm, e1, _⟩, rfl⟩
      obtain ⟨q, hq, j, hj, rfl, hv⟩ := debit_sound hg (find?_of_mem _ hg.ref.nodupDebits hm)
      obtain ⟨rfl, rfl⟩ := hg.lwf.mined_unique hq ht e1
      exact ⟨_, hj, hv⟩
    · rintro ⟨inp, hj, hv⟩
      obtain ⟨ck, hd⟩ := debit_complete hg ht hj hv
      exact ⟨(⟨t.hash, b.block, x.index⟩, ⟨_, ck⟩), ⟨mem_of_find? _ hd, rfl, rfl⟩, rfl⟩

theorem minedTxDetails_good {t : Tx} {b : BlockMeta}
    (ht : (t, b) ∈ chainTxs L) :
    minedTxDetails s ⟨t.hash, b.block⟩ t = .ok ⟨t, some b, (creditsOf s ⟨t.hash, b.block⟩).map (creditRec s t.hash),
      (debitsOf s ⟨t.hash, b.block⟩).map debitRec⟩ := by
  obtain ⟨br, hbr, htime⟩ := blocks_find_of_mined hg ht
  rw [minedTxDetails_eq_ok]
  refine ⟨br, hbr, ?_, ?_, by rw [htime]⟩
  · intro p hp
    have := (mem_expCreditsOf.mp ((creditsOf_perm hg ht).mem_iff.mp (show (p.1, p.2) ∈ _ from hp))).2.2.1
    exact Nat.not_le.mpr (List.getElem?_eq_some_iff.mp this).1
  · intro p hp
    unfold debitsOf at hp
    obtain ⟨hp1, hp2⟩ := List.mem_filter.mp hp
    obtain ⟨q, hq, j, hj, hdk, _⟩ := debit_sound hg (find?_of_mem _ hg.ref.nodupDebits hp1)
    rw [decide_eq_true_eq, hdk] at hp2
    obtain ⟨rfl, rfl⟩ := hg.lwf.mined_unique hq ht hp2.1
    rw [hdk]
    exact Nat.not_le.mpr (List.getElem?_eq_some_iff.mp hj).1

theorem latestTxRecord_of_mined {t : Tx} {b : BlockMeta}
    (ht : (t, b) ∈ chainTxs L) : latestTxRecord s t.hash = some (⟨t.hash, b.block⟩, t) := by
  cases hl : latestTxRecord s t.hash with
  | none =>
    have := (latestTxRecord_isSome_iff s t.hash).mpr ⟨_, mem_of_find? _ (hg.ref.txrec_of_mined ht), rfl⟩
    rw [hl] at this; cases this
  | some p =>
    obtain ⟨hm, hh⟩ := latestTxRecord_mem (show latestTxRecord s t.hash = some (p.1, p.2) from hl)
    obtain ⟨bv, hc, hk⟩ := (hg.ref.txrecs_iff _ _).mp (find?_of_mem _ hg.ref.nodupTxrecs hm)
    obtain ⟨rfl, rfl⟩ := hg.lwf.mined_unique hc ht (by rw [hk] at hh; exact hh)
    rw [← hk]

theorem txDetails_of_mined {t : Tx} {b : BlockMeta}
    (ht : (t, b) ∈ chainTxs L) :
    txDetails s t.hash = (minedTxDetails s ⟨t.hash, b.block⟩ t >>= fun d => pure (some d)) := by
  unfold txDetails
  rw [hg.ref.unmined_none fun v hv => (hg.lwf.pool_not_mined hv ht).symm, latestTxRecord_of_mined hg ht]

omit hg in
theorem txDetails_of_pool (hr : Refines s L) {t : Tx} (ht : t ∈ L.pool) :
    txDetails s t.hash = (unminedTxDetails s t.hash t >>= fun d => pure (some d)) := by
  unfold txDetails
  rw [hr.unmined_of_pool ht]

theorem txDetails_unknown {h : Nat} (hk : ∀ p ∈ known L, p.1.hash ≠ h) :
    txDetails s h = .ok none := by
  unfold txDetails
  rw [hg.ref.unmined_none fun t ht => hk _ (known_of_pool ht), latestTxRecord_none hg fun p hp => hk _ (known_of_mined hp)]
  rfl

/-- the records `minedTxDetails` / `unminedTxDetails` make of the known transactions stand in the relation `R` to the
ledger's -/
structure RecordsRel (R : Details → Details → Prop) (s : Store) (L : Ledger) : Prop where
  mined : ∀ {t b}, (t, b) ∈ chainTxs L → ∃ d, minedTxDetails s ⟨t.hash, b.block⟩ t = .ok d ∧ R d (detailsOf L t (some b))
  pool : ∀ t ∈ L.pool, ∃ d, unminedTxDetails s t.hash t = .ok d ∧ R d (detailsOf L t none)

theorem details_mined {t : Tx} {b : BlockMeta} (ht : (t, b) ∈ chainTxs L) :
    ∃ d, minedTxDetails s ⟨t.hash, b.block⟩ t = .ok d ∧ DetEquiv d (detailsOf L t (some b)) :=
  ⟨_, minedTxDetails_good hg ht, detEquiv_detailsOf (credits_perm hg ht) (debits_perm hg ht)⟩

theorem details_unmined (hn : NoConflict L) {t : Tx} (ht : t ∈ L.pool) :
    ∃ d, unminedTxDetails s t.hash t = .ok d ∧ DetEquiv d (detailsOf L t none) :=
  ⟨_, unminedTxDetails_good hg hn ht, detEquiv_detailsOf (ucredits_perm hg ht) (List.Perm.refl _)⟩

theorem records_equiv (hn : NoConflict L) : RecordsRel DetEquiv s L :=
  ⟨details_mined hg, fun _ => details_unmined hg hn⟩

theorem txDetails_rel {R : Details → Details → Prop} (hr : RecordsRel R s L) (h : Nat) :
    (∃ d d', txDetails s h = .ok (some d) ∧ Ledger.details L h = some d' ∧ R d d') ∨
      (txDetails s h = .ok none ∧ Ledger.details L h = none) := by
  by_cases hk : ∃ p ∈ known L, p.1.hash = h
  · obtain ⟨⟨t, ob⟩, hp, rfl⟩ := hk
    rcases mem_known.mp hp with ⟨b, rfl, hm⟩ | ⟨rfl, hm⟩
    · obtain ⟨d, hd, he⟩ := hr.mined hm
      exact Or.inl ⟨d, _, by rw [txDetails_of_mined hg hm, hd]; rfl, details_known hg.lwf hp, he⟩
    · obtain ⟨d, hd, he⟩ := hr.pool _ hm
      exact Or.inl ⟨d, _, by rw [txDetails_of_pool hg.ref hm, hd]; rfl, details_known hg.lwf hp, he⟩
  · have hk' : ∀ p ∈ known L, p.1.hash ≠ h := fun p hp e => hk ⟨p, hp, e⟩
    exact Or.inr ⟨txDetails_unknown hg hk', details_unknown hk'⟩

theorem records_total : RecordsRel (fun _ _ => True) s L :=
  ⟨fun ht => ⟨_, minedTxDetails_good hg ht, trivial⟩, fun _ ht => ⟨_, unminedTxDetails_ok hg ht, trivial⟩⟩

theorem txDetails_total (h : Nat) :
    ∃ o, txDetails s h = .ok o ∧ (o.isSome = true ↔ ∃ p ∈ known L, p.1.hash = h) := by
  have hk := (details_isSome_iff (L := L) (h := h)).trans isKnown_iff
  rcases txDetails_rel hg (records_total hg) h with ⟨d, d', h1, h2, _⟩ | ⟨h1, h2⟩
  · exact ⟨_, h1, by rw [← hk, h2]; exact Iff.rfl⟩
  · exact ⟨_, h1, by rw [← hk, h2]⟩

end

def DetailsAgree : Option Details → Option Details → Prop
  | none, none => True
  | some d, some d' => DetEquiv d d'
  | _, _ => False

/-- **`TxDetails` reports the ledger's record** — for every hash: nothing when the transaction is not known; otherwise
the transaction, its current block (none while unconfirmed) and exactly the credit / debit records of the ledger -/
theorem details_refines {s : Store} {L : Ledger} (hg : Good s L) (hn : NoConflict L) (h : Nat) :
    ∃ o, txDetails s h = .ok o ∧ DetailsAgree o (Ledger.details L h) := by
  rcases txDetails_rel hg (records_equiv hg hn) h with ⟨d, d', h1, h2, he⟩ | ⟨h1, h2⟩
  · exact ⟨_, h1, by rw [h2]; exact he⟩
  · exact ⟨_, h1, by rw [h2]; trivial⟩

end TxStore
