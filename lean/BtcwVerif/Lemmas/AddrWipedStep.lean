/-
C05 support: the invariant of the histories.  `Unlock`, `Lock`, `ChangePassphrase` and `ConvertToWatchingOnly` are traversed
once each (`opExt_*`): like every other operation they extend the caches (`CExt`), they move the lock state as
`ScalTr` says, and (on a tree with f1, f11, f2b) they keep a locked manager clear — `OpExt`, of every operation in
`opExt_execMem`.  `StOK` puts together what then holds in every reachable state: `DouOK`, live last-address objects, and
(with f13) "in every LOCKED state every clear-text key buffer is nil / zero" — `stOK_run`, an instance of `run_memInv`.  The passphrase bookkeeping
(`PassOK`, `WOLocked`, which passphrase is current) reads only the lock state, the watch-only flag, the salted hash, the
passphrase and the salt: `ScalTr` lists what an operation can do to those.
-/
import BtcwVerif.Lemmas.AddrWiped
namespace AddrLock

theorem cExt_lockMem (cfg : Cfg) (m : Mem) : CExt m (lockMem cfg m) :=
  cExt_mapInfo (fun p => { p.2 with keyPriv := false }) (fun _ => ⟨rfl, rfl⟩) (fun _ => ⟨rfl, rfl⟩)
    (fun id => (lockMem_heap cfg m id).1) rfl

/-- what the loops of Unlock do: `Scal` unchanged, caches extended (clear-text keys do come back: no `LExt`), no panic
with 2a11dd6, and no failure under the condition `ok` given with each loop -/
def LoopOK (cfg : Cfg) (m : Mem) (ok : Prop) (r : Mem × Option Err) : Prop :=
  GExt False m r.1 ∧ (cfg.f2b = true → r.2 ≠ some .panic) ∧ (ok → r.2 = none)

theorem LoopOK.step {cfg : Cfg} {m x : Mem} {ok ok' : Prop} {r : Mem × Option Err} (h : LoopOK cfg x ok' r)
    (hx : GExt False m x) (hok : ok → ok') : LoopOK cfg m ok r := ⟨hx.trans h.1 id, h.2.1, fun h' => h.2.2 (hok h')⟩

theorem gExt_false {m m' : Mem} (hc : CExt m m') (hs : Scal m' = Scal m) : GExt False m m' := ⟨hc, hs, nofun⟩

theorem loopOK_unlockDou (cfg : Cfg) (d : Disk) (sc : Nat) (es : List Dou) (m : Mem) :
    LoopOK cfg m (cfg.f2b = true ∧ ∀ e ∈ es, cachedA m sc e.acct = true) (unlockDou cfg d sc es m) := by
  induction es generalizing m with
  | nil => exact ⟨.refl _, fun _ h => (nomatch h), fun _ => rfl⟩
  | cons e es ih =>
    simp only [unlockDou]
    cases hl : loadAcct d m sc e.acct with
    | error err =>
      exact ⟨.refl _, fun _ h => (by cases h; rcases loadAcct_error hl with h | h <;> cases h),
        fun h => by
          obtain ⟨_, hc⟩ := Option.isSome_iff_exists.mp (h.2 e List.mem_cons_self)
          rw [loadAcct_cached hc] at hl; cases hl⟩
    | ok m1 =>
      have h1 : GExt False m m1 := (pExt_loadAcct hl).1.mono nofun
      have hdrop : ∀ x : Mem, GExt False x (x.updScope sc fun s => { s with dou := s.dou.tail }) := fun x =>
        gExt_false (cExt_updScope x sc _ rfl fun _ h => List.mem_of_mem_tail h) rfl
      -- the accounts of the remaining entries stay cached
      have hstep : ∀ x, GExt False m x → LoopOK cfg x (cfg.f2b = true ∧ ∀ e ∈ es, cachedA x sc e.acct = true)
          (unlockDou cfg d sc es x) → LoopOK cfg m (cfg.f2b = true ∧ ∀ e' ∈ e :: es, cachedA m sc e'.acct = true)
          (unlockDou cfg d sc es x) := fun x hx h =>
        h.step hx fun hok => ⟨hok.1, fun e' he' => hx.dou.keys _ _ (hok.2 e' (List.mem_cons_of_mem _ he'))⟩
      dsimp only
      refine ite_ind (fun _ => ite_ind (fun hf => ?_) fun hf => ⟨h1, fun h => absurd h hf, fun h => absurd h.1 hf⟩)
        fun _ => ?_
      · exact hstep _ (h1.trans (hdrop _) id) (ih _)
      · exact hstep _ (h1.trans ((gExt_false
          (cExt_setObj _ _ _ fun o => by exact (apply_ite Obj.kind ..).trans (ite_self _)) rfl).trans (hdrop _) id) id) (ih _)

theorem gExt_unlockAccts (m : Mem) (sc : Nat) :
    GExt False m (m.updScope sc fun s => { s with acctInfo := (m.scopes sc).acctInfo.map fun p => (p.1, unlockAcct p) }) :=
  gExt_false ⟨douExt_updScope m sc _ (fun a h => by simpa only [aget_map, Option.isSome_map] using h) fun _ h => Or.inl h,
    wExt_updScope m sc _ fun p hp => by
      obtain ⟨q, hq, rfl⟩ := List.mem_map.mp hp
      exact Or.inl ⟨q, hq, by unfold unlockAcct; split <;> exact ⟨rfl, rfl⟩⟩⟩ rfl

theorem loopOK_unlockScopes (cfg : Cfg) (d : Disk) (scs : List Nat) (m : Mem) :
    LoopOK cfg m (cfg.f2 = true ∧ cfg.f2b = true ∧ DouOK m) (unlockScopes cfg d scs m) := by
  induction scs generalizing m with
  | nil => exact ⟨.refl _, fun _ h => (nomatch h), fun _ => rfl⟩
  | cons sc rest ih =>
    simp only [unlockScopes]
    cases hai : unlockAccts cfg (m.scopes sc).acctInfo with
    | none => exact ⟨.refl _, fun _ h => (nomatch h), fun h => by rw [unlockAccts_f2 h.1] at hai; cases hai⟩
    | some ai =>
      dsimp only
      rw [unlockAccts_some hai]
      have h0 := gExt_unlockAccts m sc
      generalize m.updScope sc _ = m1 at h0 ⊢
      have h1 := (loopOK_unlockDou cfg d sc (m1.scopes sc).dou m1).step h0
        fun h : cfg.f2 = true ∧ cfg.f2b = true ∧ DouOK m => ⟨h.2.1, h0.dou.ok h.2.2 sc⟩
      rcases hr : unlockDou cfg d sc (m1.scopes sc).dou m1 with ⟨m2, _ | e⟩ <;> rw [hr] at h1
      · exact (ih m2).step h1.1 fun h => ⟨h.1, h.2.1, h1.1.dou.ok h.2.2⟩
      · exact h1

def LockedClear (m : Mem) : Prop := m.locked = true → KeyClear m

theorem lockedClear_unlocked {m : Mem} (h : m.locked = false) : LockedClear m := by
  intro h'; rw [h] at h'; cases h'

theorem lockedClear_of_lExt {m m' : Mem} (hs : Scal m' = Scal m) (he : m.locked = true → LExt m m')
    (h : LockedClear m) : LockedClear m' := by
  intro hl'
  have hl : m.locked = true := scal_locked hs ▸ hl'
  have hk := (keyClear_iff m).mp (h hl)
  exact (keyClear_iff m').mpr ⟨scalClr_of_scal hs hk.1, (he hl).clr hk.2⟩

/-- the flags the invariant needs (all on in the current tree) -/
structure WFlags (cfg : Cfg) : Prop where
  f1  : cfg.f1 = true
  f11 : cfg.f11 = true
  f2b : cfg.f2b = true
  f13 : cfg.f13 = true

/-- while unlocked, the stored salted hash is the hash of the current passphrase under the current salt -/
def PassOK (m : Mem) : Prop := m.locked = false → m.hashed = some (m.privPass, m.saltZero)

theorem passOK_of_scal {m m' : Mem} (h : Scal m' = Scal m) (hp : PassOK m) : PassOK m' := by
  unfold PassOK; rw [scal_locked h, scal_hashed h, scal_privPass h, scal_saltZero h]; exact hp

theorem passOK_locked {m : Mem} (h : m.locked = true) : PassOK m := by
  intro h'; rw [h] at h'; cases h'

def Op.noEmpty : Op → Bool
  | .unlock p => p != EMPTY
  | .changePass _ n true => n != EMPTY
  | _ => true

def WOLocked (m : Mem) : Prop := m.watchOnly = true → m.locked = true

theorem woLocked_of_scal {m m' : Mem} (h : Scal m' = Scal m) (hp : WOLocked m) : WOLocked m' := by
  unfold WOLocked; rw [scal_locked h, scal_watchOnly h]; exact hp

/-- what an operation can do to the lock state, the watch-only flag and the passphrase data (salted hash, current
passphrase, salt): the lock state machine, with everything else of the manager forgotten -/
inductive ScalTr (cfg : Cfg) (op : Op) (m m' : Mem) : Prop
  | same : m'.locked = m.locked → m'.watchOnly = m.watchOnly → m'.hashed = m.hashed → m'.privPass = m.privPass →
      m'.saltZero = m.saltZero → ScalTr cfg op m m'
  /-- Unlock of an unlocked manager with the passphrase it was unlocked with: only the salt may change (no f12) -/
  | resalt (p : Nat) : op = .unlock p → m.locked = false → m.hashed = some (p, m.saltZero) →
      m' = { m with saltZero := saltAfter cfg m p } → ScalTr cfg op m m'
  /-- Lock, every failed Unlock, ConvertToWatchingOnly -/
  | locked : m'.locked = true → m'.privPass = m.privPass → ScalTr cfg op m m'
  | opened : op = .unlock m.privPass → m'.watchOnly = false → m'.locked = false → m'.privPass = m.privPass →
      m'.hashed = some (m.privPass, m.saltZero) → m'.saltZero = saltAfter cfg m m.privPass → ScalTr cfg op m m'
  | newPriv (o n : Nat) : op = .changePass o n true →
      m' = { m with privPass := n, masterPriv := if m.locked then .zero else .nonzero,
                    hashed := if m.locked then none else some (n, false),
                    saltZero := if m.locked then false else (!cfg.f12 && n = EMPTY) } → ScalTr cfg op m m'

theorem ScalTr.of_scal {cfg : Cfg} {op : Op} {m m' : Mem} (h : Scal m' = Scal m) : ScalTr cfg op m m' :=
  .same (scal_locked h) (scal_watchOnly h) (scal_hashed h) (scal_privPass h) (scal_saltZero h)

/-- what every operation does to the manager: the caches and the heap are extended, the lock state moves as `ScalTr` says,
and (with the flags) a locked manager is clear afterwards if it was before -/
structure OpExt (cfg : Cfg) (op : Op) (m m' : Mem) : Prop extends CExt m m' where
  scal : ScalTr cfg op m m'
  clr  : WFlags cfg → LockedClear m → LockedClear m'

theorem OpExt.refl {cfg : Cfg} {op : Op} (m : Mem) : OpExt cfg op m m := ⟨.refl m, .of_scal rfl, fun _ h => h⟩

theorem PExt.opExt {cfg : Cfg} {op : Op} {m m' : Mem} (h : PExt m m') : OpExt cfg op m m' :=
  ⟨h.toCExt, .of_scal h.scal, fun _ => lockedClear_of_lExt h.scal h.clr⟩

/-- where Lock, every failing Unlock and the conversion of an unlocked manager end: whatever memory `x` was reached
from `m` is locked, and `lock()` wipes (f1, f11) from any state -/
theorem OpExt.lockMem {cfg : Cfg} {op : Op} {m x : Mem} (hx : CExt m x) (hp : x.privPass = m.privPass) :
    OpExt cfg op m (lockMem cfg x) :=
  ⟨hx.trans (cExt_lockMem cfg x), .locked rfl hp, fun hf _ _ => keyClear_lockMem cfg hf.f1 hf.f11 x⟩

theorem opExt_unlock (cfg : Cfg) (d : Disk) (m : Mem) (p : Nat) : OpExt cfg (.unlock p) m (unlock cfg d m p).1 := by
  have h0 : CExt m (unlockStart cfg m) := cExt_same rfl rfl rfl
  refine unlock_cases (P := fun r => OpExt cfg (.unlock p) m r.1) cfg d m p (loopOK_unlockScopes cfg d _ _)
    (fun _ => .refl m)
    (fun _ hl hh => ⟨cExt_same rfl rfl rfl, .resalt p rfl hl hh rfl, fun _ _ => lockedClear_unlocked hl⟩)
    (fun _ _ _ => .lockMem (cExt_same rfl rfl rfl) rfl) (fun _ _ _ => .lockMem (.refl m) rfl)
    (fun _ hl _ m2 h => ?_) (fun _ _ _ m2 e h => ?_) (fun hw _ hp m2 h => ?_) <;>
    obtain ⟨⟨hc, hs, -⟩, hpanic, -⟩ := h
  · -- a panic leaves the keys restored and `locked` still set: excluded by f2b
    exact ⟨h0.trans hc, .locked ((scal_locked hs).trans hl) (scal_privPass hs :), fun hf => (hpanic hf.f2b rfl).elim⟩
  · exact .lockMem (h0.trans hc) (scal_privPass hs :)
  · subst hp
    exact ⟨h0.trans (hc.trans (cExt_same rfl rfl rfl)),
      .opened rfl ((scal_watchOnly hs).trans hw) rfl (scal_privPass hs :)
        (congrArg (fun z => some (m.privPass, z)) (scal_saltZero hs :))
        (by show saltAfter cfg m2 m.privPass = _; unfold saltAfter; rw [(scal_saltZero hs :)]; rfl),
      fun _ _ => lockedClear_unlocked rfl⟩

theorem opExt_changePass (cfg : Cfg) (d : Disk) (m : Mem) (o n : Nat) (pr : Bool) :
    OpExt cfg (.changePass o n pr) m (changePass cfg d m o n pr).2.1 :=
  changePass_cases (P := fun r => OpExt cfg (.changePass o n pr) m r.2.1) cfg d m o n pr (fun _ => .refl m)
    (fun hpr _ _ => ⟨cExt_same rfl rfl rfl, .newPriv o n (hpr ▸ rfl) rfl, fun _ h hl =>
      have hl' : m.locked = true := hl
      have hk := (keyClear_iff m).mp (h hl')
      (keyClear_iff _).mpr ⟨⟨by simp [hl'], hk.1.2.1, hk.1.2.2.1, by simp [hl']⟩, hk.2⟩⟩)
    (fun _ _ => ⟨cExt_same rfl rfl rfl, .same rfl rfl rfl rfl rfl, fun _ h hl =>
      have hk := (keyClear_iff m).mp (h hl); (keyClear_iff _).mpr ⟨hk.1, hk.2⟩⟩)

theorem opExt_convertWO (cfg : Cfg) (op : Op) (d : Disk) (m : Mem) : OpExt cfg op m (convertWO cfg d m).2 := by
  unfold convertWO
  refine ite_ind (P := fun r : Disk × Mem => OpExt cfg op m r.2) (fun _ => .refl m) fun _ => ?_
  -- an unlocked manager is locked first; the conversion itself drops `hasEnc` marks and the three keys
  have h1 := ite_ind (P := fun x => OpExt cfg op m x ∧ x.locked = true ∧ x.privPass = m.privPass) (b := lockMem cfg m)
    (fun hl : m.locked = true => ⟨.refl m, hl, rfl⟩) fun _ => ⟨.lockMem (.refl m) rfl, rfl, rfl⟩
  generalize (if m.locked = true then m else lockMem cfg m) = m1 at h1 ⊢
  obtain ⟨h1, hl1, hp1⟩ := h1
  refine ⟨h1.toCExt.trans (cExt_mapInfo (fun p => { p.2 with hasEnc := false }) (fun _ => ⟨rfl, rfl⟩) (fun _ => ⟨rfl, rfl⟩)
    (fun id => by dsimp only; exact (apply_ite Obj.kind ..).trans (ite_self _)) rfl), .locked hl1 hp1, fun hf h _ => ?_⟩
  have h1 := h1.clr hf h hl1
  have hk := ((keyClear_iff m1).mp h1).2
  refine (keyClear_iff _).mpr ⟨⟨Buf.noConfusion, Buf.noConfusion, Buf.noConfusion, h1.hashed⟩, fun sc hsc => ?_⟩
  have hs := scopeClr_heap (h' := fun id => if (((m1.heap id).kind == .managed || (m1.heap id).kind == .script) &&
      (List.range nScopes).any fun sc => (m1.scopes sc).addrs.any fun p => p.2 == id) = true
      then { m1.heap id with hasEnc := false } else m1.heap id)
    (hClr_of_eq fun id => by dsimp only; split <;> exact ⟨rfl, rfl⟩) (hk sc hsc)
  exact ⟨fun p hp => by obtain ⟨q, hq, rfl⟩ := List.mem_map.mp hp; exact hs.acct q hq, hs.addrs, hs.pkc⟩

theorem opExt_execMem (cfg : Cfg) (d : Disk) (m : Mem) (op : Op) : OpExt cfg op m (execMem cfg d m op) :=
  execMem_cases op (.refl m) (fun hp => (pExt_execMem cfg d m hp).opExt) (fun _ hop => hop ▸ opExt_unlock ..)
    (lockOp_cases (P := fun r => OpExt cfg op m r.1) cfg m (fun _ => .refl m) fun _ _ => .lockMem (.refl m) rfl)
    (fun _ _ _ hop => hop ▸ opExt_changePass ..) (opExt_convertWO ..)

theorem ScalTr.passOK {cfg : Cfg} {op : Op} {m m' : Mem} (t : ScalTr cfg op m m') (h : PassOK m)
    (hc : cfg.f12 = true ∨ op.noEmpty = true) : PassOK m' := by
  -- without the aliasing append (f12), or for a non-empty passphrase, hashing leaves the salt alone
  have hsalt : ∀ p, (op = .unlock p ∨ ∃ o, op = .changePass o p true) → (!cfg.f12 && decide (p = EMPTY)) = false := by
    intro p hop
    rcases hc with hc | hc
    · simp [hc]
    · rcases hop with rfl | ⟨o, rfl⟩ <;> simp [Op.noEmpty] at hc <;> simp [hc]
  cases t with
  | same h1 _ h3 h4 h5 => unfold PassOK; rw [h1, h3, h4, h5]; exact h
  | resalt p hop hl hh he =>
    subst he; intro _
    exact (h hl).trans (by simp [saltAfter, hsalt p (.inl hop)])
  | locked hl _ => exact passOK_locked hl
  | opened hop _ _ hp hh hs => intro _; rw [hh, hp, hs]; simp [saltAfter, hsalt _ (.inl hop)]
  | newPriv o n hop he =>
    subst he; intro hl
    have hl' : m.locked = false := hl
    simp [hl', hsalt n (.inr ⟨o, hop⟩)]

theorem ScalTr.woLocked {cfg : Cfg} {op : Op} {m m' : Mem} (t : ScalTr cfg op m m') (h : WOLocked m) : WOLocked m' := by
  cases t with
  | same h1 h2 => unfold WOLocked; rw [h1, h2]; exact h
  | resalt _ _ _ _ he => subst he; exact h
  | locked hl _ => exact fun _ => hl
  | opened _ hw => intro h'; rw [hw] at h'; cases h'
  | newPriv _ _ _ he => subst he; exact h

def MemOK (cfg : Cfg) (m : Mem) : Prop := DouOK m ∧ LastKind m ∧ (WFlags cfg → LockedClear m)

theorem MemOK.ext {cfg : Cfg} {m m' : Mem} (h : MemOK cfg m) (he : CExt m m')
    (hc : WFlags cfg → LockedClear m → LockedClear m') : MemOK cfg m' :=
  ⟨he.dou.ok h.1, he.kind.last h.2.1, fun hf => hc hf (h.2.2 hf)⟩

/-- the invariant of all histories (`stOK_run`); `StDou` and the `C05_wiped_histories*` theorems are projections of it -/
def StOK (cfg : Cfg) : State → Prop := MemInv fun ps m => MemOK cfg m ∧ ∀ p ∈ ps, PendGood m p

theorem memOK_foldl_runPend (cfg : Cfg) (ps : List Pend) (m : Mem) (h : MemOK cfg m) (hp : ∀ p ∈ ps, PendGood m p) :
    MemOK cfg (ps.foldl (runPend cfg) m) := by
  induction ps generalizing m with
  | nil => exact h
  | cons p ps ih =>
    have he := gExt_runPend cfg m p (hp p List.mem_cons_self)
    exact ih _ (h.ext he.toCExt fun hf => lockedClear_of_lExt he.scal fun hl => he.clr ⟨hf.f13, hl⟩)
      fun q hq => (hp q (List.mem_cons_of_mem _ hq)).ext he.toCExt

theorem keyClear_openMem (d : Disk) : KeyClear (openMem d) := by
  refine ⟨?_, by simp [openMem], by simp [openMem], rfl, ?_, fun _ _ => rfl, ?_, ?_⟩
  · simp only [openMem]; split <;> simp
  · intro sc _ p hp; simp [openMem] at hp
  · intro sc _ p hp; simp [openMem] at hp
  · intro sc _ p hp; simp [openMem] at hp

theorem stOK_run (cfg : Cfg) (ops : List Op) : StOK cfg (run { cfg := cfg } ops) :=
  run_memInv cfg (fun d => ⟨⟨douOK_openMem d, lastKind_openMem d, fun _ _ => keyClear_openMem d⟩, nofun⟩)
    (fun _ _ h => ⟨h.1, nofun⟩)
    (fun op _ d _ m h =>
      have he := opExt_execMem cfg d m op
      ⟨h.1.ext he.toCExt he.clr, fun p hpp =>
        (List.mem_append.mp hpp).elim (fun h1 => (h.2 p h1).ext he.toCExt) (pend_execPend cfg d m op p)⟩)
    fun ps m h => ⟨memOK_foldl_runPend cfg ps m h.1 h.2, nofun⟩

theorem StOK.stDou {cfg : Cfg} {s : State} (h : StOK cfg s) : StDou s :=
  ⟨fun m hm => ⟨(h.mem m hm).1.1, fun p hp => ((h.mem m hm).2 p hp).1⟩, h.pend⟩

theorem lockedClear_run (cfg : Cfg) (hf : WFlags cfg) (ops : List Op) (m : Mem) (hm : (run { cfg := cfg } ops).mem = some m) :
    LockedClear m :=
  ((stOK_run cfg ops).mem m hm).1.2.2 hf

/-- the buffer map of a locked manager as the hook reports it: `KeyClear`, and the clear-text key of BOTH cached
last-address objects of every cached account is nil (they are `*managedAddress` objects: `LastKind`) -/
structure BufClear (m : Mem) : Prop where
  key    : KeyClear m
  lastCT : ∀ sc, sc < nScopes → ∀ p ∈ (m.scopes sc).acctInfo,
             (m.heap p.2.lastExt).ct = false ∧ (m.heap p.2.lastInt).ct = false

theorem bufClear_of {m : Mem} (hk : KeyClear m) (hl : LastKind m) : BufClear m :=
  ⟨hk, fun sc hsc p hp => ⟨(hk.last sc hsc p hp).1 (hl sc p hp).1.2, (hk.last sc hsc p hp).2 (hl sc p hp).2.2⟩⟩

end AddrLock
