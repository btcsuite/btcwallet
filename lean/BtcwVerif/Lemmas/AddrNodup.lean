import BtcwVerif.Lemmas.AddrInv
import BtcwVerif.Lemmas.AddrIdx
/-!
`Nodups`: the scope lists (memory and database) never hold two entries for the same scope.  `IdxInv hd s log`: the cached next
indices equal the stored ones, and for every account row and branch the indices of the objects issued so far (`log`, in issue
order) are exactly the valid children below the row's next index, in increasing order.  `Keeps hd s s'`, most of this file: the
move from `s` to `s'` keeps both, the second with the same log — every move does unless it issues addresses (the frame rule of
`Inv` is `Inv.extend`).  It composes by function composition and has three sources: `Keeps.same` (rows keep key and next indices,
cache entries their counters), `Keeps.load` (a cache entry is written from its row), `Keeps.newRow` (a row appears at zero).
-/
set_option linter.unusedSectionVars false
namespace AddrDerive

variable {K P : Type} [DecidableEq K] [DecidableEq P]

section
variable {α β : Type} [DecidableEq α]

theorem keys_aset (l : List (α × β)) (a : α) (b : β) :
    (aset l a b).map (·.1) = if a ∈ l.map (·.1) then l.map (·.1) else l.map (·.1) ++ [a] := by
  induction l with
  | nil => simp [aset]
  | cons h t ih =>
    obtain ⟨k, v⟩ := h
    by_cases hk : k = a
    · subst hk; simp [aset]
    · have hk' : ¬ a = k := fun e => hk e.symm
      simp only [aset, hk, if_false, List.map_cons, ih, List.mem_cons, hk', false_or]
      split <;> simp

theorem nodup_keys_aset (l : List (α × β)) (a : α) (b : β) (h : (l.map (·.1)).Nodup) : ((aset l a b).map (·.1)).Nodup := by
  rw [keys_aset]
  split
  · exact h
  · rename_i hn
    rw [List.nodup_append]
    refine ⟨h, by simp, ?_⟩
    intro x hx y hy
    simp at hy; subst hy
    intro e; subst e; exact hn hx

theorem alookup_of_mem_nodup (l : List (α × β)) (h : (l.map (·.1)).Nodup) (a : α) (b : β) (hm : (a, b) ∈ l) : alookup l a = some b := by
  induction l with
  | nil => cases hm
  | cons hd t ih =>
    obtain ⟨k, v⟩ := hd
    simp only [List.map_cons, List.nodup_cons] at h
    rcases List.mem_cons.mp hm with e | hm
    · cases e; simp [alookup]
    · have : k ≠ a := by
        intro e; subst e
        exact h.1 (List.mem_map.mpr ⟨(k, b), hm, rfl⟩)
      simp [alookup, this, ih h.2 hm]
end

structure Nodups (s : State K P) : Prop where
  m : (s.mem.scopes.map (·.1)).Nodup
  d : (s.disk.scopes.map (·.1)).Nodup

theorem Nodups.putSM {s : State K P} (h : Nodups s) (sc : Scope) (sm : ScopeMem K P) : Nodups (putSM s sc sm) :=
  ⟨nodup_keys_aset _ _ _ h.m, h.d⟩
theorem Nodups.putSD {s : State K P} (h : Nodups s) (sc : Scope) (sd : ScopeDisk K P) : Nodups (putSD s sc sd) :=
  ⟨h.m, nodup_keys_aset _ _ _ h.d⟩
theorem Nodups.same {s s' : State K P} (h : Nodups s) (hm : s'.mem.scopes.map (·.1) = s.mem.scopes.map (·.1))
    (hd : s'.disk.scopes.map (·.1) = s.disk.scopes.map (·.1)) : Nodups s' := ⟨hm ▸ h.m, hd ▸ h.d⟩

theorem keys_map_snd {α β γ : Type} (l : List (α × β)) (f : α × β → γ) : (l.map fun e => (e.1, f e)).map (·.1) = l.map (·.1) := by
  simp [List.map_map, Function.comp_def]

/-- indices issued so far on branch `b` of account `a` of scope `sc`, in issue order -/
def idxOf (log : List (KeyObj K P)) (sc : Scope) (a b : Nat) : List Nat :=
  (log.filter fun o => o.scope = sc ∧ o.acct = a ∧ o.branch = b).map (·.index)

def validAt (hd : HD K P) (p : P) (b : Nat) : Nat → Bool := fun i => (derive2pub hd p b i).isSome

structure IdxInv (hd : HD K P) (s : State K P) (log : List (KeyObj K P)) : Prop where
  next : ∀ sc a ai row, cacheAt s sc a = some ai → acctRow s sc a = some row →
    ai.nextExt = rowNext row false ∧ ai.nextInt = rowNext row true
  run : ∀ sc a row, acctRow s sc a = some row → ∀ int : Bool,
    IsValidRun (validAt hd (rowPub row) (branchOf int)) 0 (rowNext row int) (idxOf log sc a (branchOf int))
  known : ∀ o ∈ log, (acctRow s o.scope o.acct).isSome ∧ (o.branch = 0 ∨ o.branch = 1)

section
variable {hd : HD K P} {s s' : State K P} {sc : Scope}

/-- what the index bookkeeping reads of an account row -/
def rowIdx (r : AcctRow K P) : P × Nat × Nat := (rowPub r, rowNext r false, rowNext r true)

theorem rowNext_eq {r r' : AcctRow K P} (h : rowIdx r = rowIdx r') (int : Bool) : rowNext r int = rowNext r' int := by
  cases int
  · exact (Prod.mk.inj (Prod.mk.inj h).2).1
  · exact (Prod.mk.inj (Prod.mk.inj h).2).2

structure Keeps (hd : HD K P) (s s' : State K P) : Prop where
  nodups : Nodups s → Nodups s'
  idx : ∀ log, IdxInv hd s log → IdxInv hd s' log

theorem Keeps.refl (s : State K P) : Keeps hd s s := ⟨id, fun _ => id⟩

theorem Keeps.trans {s'' : State K P} (f : Keeps hd s s') (g : Keeps hd s' s'') : Keeps hd s s'' :=
  ⟨g.nodups ∘ f.nodups, fun log => g.idx log ∘ f.idx log⟩

/-- no row appears or disappears and each keeps what `rowIdx` reads; no cache entry appears and each keeps its counters -/
theorem Keeps.same (hn : Nodups s → Nodups s') (hr : ∀ sc a, (acctRow s' sc a).map rowIdx = (acctRow s sc a).map rowIdx)
    (hc : ∀ sc a ai', cacheAt s' sc a = some ai' →
      ∃ ai, cacheAt s sc a = some ai ∧ ai'.nextExt = ai.nextExt ∧ ai'.nextInt = ai.nextInt) : Keeps hd s s' := by
  have back : ∀ {sc a row'}, acctRow s' sc a = some row' → ∃ row, acctRow s sc a = some row ∧ rowIdx row = rowIdx row' :=
    fun h => Option.map_eq_some_iff.mp ((hr _ _).symm.trans (congrArg _ h))
  refine ⟨hn, fun log x => ⟨fun sc a ai' row' hca hro => ?_, fun sc a row' hro int => ?_, fun o ho => ⟨?_, (x.known o ho).2⟩⟩⟩
  · obtain ⟨ai, h1, e1, e2⟩ := hc sc a ai' hca
    obtain ⟨row, h2, e3⟩ := back hro
    have := x.next sc a ai row h1 h2
    exact ⟨by rw [e1, this.1, rowNext_eq e3], by rw [e2, this.2, rowNext_eq e3]⟩
  · obtain ⟨row, h2, e3⟩ := back hro
    have := x.run sc a row h2 int
    rwa [show rowPub row = rowPub row' from (Prod.mk.inj e3).1, rowNext_eq e3 int] at this
  · rw [isSome_of_map_eq (hr o.scope o.acct)]; exact (x.known o ho).1

theorem Keeps.of_views (hn : Nodups s → Nodups s') (hr : ∀ sc a, acctRow s' sc a = acctRow s sc a)
    (hc : ∀ sc a, cacheAt s' sc a = cacheAt s sc a) : Keeps hd s s' :=
  .same hn (fun sc a => by rw [hr]) fun sc a ai h => ⟨ai, by rw [← hc]; exact h, rfl, rfl⟩

theorem Keeps.of_scopes (hm : s'.mem.scopes = s.mem.scopes) (hd' : s'.disk.scopes = s.disk.scopes) : Keeps hd s s' :=
  .of_views (fun h => ⟨hm ▸ h.m, hd' ▸ h.d⟩) (fun sc a => by simp only [acctRow, getSD, hd'])
    (fun sc a => by simp only [cacheAt, getSM, hm])

theorem Keeps.putSM {sm : ScopeMem K P} (hsm : getSM s sc = some sm) (sm' : ScopeMem K P)
    (hi : sm'.acctInfo = sm.acctInfo) : Keeps hd s (putSM s sc sm') :=
  .of_views (·.putSM sc sm') (fun _ _ => rfl) (cacheAt_putSM_same hsm sm' hi)

theorem Keeps.putSD {sd : ScopeDisk K P} (hsd : getSD s sc = some sd) (sd' : ScopeDisk K P)
    (hi : ∀ a, (alookup sd'.accts a).map rowIdx = (alookup sd.accts a).map rowIdx) : Keeps hd s (putSD s sc sd') := by
  refine .same (·.putSD sc sd') (fun sc' a => ?_) fun sc' a ai h => ⟨ai, h, rfl, rfl⟩
  rw [acctRow_putSD]
  split
  · rename_i e; rw [← e, hi, acctRow_of_getSD hsd]
  · rfl

theorem Keeps.addObj (s : State K P) {sm : ScopeMem K P} (hsm : getSM s sc = some sm) (o : Obj K P)
    (addrs' : List (AddrId P × Nat)) (dou' : List (Nat × Nat × Nat)) (h i : Nat) :
    Keeps hd s (bindH (AddrDerive.putSM (alloc s o).1 sc { sm with addrs := addrs', dou := dou' }) h i) :=
  (Keeps.of_scopes (s := s) (s' := (alloc s o).1) rfl rfl).trans
    ((Keeps.putSM (s := (alloc s o).1) hsm { sm with addrs := addrs', dou := dou' } rfl).trans
      (.of_scopes (s' := bindH _ h i) rfl rfl))

theorem Keeps.setCache {sm : ScopeMem K P} (hsm : getSM s sc = some sm) {acct : Nat}
    {ai ai' : AcctInfo K P} (hai : alookup sm.acctInfo acct = some ai) (e1 : ai'.nextExt = ai.nextExt)
    (e2 : ai'.nextInt = ai.nextInt) : Keeps hd s (AddrDerive.putSM s sc { sm with acctInfo := aset sm.acctInfo acct ai' }) := by
  refine .same (·.putSM _ _) (fun _ _ => rfl) fun sc' a ai2 hc => ?_
  rw [cacheAt_putSM_upd hsm _ (fun _ => alookup_aset ..)] at hc
  split at hc
  · rename_i e
    cases hc
    exact ⟨ai, by rw [← e.1, ← e.2, cacheAt_of_getSM hsm, hai], e1, e2⟩
  · exact ⟨ai2, hc, rfl, rfl⟩

/-- one cache entry is written with the counters of its row -/
theorem Keeps.load (hn : Nodups s → Nodups s') (hr : ∀ sc a, acctRow s' sc a = acctRow s sc a) {acct : Nat}
    {ai : AcctInfo K P} {row : AcctRow K P} (hrow : acctRow s sc acct = some row)
    (hai : ai.nextExt = rowNext row false ∧ ai.nextInt = rowNext row true)
    (hc : ∀ sc' a', cacheAt s' sc' a' = if sc = sc' ∧ acct = a' then some ai else cacheAt s sc' a') : Keeps hd s s' := by
  refine ⟨hn, fun log x => ⟨fun sc' a' ai' row' hca hro => ?_, fun sc' a' row' hro => ?_, fun o ho => ?_⟩⟩
  · rw [hr] at hro
    rw [hc] at hca
    split at hca
    · rename_i e; cases hca; rw [← e.1, ← e.2, hrow] at hro; cases hro; exact hai
    · exact x.next sc' a' ai' row' hca hro
  · rw [hr] at hro; exact x.run sc' a' row' hro
  · rw [hr]; exact x.known o ho

/-- one row appears, with both counters at zero; the caches are as they were -/
theorem Keeps.newRow (hi : Inv hd s) (hn : Nodups s → Nodups s') {acct : Nat} {row : AcctRow K P}
    (hfresh : acctRow s sc acct = none) (hzero : ∀ int, rowNext row int = 0)
    (hrows : ∀ sc' a', acctRow s' sc' a' = if sc = sc' ∧ acct = a' then some row else acctRow s sc' a')
    (hcache : ∀ sc' a', cacheAt s' sc' a' = cacheAt s sc' a') : Keeps hd s s' := by
  refine ⟨hn, fun log x => ⟨fun sc' a' ai' row' hca hro => ?_, fun sc' a' row' hro int => ?_, fun o ho => ⟨?_, (x.known o ho).2⟩⟩⟩
  · rw [hcache] at hca
    rw [hrows] at hro
    split at hro
    · -- nothing is cached for an account without row
      rename_i e
      obtain ⟨r, hr0, _⟩ := hi.cache sc' a' ai' hca
      rw [← e.1, ← e.2, hfresh] at hr0; cases hr0
    · exact x.next sc' a' ai' row' hca hro
  · rw [hrows] at hro
    split at hro
    · -- a row that was not there has issued nothing
      rename_i e
      cases hro
      have : idxOf log sc' a' (branchOf int) = [] := by
        unfold idxOf
        rw [List.filter_eq_nil_iff.mpr]
        · rfl
        · intro o ho
          simp only [decide_eq_true_eq]
          intro ⟨e1, e2, _⟩
          have := (x.known o ho).1
          rw [e1, e2, ← e.1, ← e.2, hfresh] at this
          cases this
      rw [this, hzero]
      exact IsValidRun.nil _ 0
    · exact x.run sc' a' row' hro int
  · rw [hrows]
    split
    · rfl
    · exact (x.known o ho).1

end
end AddrDerive
