import BtcwVerif.Lemmas.RefLease
/-!
# Observables of a good pair: `fetchCredits` (`UnspentOutputs`, `OutputsToWatch`) lists exactly the ledger's outputs, for
every setting of its three flags (`fetchCredits_good`); `Balance` is the ledger's balance (`balance_good`) because on both
sides the balance is the sum of what each spendable output contributes (`elig`)
-/
namespace TxStore
open KMap Ledger

section
variable {α β γ δ : Type}

theorem filterMap_flatMap_congr (w : α → List β) (f : α → β → Option γ) (g : γ → Option δ)
    (k : α → β → Option δ) (l : List α) (h : ∀ a ∈ l, ∀ b ∈ w a, (f a b).bind g = k a b) :
    (l.flatMap fun a => (w a).filterMap (f a)).filterMap g = l.flatMap fun a => (w a).filterMap (k a) := by
  rw [List.filterMap_flatMap]
  refine flatMap_congr' _ _ l fun a ha => ?_
  rw [List.filterMap_filterMap]
  exact filterMap_congr' _ _ _ (h a ha)

theorem filterMap_map_sublist (f : α → Option β) (g : β → γ) (k : α → γ) : ∀ (l : List α),
    (∀ a ∈ l, ∀ b, f a = some b → g b = k a) → ((l.filterMap f).map g).Sublist (l.map k) := by
  intro l
  induction l with
  | nil => intro _; exact List.Sublist.slnil
  | cons a t ih =>
    intro h
    have iht := ih (fun x hx => h x (List.mem_cons_of_mem _ hx))
    rw [List.filterMap_cons]
    cases hfa : f a with
    | none => exact List.Sublist.cons _ iht
    | some b =>
      rw [List.map_cons, List.map_cons, h a List.mem_cons_self b hfa]
      exact List.Sublist.cons_cons _ iht

end

theorem expUnspent_eq (L : Ledger) : expUnspent L = (chainTxs L).flatMap fun p => (withIdx p.1.outs).filterMap fun iv =>
    if credited L ⟨p.1.hash, iv.1⟩ && !spentConfirmed L ⟨p.1.hash, iv.1⟩ then some (⟨p.1.hash, iv.1⟩, p.2.block)
    else none := by
  unfold expUnspent expCredits expCreditsOf
  refine filterMap_flatMap_congr _ _ _ _ _ fun p _ iv _ => ?_
  unfold credited
  cases lookup L.credit ⟨p.1.hash, iv.1⟩ with
  | none => rfl
  | some chg =>
    simp only [Option.bind_some, spenderOf_isSome, Option.isSome_some, Bool.true_and]
    cases spentConfirmed L ⟨p.1.hash, iv.1⟩ <;> rfl

/-- the outputs of transactions with distinct hashes are distinct -/
theorem nodup_outputs {α β : Type} (tx : α → Tx) (F : α → Nat × Int → Option β) (key : β → OutPoint)
    (hkey : ∀ a iv b, F a iv = some b → key b = ⟨(tx a).hash, iv.1⟩) (l : List α)
    (h : (l.map fun a => (tx a).hash).Nodup) :
    ((l.flatMap fun a => (withIdx (tx a).outs).filterMap (F a)).map key).Nodup := by
  rw [List.map_flatMap, List.Nodup, List.pairwise_flatMap]
  constructor
  · intro a _
    rw [List.pairwise_map, List.pairwise_filterMap]
    refine (List.pairwise_map.mp (withIdx_fst_nodup (tx a).outs 0)).imp fun hne b hb b' hb' e => ?_
    rw [hkey a _ b hb, hkey a _ b' hb'] at e
    exact hne (congrArg OutPoint.index e)
  · refine (List.pairwise_map.mp h).imp fun hne x hx y hy e => ?_
    obtain ⟨b, hb, rfl⟩ := List.mem_map.mp hx
    obtain ⟨b', hb', rfl⟩ := List.mem_map.mp hy
    obtain ⟨_, _, h1⟩ := List.mem_filterMap.mp hb
    obtain ⟨_, _, h2⟩ := List.mem_filterMap.mp hb'
    rw [hkey _ _ b h1, hkey _ _ b' h2] at e
    exact hne (congrArg OutPoint.hash e)

theorem nodup_expUnspent_keys {L : Ledger} (hl : LWF L) : ((expUnspent L).map (·.1)).Nodup := by
  rw [expUnspent_eq]
  refine nodup_outputs (fun p : Tx × BlockMeta => p.1) _ _ (fun p iv b hb => ?_) _ (chain_hashes_nodup hl)
  split at hb <;> cases hb
  rfl

theorem nodup_expUnminedCredits {L : Ledger} (hl : LWF L) : (expUnminedCredits L).Nodup := by
  refine nodup_of_nodup_map (·.1) (nodup_outputs id _ _ (fun t iv b hb => ?_) _ (pool_hashes_nodup hl))
  split at hb <;> cases hb
  rfl

theorem fetchMinedCredit_of_rec {s : Store} {now : Nat} {il isp full : Bool} {op : OutPoint} {blk : Block} {rec : Tx}
    {v : Int} {br : BlockRec} (hrec : s.txrecs.find? ⟨op.hash, blk⟩ = some rec) (hv : rec.outs[op.index]? = some v)
    (hbr : s.blocks.find? blk.height = some br) :
    fetchMinedCredit s now il isp full (op, blk) =
      .ok (if !(!isp && spentByUnmined s op) && !(!il && isLocked s op now)
        then some (if full then ⟨op, some ⟨blk, br.time⟩, v, rec.isCoinBase⟩ else ⟨op, none, 0, false⟩) else none) := by
  rw [fetchMinedCredit_eq_ok]
  cases (!il && isLocked s op now) <;> cases (!isp && spentByUnmined s op) <;> cases full <;> simp [hrec, hv, hbr]

theorem fetchUnminedCredit_of_rec {s : Store} {now : Nat} {il isp full : Bool} {op : OutPoint} {uc : UCredit} {rec : Tx}
    {v : Int} (hrec : s.unmined.find? op.hash = some rec) (hv : rec.outs[op.index]? = some v) :
    fetchUnminedCredit s now il isp full (op, uc) =
      .ok (if !(!isp && spentByUnmined s op) && !(!il && isLocked s op now)
        then some (if full then ⟨op, none, v, rec.isCoinBase⟩ else ⟨op, none, 0, false⟩) else none) := by
  rw [fetchUnminedCredit_eq_ok]
  cases (!il && isLocked s op now) <;> cases (!isp && spentByUnmined s op) <;> cases full <;> simp [hrec, hv]

theorem fetchCredits_inclLocked (s : Store) (now now' : Nat) (isp full : Bool) :
    fetchCredits s now true isp full = fetchCredits s now' true isp full := by
  have h1 : fetchMinedCredit s now true isp full = fetchMinedCredit s now' true isp full := by
    funext e; obtain ⟨op, blk⟩ := e; rfl
  have h2 : fetchUnminedCredit s now true isp full = fetchUnminedCredit s now' true isp full := by
    funext e; obtain ⟨op, uc⟩ := e; rfl
  unfold fetchCredits
  rw [h1, h2]

/-- what the ledger says `fetchCredits` reports about output `iv` of the known transaction `t` (`b` its block, if
confirmed): nothing unless the output is credited, not leased (unless leased outputs are included) and unspent — spent
by a confirmed transaction when outputs spent by unconfirmed ones are included, by any known transaction otherwise;
amount, block and coinbase flag only when `full` -/
def creditOf (L : Ledger) (inclLocked inclSpent full : Bool) (t : Tx) (b : Option BlockMeta) (iv : Nat × Int) :
    Option Credit :=
  if credited L ⟨t.hash, iv.1⟩ &&
      (if inclSpent then !spentConfirmed L ⟨t.hash, iv.1⟩ else !Ledger.spent L ⟨t.hash, iv.1⟩) &&
      !(!inclLocked && leased L ⟨t.hash, iv.1⟩)
  then some (if full then ⟨⟨t.hash, iv.1⟩, b, iv.2, t.isCoinBase⟩ else ⟨⟨t.hash, iv.1⟩, none, 0, false⟩) else none

theorem creditOf_some {L : Ledger} {il isp full : Bool} {t : Tx} {b : Option BlockMeta} {iv : Nat × Int} {c : Credit}
    (h : creditOf L il isp full t b iv = some c) : c.op = ⟨t.hash, iv.1⟩ ∧ (full = true → c.block = b) := by
  obtain ⟨_, e⟩ := Option.ite_none_right_eq_some.mp h
  cases e
  cases full <;> exact ⟨rfl, fun h => by first | rfl | cases h⟩

theorem spent_of_spentConfirmed {L : Ledger} {op : OutPoint} (h : spentConfirmed L op = true) :
    Ledger.spent L op = true := by
  obtain ⟨p, hp, hin⟩ := spentConfirmed_iff.mp h
  exact spent_iff.mpr ⟨(p.1, some p.2), known_of_mined hp, hin⟩

theorem creditOf_none {L : Ledger} {il isp full : Bool} {t : Tx} {b : Option BlockMeta} {i : Nat} {v : Int}
    (h : (credited L ⟨t.hash, i⟩ && !spentConfirmed L ⟨t.hash, i⟩) = false) :
    creditOf L il isp full t b (i, v) = none := by
  unfold creditOf
  cases hc : credited L ⟨t.hash, i⟩ with
  | false => rfl
  | true =>
    have hsc : spentConfirmed L ⟨t.hash, i⟩ = true := by rw [hc] at h; exact (Bool.not_eq_false' _).mp h
    simp only [hsc, spent_of_spentConfirmed hsc, Bool.not_true, ite_self, Bool.and_false, Bool.false_and,
      Bool.false_eq_true, if_false]

theorem utxos_eq (L : Ledger) :
    utxos L = (known L).flatMap fun p => (withIdx p.1.outs).filterMap (creditOf L false false true p.1 p.2) := rfl

theorem watchSet_eq (L : Ledger) : watchSet L =
    ((known L).flatMap fun p => (withIdx p.1.outs).filterMap (creditOf L true true false p.1 p.2)).map (·.op) := by
  unfold watchSet
  rw [List.map_flatMap]
  apply flatMap_congr'
  intro p _
  rw [List.map_filterMap]
  apply filterMap_congr'
  rintro ⟨i, v⟩ _
  unfold creditOf
  dsimp only
  cases credited L ⟨p.1.hash, i⟩ <;> cases spentConfirmed L ⟨p.1.hash, i⟩ <;> rfl

/-- `okOr none (f e)` names the answer for an entry without knowing which ledger output it is -/
theorem fetch_bucket {ε : Type} {f : ε → M (Option Credit)} {key : ε → OutPoint} {l : List ε}
    (h : ∀ e ∈ l, ∃ o, f e = .ok o ∧ ∀ c, o = some c → c.op = key e) :
    l.mapM f = .ok (l.map fun e => okOr none (f e)) ∧
      ((l.filterMap fun e => okOr none (f e)).map (·.op)).Sublist (l.map key) :=
  ⟨mapM_eq_map_of_forall _ _ _ fun e he => by obtain ⟨o, ho, _⟩ := h e he; rw [ho]; rfl,
    filterMap_map_sublist _ _ _ _ fun e he c hc => by obtain ⟨o, ho, hk⟩ := h e he; rw [ho] at hc; exact hk c hc⟩

section
variable {s : Store} {L : Ledger} (hg : Good s L)
include hg

theorem leased_eq (op : OutPoint) : isLocked s op L.now = leased L op :=
  C12.C12_leased_refines_partial s L (leaseRefines_of_good hg) op

theorem unminedCredits_perm : s.unminedCredits.Perm (expUnminedCredits L) :=
  Holds.perm hg.ref.ucredits hg.wf2.wf.nodupUC (nodup_expUnminedCredits hg.lwf)

theorem unspent_perm : s.unspent.Perm (expUnspent L) := by
  refine Holds.perm (fun op blk => ?_) hg.wf2.wf.nodupUnspent (nodup_of_nodup_map _ (nodup_expUnspent_keys hg.lwf))
  rw [hg.wf2.wf.index]
  unfold expUnspent
  simp only [List.mem_filterMap]
  constructor
  · rintro ⟨cv, hcv, hsp⟩
    exact ⟨(⟨op.hash, blk, op.index⟩, cv), (hg.ref.credits _ _).mp hcv, by simp [hsp, CredKey.outPoint]⟩
  · rintro ⟨⟨k, cv⟩, hm, he⟩
    split at he
    · cases he
    · rename_i hsp
      cases he
      exact ⟨cv, (hg.ref.credits _ _).mpr hm, by simpa using hsp⟩

theorem fetchMined_good {t : Tx} {b : BlockMeta} (ht : (t, b) ∈ chainTxs L)
    {i : Nat} {v : Int} (hv : t.outs[i]? = some v)
    (hc : (credited L ⟨t.hash, i⟩ && !spentConfirmed L ⟨t.hash, i⟩) = true) (il isp full : Bool) :
    fetchMinedCredit s L.now il isp full (⟨t.hash, i⟩, b.block) = .ok (creditOf L il isp full t (some b) (i, v)) := by
  obtain ⟨br, hbr, htime⟩ := blocks_find_of_mined hg ht
  obtain ⟨h1, h2⟩ := (Bool.and_eq_true _ _).mp hc
  rw [fetchMinedCredit_of_rec (hg.ref.txrec_of_mined ht) hv hbr, leased_eq hg, htime]
  unfold creditOf
  rw [h1, spent_eq hg.ref, (Bool.not_eq_true' _).mp h2]
  cases isp <;> rfl

theorem fetchUnmined_good {t : Tx} (ht : t ∈ L.pool) {i : Nat} {v : Int}
    (hv : t.outs[i]? = some v) (hc : credited L ⟨t.hash, i⟩ = true) (uc : UCredit) (il isp full : Bool) :
    fetchUnminedCredit s L.now il isp full (⟨t.hash, i⟩, uc) = .ok (creditOf L il isp full t none (i, v)) := by
  rw [fetchUnminedCredit_of_rec (hg.ref.unmined_of_pool ht) hv, leased_eq hg]
  unfold creditOf
  rw [hc, spent_eq hg.ref, hg.lwf.spentConfirmed_pool ht]
  cases isp <;> rfl

/-- **`fetchCredits` reports the ledger's outputs**: first those of confirmed transactions, in the order of the unspent
index, then those of unconfirmed transactions, in the order of the unconfirmed-credits bucket -/
theorem fetchCredits_good (il isp full : Bool) :
    ∃ a b, fetchCredits s L.now il isp full = .ok (a ++ b) ∧
      a.Perm ((chainTxs L).flatMap fun p => (withIdx p.1.outs).filterMap (creditOf L il isp full p.1 (some p.2))) ∧
      b.Perm (L.pool.flatMap fun t => (withIdx t.outs).filterMap (creditOf L il isp full t none)) ∧
      (a ++ b).Perm ((known L).flatMap fun p => (withIdx p.1.outs).filterMap (creditOf L il isp full p.1 p.2)) ∧
      (a.map (·.op)).Sublist (s.unspent.map (·.1)) ∧ (b.map (·.op)).Sublist (s.unminedCredits.map (·.1)) := by
  obtain ⟨hA, sA⟩ := fetch_bucket (f := fetchMinedCredit s L.now il isp full) (key := (·.1)) (l := s.unspent)
    fun e he => by
      rw [(unspent_perm hg).mem_iff, expUnspent_eq] at he
      obtain ⟨p, hp, h⟩ := List.mem_flatMap.mp he
      obtain ⟨⟨i, v⟩, hiv, h⟩ := List.mem_filterMap.mp h
      obtain ⟨hc, h⟩ := Option.ite_none_right_eq_some.mp h
      cases h
      exact ⟨_, fetchMined_good hg hp ((mem_withIdx0 _ _ _).mp hiv) hc il isp full, fun c h => (creditOf_some h).1⟩
  obtain ⟨hB, sB⟩ := fetch_bucket (f := fetchUnminedCredit s L.now il isp full) (key := (·.1)) (l := s.unminedCredits)
    fun e he => by
      obtain ⟨⟨oh, i⟩, uc⟩ := e
      obtain ⟨t, ht, e1, e2, e3⟩ := mem_expUnminedCredits.mp ((unminedCredits_perm hg).mem_iff.mp he)
      cases e1
      exact ⟨_, fetchUnmined_good hg ht e2 (by unfold credited; rw [e3]; rfl) uc il isp full,
        fun c h => (creditOf_some h).1⟩
  have hk : ∀ {a b : List Credit},
      a.Perm ((chainTxs L).flatMap fun p => (withIdx p.1.outs).filterMap (creditOf L il isp full p.1 (some p.2))) →
      b.Perm (L.pool.flatMap fun t => (withIdx t.outs).filterMap (creditOf L il isp full t none)) →
      (a ++ b).Perm ((known L).flatMap fun p => (withIdx p.1.outs).filterMap (creditOf L il isp full p.1 p.2)) := by
    intro a b pa pb
    unfold known
    rw [List.flatMap_append, List.flatMap_map, List.flatMap_map]
    exact pa.append pb
  refine ⟨_, _, ?_, ?pa, ?pb, hk ?pa ?pb, sA, sB⟩
  · unfold fetchCredits
    rw [hA, hB]
    simp only [bind_ok, List.filterMap_map]
    rfl
  · refine ((unspent_perm hg).filterMap _).trans (List.Perm.of_eq ?_)
    rw [expUnspent_eq]
    refine filterMap_flatMap_congr _ _ _ _ _ fun p hp iv hiv => ?_
    cases hc : (credited L ⟨p.1.hash, iv.1⟩ && !spentConfirmed L ⟨p.1.hash, iv.1⟩) with
    | false => exact (creditOf_none hc).symm
    | true => rw [if_pos rfl, Option.bind_some, fetchMined_good hg hp ((mem_withIdx0 _ _ _).mp hiv) hc]; rfl
  · refine ((unminedCredits_perm hg).filterMap _).trans (List.Perm.of_eq ?_)
    refine filterMap_flatMap_congr _ _ _ _ _ fun t ht iv hiv => ?_
    cases hlk : lookup L.credit ⟨t.hash, iv.1⟩ with
    | none => exact (creditOf_none (by unfold credited; rw [hlk]; rfl)).symm
    | some chg =>
      rw [Option.bind_some, fetchUnmined_good hg ht ((mem_withIdx0 _ _ _).mp hiv) (by unfold credited; rw [hlk]; rfl)]
      rfl

end

/-- **`UnspentOutputs` = the ledger's spendable outputs**, up to the order (the store lists them in bucket order) -/
theorem utxos_refines {s : Store} {L : Ledger} (hg : Good s L) :
    ∃ l, unspentOutputs s L.now = .ok l ∧ l.Perm (utxos L) := by
  obtain ⟨a, b, h, _, _, pk, _⟩ := fetchCredits_good hg false false true
  exact ⟨a ++ b, h, pk⟩

/-- **`OutputsToWatch` = the ledger's watch set** (every credited output not spent by a confirmed transaction), up to
the order -/
theorem watch_refines {s : Store} {L : Ledger} (hg : Good s L) (now : Nat) :
    ∃ l, outputsToWatch s now = .ok l ∧ (l.map (·.op)).Perm (watchSet L) := by
  obtain ⟨a, b, h, _, _, pk, _⟩ := fetchCredits_good hg true true false
  exact ⟨a ++ b, (fetchCredits_inclLocked s now L.now true false).trans h, watchSet_eq L ▸ pk.map _⟩

theorem sum_map_filterMap {α β : Type} (f : α → Option β) (g : β → Int) (l : List α) :
    ((l.filterMap f).map g).sum = (l.map fun a => ((f a).map g).getD 0).sum :=
  (sum_filterMap_eq _ f g l fun _ _ => rfl).symm

/-- what a spendable output contributes to the balance for `minConf = m` at sync height `sy`: its amount, when it has `m`
confirmations (an unconfirmed one counts only for `m = 0`) and, if coinbase, `mat` of them -/
def elig (m sy mat : Int) (c : Credit) : Int :=
  if m ≤ confs c.block sy ∧ (m = 0 ∨ c.block.isSome = true) ∧ (c.fromCoinBase = false ∨ mat ≤ confs c.block sy)
  then c.amount else 0

theorem balance_eq_sum_utxos (L : Ledger) (mat m sy : Int) :
    Ledger.balance L mat m sy = ((utxos L).map (elig m sy mat)).sum := by
  unfold Ledger.balance utxos
  rw [sum_flatMap]
  refine congrArg _ (List.map_congr_left ?_)
  rintro ⟨t, b⟩ _
  rw [sum_map_filterMap]
  refine congrArg _ (List.map_congr_left ?_)
  rintro ⟨i, v⟩ _
  cases hc : (credited L ⟨t.hash, i⟩ && !Ledger.spent L ⟨t.hash, i⟩ && !leased L ⟨t.hash, i⟩) <;>
    simp [counts, elig, hc, and_assoc]

/-- summing over the answers of `fetchCredits` for one bucket, entry by entry -/
theorem sum_fetch {ε : Type} {f : ε → M (Option Credit)} (w : ε → Int) (φ : Credit → Int) : ∀ {l : List ε}
    {a : List (Option Credit)}, l.mapM f = .ok a → (∀ e ∈ l, ∀ o, f e = .ok o → w e = (o.map φ).getD 0) →
    ((a.filterMap id).map φ).sum = (l.map w).sum
  | [], a, ha, _ => by cases ha; rfl
  | e :: t, a, ha, hw => by
    rw [List.mapM_cons] at ha
    obtain ⟨o, ho, ha⟩ := bind_ok_iff.mp ha
    obtain ⟨r, hr, ha⟩ := bind_ok_iff.mp ha
    cases ha
    rw [List.map_cons, List.sum_cons, hw e List.mem_cons_self o ho,
      ← sum_fetch w φ hr fun x hx => hw x (List.mem_cons_of_mem _ hx)]
    cases o <;> simp

/-- **`Balance`'s formula is the sum over `UnspentOutputs`**, on the store alone.  The confirmed part needs only `WF`
(the unspent index points at credit records whose amount is the output's value); for the unconfirmed part an
unconfirmed credit must carry the value of its output (`huc`) — of a transaction that is not a coinbase: `Balance`
adds every unconfirmed credit (`balPass3`), the C01 sentence asks a coinbase for its maturity, and the two agree only
because a coinbase is never unconfirmed (`LWF.poolNoCb`) -/
theorem storeTruth_eq_sum_unspentOutputs {s : Store} (hw : WF s) {now : Nat}
    (huc : ∀ op uc, (op, uc) ∈ s.unminedCredits → ∃ rec, s.unmined.find? op.hash = some rec ∧
      rec.outs[op.index]? = some uc.amount ∧ rec.isCoinBase = false)
    {l : List Credit} (h : unspentOutputs s now = .ok l) (mat m sy : Int) :
    storeTruth s now mat m sy = (l.map (elig m sy mat)).sum := by
  obtain ⟨a, ha, h⟩ := bind_ok_iff.mp h
  obtain ⟨b, hb, h⟩ := bind_ok_iff.mp h
  cases h
  unfold storeTruth
  rw [List.map_append, List.sum_append, ← perm_map_sum _ (inv_of_wf s hw).index, unspentInfos, List.filterMap_map]
  congr 1
  · rw [sum_map_filterMap]
    refine (sum_fetch _ _ ha ?_).symm
    rintro ⟨⟨oh, oi⟩, blk⟩ he o ho
    obtain ⟨cv, hcv, hsp⟩ := (hw.index ⟨oh, oi⟩ blk).mp (find?_of_mem _ hw.nodupUnspent he)
    obtain ⟨br, rec, hbr, _, _, hrec, hv⟩ := hw.listed _ _ hcv
    rw [fetchMinedCredit_of_rec hrec hv hbr] at ho
    cases ho
    have hci := creditInfo_of_rec (i := oi) (show s.txrecs.find? ⟨oh, blk⟩ = some rec from hrec)
    rw [hcv] at hci
    by_cases hl : isLocked s ⟨oh, oi⟩ now = true <;> by_cases hu : spentByUnmined s ⟨oh, oi⟩ = true <;>
      simp [elig, confs, countsMined, tooYoung, CredKey.outPoint, hci, hl, hu]
  · have hB : ((b.filterMap id).map (elig m sy mat)).sum =
        (s.unminedCredits.map fun e => if m == 0 then (if countsUnmined s now e then e.2.amount else 0) else 0).sum := by
      refine sum_fetch _ _ hb ?_
      rintro ⟨⟨oh, oi⟩, uc⟩ he o ho
      obtain ⟨rec, hrec, hv, hcb⟩ := huc _ _ he
      have hm : (m ≤ 0 ∧ m = 0) ↔ m = 0 := ⟨And.right, fun h => ⟨h ▸ Int.le_refl 0, h⟩⟩
      rw [fetchUnminedCredit_of_rec hrec hv] at ho
      cases ho
      by_cases hl : isLocked s ⟨oh, oi⟩ now = true <;> by_cases hu : spentByUnmined s ⟨oh, oi⟩ = true <;>
        simp [elig, confs, countsUnmined, hl, hu, hcb, hm]
    rw [hB]
    split
    · rfl
    · exact (sum_zero_of_forall _ _ fun _ _ => rfl).symm

/-- **the C01 sentence on the store's records is the ledger's balance**: about `storeTruth`, not about the query; the
statement about `Balance` itself is `balance_good` below (`Balance = storeTruth`: Lemmas/Balance.lean) -/
theorem balance_refines {s : Store} {L : Ledger} (hg : Good s L) (mat m sy : Int) :
    storeTruth s L.now mat m sy = Ledger.balance L mat m sy := by
  obtain ⟨l, hl, hp⟩ := utxos_refines hg
  rw [balance_eq_sum_utxos, ← perm_map_sum _ hp]
  refine storeTruth_eq_sum_unspentOutputs hg.wf2.wf (fun op uc he => ?_) hl mat m sy
  obtain ⟨t, ht, h1, h2, _⟩ := (hg.ref.ucredits_iff _ _).mp (find?_of_mem _ hg.wf2.wf.nodupUC he)
  exact ⟨t, h1 ▸ hg.ref.unmined_of_pool ht, h2, hg.lwf.poolNoCb t ht⟩

theorem balance_good {s : Store} {L : Ledger} (hg : Good s L) (mat m sy : Int) :
    balance s L.now mat m sy = .ok (Ledger.balance L mat m sy) := by
  rw [balance_eq_storeTruth s (inv_of_wf _ hg.wf2.wf), balance_refines hg]

end TxStore
