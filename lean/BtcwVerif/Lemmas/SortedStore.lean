import BtcwVerif.Lemmas.RefDefs
import BtcwVerif.Lemmas.Rollback
/-!
# Every bucket of the store is in bbolt key order, along every sequence of store operations

`SortedS s`: each of the nine buckets of `s` is strictly ascending in `KOrd.lt` (= the byte order of the serialized keys
of `wtxmgr/db.go`).  Every write of the model is a bbolt `Put` (`KMap.insert`) or `Delete` (`KMap.erase`), both keep a
bucket ascending, so `SortedS` is preserved by every store operation with no consistency hypothesis on the events:
`sortedS_stepEvent`, `sortedS_storeAfter`.  The operations on the unconfirmed part and the leases are not walked here: they
are paths of such writes (`UPath`, Lemmas/InvPres.lean) and `UPath.sortedS` reads the order off the path; only the writes to
the mined part (`insertMinedTx`, mined `addCredit`, the main loop of `rollback`) are followed step by step, in the rules
of `Ensures` (Lemmas/KMap.lean).  This fixes the order in which the queries list records (cursor order):
`Lemmas/RefExact.lean`, where the refinement joins in (`good_sorted_reachable`).
-/
namespace TxStore
open KMap Ledger

structure SortedS (s : Store) : Prop where
  blocks : Sorted s.blocks
  txrecs : Sorted s.txrecs
  credits : Sorted s.credits
  unspent : Sorted s.unspent
  debits : Sorted s.debits
  unmined : Sorted s.unmined
  unminedCredits : Sorted s.unminedCredits
  unminedInputs : Sorted s.unminedInputs
  locked : Sorted s.locked

theorem sortedS_empty : SortedS Store.empty :=
  ⟨sorted_nil, sorted_nil, sorted_nil, sorted_nil, sorted_nil, sorted_nil, sorted_nil, sorted_nil, sorted_nil⟩

theorem UPath.sortedS {s s' : Store} (h : UPath s s') (hs : SortedS s) : SortedS s' := by
  induction h with
  | refl => exact hs
  | unmined k o _ ih => exact { ih with unmined := sorted_set _ k o ih.unmined }
  | uc k o _ ih => exact { ih with unminedCredits := sorted_set _ k o ih.unminedCredits }
  | ui k o _ ih => exact { ih with unminedInputs := sorted_set _ k o ih.unminedInputs }
  | locked k o _ ih => exact { ih with locked := sorted_set _ k o ih.locked }

theorem sortedS_spendInput (rec : Tx) (block : Block) (acc : Store × Int) (ii : Nat × OutPoint)
    (hs : SortedS acc.1) : SortedS (spendInput rec block acc ii).1 := by
  obtain ⟨s, bal⟩ := acc
  obtain ⟨i, inp⟩ := ii
  cases hu : s.unspent.find? inp with
  | none => rw [spendInput_none hu]; exact hs
  | some b0 =>
    rw [spendInput_some hu]
    exact { hs with credits := sorted_insert _ _ _ hs.credits, debits := sorted_insert _ _ _ hs.debits,
                    unspent := sorted_erase _ _ hs.unspent }

theorem sortedS_moveCredit (rec : Tx) (block : Block) (acc : Store × Int) (kv : OutPoint × UCredit)
    (hs : SortedS acc.1) : SortedS (moveCredit rec block acc kv).1 :=
  { hs with credits := sorted_insert _ _ _ hs.credits, unspent := sorted_insert _ _ _ hs.unspent }

theorem sortedS_updateMinedBalance (s : Store) (rec : Tx) (block : Block) (hs : SortedS s) :
    SortedS (updateMinedBalance s rec block) := by
  unfold updateMinedBalance
  dsimp only
  have h1 := loop_inv (fun acc : Store × Int => SortedS acc.1) (sortedS_spendInput rec block) (withIdx rec.ins)
    (s := (s, s.minedBalance)) hs
  generalize List.foldl (spendInput rec block) (s, s.minedBalance) (withIdx rec.ins) = acc1 at h1 ⊢
  have h2 := loop_inv (fun acc : Store × Int => SortedS acc.1) (sortedS_moveCredit rec block)
    (unminedCreditsOf acc1.1 rec.hash) h1
  generalize List.foldl (moveCredit rec block) acc1 (unminedCreditsOf acc1.1 rec.hash) = acc2 at h2 ⊢
  split
  · exact { h2 with }
  · exact h2

theorem sortedS_recordTx (s : Store) (rec : Tx) (bm : BlockMeta) (hs : SortedS s) : SortedS (recordTx s rec bm) := by
  rw [recordTx_fields]
  exact { hs with blocks := sorted_insert _ _ _ hs.blocks, txrecs := sorted_insert _ _ _ hs.txrecs }

theorem sortedS_rbEraseCore (rec : Tx) (blk : Block) (r : RB) (i : Nat) (value : Int) (b : Bool) (hs : SortedS r.s) :
    SortedS (rbEraseCore rec blk r i value b).s := by
  unfold rbEraseCore
  split
  · exact hs
  · rename_i v _
    have huc : Sorted (if b = true then r.s.unminedCredits.insert ⟨rec.hash, i⟩ ⟨v.amount, v.change⟩
        else r.s.unminedCredits) := by
      split
      · exact sorted_insert _ _ _ hs.unminedCredits
      · exact hs.unminedCredits
    dsimp only
    split
    · exact { hs with unminedCredits := huc, credits := sorted_erase _ _ hs.credits,
                      unspent := sorted_erase _ _ hs.unspent }
    · exact { hs with unminedCredits := huc, credits := sorted_erase _ _ hs.credits }

theorem sortedS_rbInputCore (rec : Tx) (blk : Block) (r : RB) (i : Nat) (inp : OutPoint) (hs : SortedS r.s) :
    SortedS (rbInputCore rec blk r i inp).s := by
  unfold rbInputCore
  split
  · exact hs
  · split
    · exact { hs with debits := sorted_erase _ _ hs.debits }
    · exact { hs with credits := sorted_insert _ _ _ hs.credits, debits := sorted_erase _ _ hs.debits,
                      unspent := sorted_insert _ _ _ hs.unspent }

theorem sortedS_rbTx (blk : Block) (r : RB) (txHash : Nat) (hs : SortedS r.s) :
    Ensures (rbTx blk r txHash) (fun r' => SortedS r'.s) := by
  unfold rbTx
  split
  · exact .throw
  · rename_i rec _
    have h0 : SortedS ({ r with s := { r.s with txrecs := r.s.txrecs.erase ⟨txHash, blk⟩ } } : RB).s :=
      { hs with txrecs := sorted_erase _ _ hs.txrecs }
    dsimp only
    split
    · refine .pure (loop_inv (fun r : RB => SortedS r.s) (fun b a hb => ?_) _ h0)
      rw [(rbCoinbaseOut_eq rec blk b a.1 a.2).1]
      exact sortedS_rbEraseCore rec blk b a.1 a.2 false hb
    · refine .pure (loop_inv (fun r : RB => SortedS r.s) (fun b a hb => ?_) _
        (loop_inv (fun r : RB => SortedS r.s) (fun b a hb => ?_) _
          { h0 with unmined := sorted_insert _ _ _ h0.unmined }))
      · rw [show a = (a.1, a.2) from rfl, rbOutput_eq]
        exact sortedS_rbEraseCore rec blk b a.1 a.2 true hb
      · rw [show a = (a.1, a.2) from rfl, rbInput_eq]
        exact sortedS_rbInputCore rec blk _ a.1 a.2 ((upath_putRawUnminedInput _ _ _).sortedS hb)

section
-- every theorem of the section takes `hs : SortedS s` as its first explicit argument
variable {s : Store} (hs : SortedS s)
include hs

theorem sortedS_insertMinedTx {rec : Tx} {bm : BlockMeta} :
    Ensures (insertMinedTx s rec bm) SortedS := by
  have h1 := sortedS_updateMinedBalance _ rec bm.block (sortedS_recordTx s rec bm hs)
  rw [insertMinedTx_core]
  refine .ite (fun _ => .throw) fun _ => Ensures.bind (Q := SortedS) (fun s3 h3 => (upath_removeDoubleSpends h3).sortedS ?_)
    fun s3 h3 => .pure ((UPath.foldl upath_unlockOutputRaw rec.ins s3).sortedS h3)
  unfold confirmCore
  dsimp only
  split
  · exact (upath_deleteUnminedTx _ rec).sortedS h1
  · exact h1

theorem sortedS_insertTx {rec : Tx} {block : Option BlockMeta} :
    Ensures (insertTx s rec block) (fun r => SortedS r.2) := by
  have hr : Ensures (match block with
      | none => insertMemPoolTx s rec
      | some bm => insertMinedTx s rec bm) SortedS := by
    cases block
    · exact fun s' h => (upath_insertMemPoolTx h).sortedS hs
    · exact sortedS_insertMinedTx hs
  unfold insertTx
  dsimp only
  split
  · exact .pure hs
  · exact .throw
  · rename_i s' hs'
    exact .pure (hr s' hs')

theorem sortedS_addCredit {rec : Tx} {block : Option BlockMeta} {i : Nat} {chg : Bool} :
    Ensures (addCredit s rec block i chg) SortedS := by
  cases block with
  | none => exact fun s' h => (upath_addCredit_unmined h).sortedS hs
  | some bm =>
    unfold addCredit
    split
    · exact .throw
    · exact .ite (fun _ => .pure hs) fun _ =>
        .pure { hs with credits := sorted_insert _ _ _ hs.credits, unspent := sorted_insert _ _ _ hs.unspent }

theorem sortedS_addRelevantTx {force : Bool} {t : Tx} {bm : Option BlockMeta} {cr : List (Nat × Bool)}
    : Ensures (addRelevantTx force s t bm cr) (fun r => SortedS r.2) := by
  unfold addRelevantTx
  refine (sortedS_insertTx hs).bind fun r h1 => ?_
  have hc : Ensures (cr.foldlM (fun s (p : Nat × Bool) => addCredit s t bm p.1 p.2) r.2) SortedS :=
    Ensures.foldlM (fun b a hb => sortedS_addCredit hb) _ _ h1
  exact .ite (fun _ => .pure h1) fun _ => .ite (fun _ => hc.bind fun _ h => .pure h) fun _ => hc.bind fun _ h => .pure h

theorem sortedS_rollback {height : Int} : Ensures (rollback s height) SortedS := by
  intro s' h
  obtain ⟨r, hr, hu⟩ := rollback_ok h
  have h1 : SortedS r.s :=
    Ensures.foldlM (P := fun r : RB => SortedS r.s) (fun a p ha => Ensures.foldlM (fun b t hb => sortedS_rbTx _ b t hb) _ _ ha)
      _ _ hs r hr
  have h0 : Sorted (eraseBlocks r.s.blocks (detached s height)) :=
    loop_inv (fun B : KMap Nat BlockRec => Sorted B) (fun B (p : Nat × BlockRec) hB => sorted_erase B p.1 hB) _ h1.blocks
  exact hu.sortedS (rbMid_fields s height r ▸ { h1 with blocks := h0 })

end

/-- **one event keeps every bucket in key order** (any event, consistent or not) -/
theorem sortedS_stepEvent {s s' : Store} {now : Nat} {e : Event} (hs : SortedS s) (h : stepEvent s now e = .ok s') :
    SortedS s' := by
  revert s' h
  change Ensures (stepEvent s now e) SortedS
  cases e with
  | seen t cr => exact (sortedS_addRelevantTx hs).bind fun _ h => .pure h
  | confirmed bm t cr => exact (sortedS_addRelevantTx hs).bind fun _ h => .pure h
  | disconnected ht => exact sortedS_rollback hs
  | abandoned t => exact fun s' h => (upath_removeConflict _ _ _ _ h).sortedS hs
  | lease id op d =>
    dsimp only [stepEvent]
    split
    · exact .pure ((upath_lockOutput ‹_›).sortedS hs)
    · exact .pure hs
  | release id op =>
    dsimp only [stepEvent]
    split
    · exact .pure ((upath_unlockOutput ‹_›).sortedS hs)
    · exact .pure hs
  | sweep => exact .pure ((upath_sweep s now).sortedS hs)
  | clock t => exact .pure hs

theorem sortedS_storeAfter : ∀ (es : List Event) (s : Store) (L : Ledger) (s' : Store), SortedS s →
    storeAfter s L es = .ok s' → SortedS s' := by
  intro es
  induction es with
  | nil => intro s L s' hs h; cases h; exact hs
  | cons e es ih =>
    intro s L s' hs h
    exact Ensures.bind (fun _ h1 => sortedS_stepEvent hs h1) (fun s1 h1 _ h2 => ih s1 _ _ h1 h2) s' h

end TxStore
