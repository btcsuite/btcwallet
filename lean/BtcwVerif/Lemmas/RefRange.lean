import BtcwVerif.Lemmas.RefDetails
/-!
# Observables of a good pair: `RangeTransactions` (C13)
`range_rel`: the batches `RangeTransactions` delivers are those of `Ledger.range`, record by record in any relation `R`
that the records of single transactions are known to stand in — `DetEquiv` on every good pair (`range_refines`),
equality when the buckets are in key order (`Lemmas/RefExact.lean`).
-/
namespace TxStore
open Ledger

/-- two lists related element by element (core Lean has no `List.Forall₂`) -/
inductive Pointwise {α β : Type} (R : α → β → Prop) : List α → List β → Prop
  | nil : Pointwise R [] []
  | cons {a : α} {b : β} {l : List α} {m : List β} : R a b → Pointwise R l m → Pointwise R (a :: l) (b :: m)

/-- one batch: the store's records are those of the ledger, up to the order inside the batch -/
def BatchAgree (ds ds' : List Details) : Prop := ∃ ds'', ds''.Perm ds' ∧ Pointwise DetEquiv ds ds''

def BatchesAgree (bs bs' : List (List Details)) : Prop := Pointwise BatchAgree bs bs'

section
variable {α β γ δ : Type}

theorem pointwise_refl {R : α → α → Prop} (hr : ∀ a, R a a) : ∀ (l : List α), Pointwise R l l
  | [] => .nil
  | a :: t => .cons (hr a) (pointwise_refl hr t)

theorem Pointwise.append {R : α → β → Prop} {l1 l2 : List α} {m1 m2 : List β}
    (h1 : Pointwise R l1 m1) (h2 : Pointwise R l2 m2) : Pointwise R (l1 ++ l2) (m1 ++ m2) := by
  induction h1 with
  | nil => exact h2
  | cons h _ ih => exact .cons h ih

/-- a part that is present on both sides or on neither (the unconfirmed batch of a range query, by the −1 rule) -/
theorem Pointwise.ite {R : α → β → Prop} {l : List α} {m : List β} (c : Prop) [Decidable c] (h : Pointwise R l m) :
    Pointwise R (if c then l else []) (if c then m else []) := by
  split
  · exact h
  · exact .nil

theorem forall_mem_ite {P : α → Prop} {l : List α} (c : Prop) [Decidable c] (h : ∀ a ∈ l, P a) :
    ∀ a ∈ (if c then l else []), P a := by
  split
  · exact h
  · exact nofun

theorem Pointwise.eq {R : α → α → Prop} {l m : List α} (h : Pointwise R l m) (hr : ∀ a b, R a b → a = b) :
    l = m := by
  induction h with
  | nil => rfl
  | cons h _ ih => rw [hr _ _ h, ih]

theorem Pointwise.comp {R : α → β → Prop} {S : β → γ → Prop} {l : List α} {m : List β} {n : List γ}
    (h1 : Pointwise R l m) (h2 : Pointwise S m n) : Pointwise (fun a c => ∃ b, S b c ∧ R a b) l n := by
  induction h1 generalizing n with
  | nil => cases h2; exact .nil
  | cons h _ ih => cases h2 with | cons h' t' => exact .cons ⟨_, h', h⟩ (ih t')

theorem mapM_pointwise {R : γ → δ → Prop} (k : α → β) (f : β → M γ) (g : α → δ) : ∀ (l : List α),
    (∀ a ∈ l, ∃ c, f (k a) = .ok c ∧ R c (g a)) → ∃ r, (l.map k).mapM f = .ok r ∧ Pointwise R r (l.map g)
  | [], _ => ⟨[], rfl, .nil⟩
  | a :: t, h => by
    obtain ⟨c, hc, hr⟩ := h a List.mem_cons_self
    obtain ⟨r, ht, hp⟩ := mapM_pointwise k f g t (fun x hx => h x (List.mem_cons_of_mem _ hx))
    exact ⟨c :: r, by rw [List.map_cons, List.mapM_cons, hc, ht]; rfl, .cons hr hp⟩

/-- `rangeUnmined` delivers a batch only when it is not empty -/
theorem pointwise_batch {R : α → γ → Prop} {ds : List α} (l : List β) (f : β → γ)
    (h : Pointwise R ds (l.map f)) :
    Pointwise (Pointwise R) (if ds.isEmpty then [] else [ds]) (if l.isEmpty then [] else [l.map f]) := by
  cases l with
  | nil => cases h; exact .nil
  | cons a t => cases h with | cons h1 h2 => exact .cons (.cons h1 h2) .nil

end

/-- the confirmed batches of `Ledger.range` -/
def rangeMidL (L : Ledger) (b e : Int) : List (List Details) :=
  if (if b < 0 then maxInt32 else b) < (if e < 0 then maxInt32 else e) then
    (L.chain.filter fun lb => decide ((if b < 0 then maxInt32 else b) ≤ (lb.bm.block.height : Int) ∧
      (lb.bm.block.height : Int) ≤ (if e < 0 then maxInt32 else e))).map
      fun lb => lb.txs.map fun t => detailsOf L t (some lb.bm)
  else ((L.chain.filter fun lb => decide ((if e < 0 then maxInt32 else e) ≤ (lb.bm.block.height : Int) ∧
      (lb.bm.block.height : Int) ≤ (if b < 0 then maxInt32 else b))).reverse).map
      fun lb => lb.txs.map fun t => detailsOf L t (some lb.bm)

/-- `Ledger.range` with the unconfirmed batch listing the transactions `pool'` (in that order).  It exists because the store
lists the unconfirmed transactions in key (hash) order while `Ledger.range` lists the pool in arrival order: the store's
answer is `rangeWith L pool'` for the hash-sorted permutation `pool'` of the pool (`rangeWith_pool`: at `L.pool` it is
`Ledger.range`) -/
def rangeWith (L : Ledger) (pool' : List Tx) (b e : Int) : List (List Details) :=
  (if b < 0 then (if pool'.isEmpty then [] else [pool'.map fun t => detailsOf L t none]) else []) ++
    rangeMidL L b e ++
    (if !(b < 0) && e < 0 then (if pool'.isEmpty then [] else [pool'.map fun t => detailsOf L t none]) else [])

theorem rangeWith_pool (L : Ledger) (b e : Int) : rangeWith L L.pool b e = Ledger.range L b e := rfl

theorem range_eq (L : Ledger) (b e : Int) : Ledger.range L b e = rangeWith L L.pool b e :=
  (rangeWith_pool L b e).symm

/-- a cursor over a list in ascending key order that seeks `lo` and walks up while the key is at most `hi`, or seeks `hi`
and walks down while the key is at least `lo`, visits the entries with key in `[lo, hi]` -/
theorem seek_walk {α : Type} (key : α → Int) {l : List α} (hs : l.Pairwise fun a b => key a < key b) (lo hi : Int) :
    (l.filter fun p => decide (lo ≤ key p)).takeWhile (fun p => decide (key p ≤ hi)) =
        l.filter (fun p => decide (lo ≤ key p ∧ key p ≤ hi)) ∧
    (l.filter fun p => decide (key p ≤ hi)).reverse.takeWhile (fun p => decide (lo ≤ key p)) =
        (l.filter fun p => decide (lo ≤ key p ∧ key p ≤ hi)).reverse := by
  constructor
  · rw [takeWhile_eq_filter, List.filter_filter]
    · exact List.filter_congr fun p _ => by rw [Bool.decide_and, Bool.and_comm]
    · refine (hs.sublist List.filter_sublist).imp fun {a b} hab hb => ?_
      rw [decide_eq_true_eq] at hb ⊢
      omega
  · rw [takeWhile_eq_filter, List.filter_reverse, List.filter_filter]
    · exact congrArg _ (List.filter_congr fun p _ => by rw [Bool.decide_and])
    · rw [List.pairwise_reverse]
      refine (hs.sublist List.filter_sublist).imp fun {a b} hab hb => ?_
      rw [decide_eq_true_eq] at hb ⊢
      omega

section
variable {L : Ledger} (hl : LWF L) (lo hi : Int)
include hl

theorem blocks_heights_lt : (L.chain.map blockEntry).Pairwise fun a b => (a.1 : Int) < (b.1 : Int) :=
  List.pairwise_map.mpr ((List.pairwise_map.mp hl.heights).imp Int.ofNat_lt.mpr)

/-- selecting a height interval from the block records (ascending or descending) = selecting it from the chain -/
theorem sel_ascending :
    ((L.chain.map blockEntry).filter (fun p => decide (lo ≤ (p.1 : Int)))).takeWhile (fun p => decide ((p.1 : Int) ≤ hi)) =
      (L.chain.filter fun lb => decide (lo ≤ (lb.bm.block.height : Int) ∧ (lb.bm.block.height : Int) ≤ hi)).map blockEntry := by
  rw [(seek_walk _ (blocks_heights_lt hl) lo hi).1, List.filter_map]
  rfl

theorem sel_descending :
    (((L.chain.map blockEntry).filter (fun p => decide ((p.1 : Int) ≤ hi))).reverse).takeWhile
        (fun p => decide (lo ≤ (p.1 : Int))) =
      ((L.chain.filter fun lb => decide (lo ≤ (lb.bm.block.height : Int) ∧ (lb.bm.block.height : Int) ≤ hi)).reverse).map
        blockEntry := by
  rw [(seek_walk _ (blocks_heights_lt hl) lo hi).2, List.filter_map, List.map_reverse]
  rfl

end

section
-- every theorem of the section takes `hg : Good s L` first (`blockDetails_rel` omits it); from `rangeUnmined_rel` on also
-- `hr : RecordsRel R s L`, after it
variable {s : Store} {L : Ledger} (hg : Good s L)
include hg

variable {R : Details → Details → Prop} (hr : RecordsRel R s L)
include hr

theorem rangeUnmined_rel :
    ∃ bs, rangeUnmined s = .ok bs ∧ Pointwise (Pointwise R) bs
      (if (s.unmined.map (·.2)).isEmpty then [] else [(s.unmined.map (·.2)).map fun t => detailsOf L t none]) := by
  obtain ⟨ds, h1, h2⟩ := mapM_pointwise (R := R) id (fun p : Nat × Tx => unminedTxDetails s p.1 p.2)
    (fun p => detailsOf L p.2 none) s.unmined (fun p hp => by
      obtain ⟨ht, hh⟩ := mem_expUnmined.mp ((unmined_perm hg).mem_iff.mp (show (p.1, p.2) ∈ _ from hp))
      rw [id, hh]
      exact hr.pool _ ht)
  rw [List.map_id] at h1
  exact ⟨_, by unfold rangeUnmined; rw [h1]; rfl, pointwise_batch _ _ (by rw [List.map_map]; exact h2)⟩

omit hg in
theorem blockDetails_rel (href : Refines s L) {lb : LBlock} (hlb : lb ∈ L.chain) :
    ∃ ds, blockDetails s (blockEntry lb).1 (blockEntry lb).2 = .ok ds ∧
      Pointwise R ds (lb.txs.map fun t => detailsOf L t (some lb.bm)) := by
  unfold blockDetails
  refine mapM_pointwise (·.hash) _ _ lb.txs (fun t ht => ?_)
  have hc : (t, lb.bm) ∈ chainTxs L := mem_chainTxs.mpr ⟨lb, hlb, rfl, ht⟩
  obtain ⟨d, hd, hrel⟩ := hr.mined hc
  refine ⟨d, ?_, hrel⟩
  show (match s.txrecs.find? ⟨t.hash, lb.bm.block⟩ with
    | none => throw Err.data
    | some rec => minedTxDetails s ⟨t.hash, lb.bm.block⟩ rec) = _
  rw [href.txrec_of_mined hc]
  exact hd

theorem rangeBlockTransactions_rel (b e : Int) :
    ∃ mid, rangeBlockTransactions s b e = .ok mid ∧ Pointwise (Pointwise R) mid (rangeMidL L b e) := by
  have hsel : ∀ sel : List LBlock, (∀ lb ∈ sel, lb ∈ L.chain) →
      ∃ bs, (sel.map blockEntry).mapM (fun p : Nat × BlockRec => blockDetails s p.1 p.2) = .ok bs ∧
        Pointwise (Pointwise R) bs (sel.map fun lb => lb.txs.map fun t => detailsOf L t (some lb.bm)) :=
    fun sel hsub => mapM_pointwise blockEntry _ _ sel (fun lb hlb => blockDetails_rel hr hg.ref (hsub lb hlb))
  unfold rangeBlockTransactions rangeMidL
  rw [hg.ref.blocks]
  dsimp only
  generalize (if b < 0 then maxInt32 else b) = lo
  generalize (if e < 0 then maxInt32 else e) = hi
  by_cases hlt : lo < hi
  · rw [if_pos hlt, if_pos hlt, sel_ascending hg.lwf]
    exact hsel _ (fun lb hlb => (List.mem_filter.mp hlb).1)
  · rw [if_neg hlt, if_neg hlt, sel_descending hg.lwf]
    exact hsel _ (fun lb hlb => (List.mem_filter.mp (List.mem_reverse.mp hlb)).1)

theorem range_rel (b e : Int) :
    ∃ bs, rangeTransactions s b e = .ok bs ∧ Pointwise (Pointwise R) bs (rangeWith L (s.unmined.map (·.2)) b e) := by
  obtain ⟨un, hun1, hun2⟩ := rangeUnmined_rel hg hr
  obtain ⟨mid, hmid1, hmid2⟩ := rangeBlockTransactions_rel hg hr b e
  refine ⟨_, ?_, ((hun2.ite (b < 0)).append hmid2).append (hun2.ite _)⟩
  unfold rangeTransactions
  rw [hun1, hmid1]
  split <;> split <;> rfl

end

theorem rangeWith_perm (L : Ledger) {pool' : List Tx} (hp : pool'.Perm L.pool) (b e : Int) :
    Pointwise List.Perm (rangeWith L pool' b e) (Ledger.range L b e) := by
  have hun : Pointwise List.Perm (if pool'.isEmpty then [] else [pool'.map fun t => detailsOf L t none])
      (if L.pool.isEmpty then [] else [L.pool.map fun t => detailsOf L t none]) := by
    generalize L.pool = pool at hp
    cases pool' with
    | nil => rw [← hp.nil_eq]; exact .nil
    | cons a t =>
      cases pool with
      | nil => exact absurd hp.eq_nil (List.cons_ne_nil _ _)
      | cons _ _ => exact .cons (hp.map _) .nil
  rw [range_eq]
  exact ((hun.ite _).append (pointwise_refl List.Perm.refl _)).append (hun.ite _)

theorem rangeWith_known (L : Ledger) {pool' : List Tx} (hsub : ∀ t ∈ pool', t ∈ L.pool) (b e : Int) :
    ∀ ds ∈ rangeWith L pool' b e, ∀ d ∈ ds, ∃ ob, (d.tx, ob) ∈ known L := by
  have hun : ∀ ds ∈ (if pool'.isEmpty then [] else [pool'.map fun t => detailsOf L t none]), ∀ d ∈ ds,
      ∃ ob, (d.tx, ob) ∈ known L := by
    intro ds hds d hd
    split at hds
    · cases hds
    · rw [List.mem_singleton] at hds
      subst hds
      obtain ⟨t, ht, rfl⟩ := List.mem_map.mp hd
      exact ⟨none, known_of_pool (hsub t ht)⟩
  have hblk : ∀ lb ∈ L.chain, ∀ d ∈ lb.txs.map (fun t => detailsOf L t (some lb.bm)), ∃ ob, (d.tx, ob) ∈ known L := by
    intro lb hlb d hd
    obtain ⟨t, ht, rfl⟩ := List.mem_map.mp hd
    exact ⟨_, known_of_mined (mem_chainTxs.mpr ⟨lb, hlb, rfl, ht⟩)⟩
  unfold rangeWith rangeMidL
  generalize (if b < 0 then maxInt32 else b) = lo
  generalize (if e < 0 then maxInt32 else e) = hi
  refine List.forall_mem_append.mpr ⟨List.forall_mem_append.mpr ⟨forall_mem_ite _ hun, ?_⟩, forall_mem_ite _ hun⟩
  split <;> intro ds h <;> obtain ⟨lb, hlb, rfl⟩ := List.mem_map.mp h
  · exact hblk lb (List.mem_filter.mp hlb).1
  · exact hblk lb (List.mem_filter.mp (List.mem_reverse.mp hlb)).1

/-- **`RangeTransactions` reports the ledger's batches**: the same batches in the same order (unconfirmed batch first or
last by the −1 rule, blocks ascending or descending), each holding the ledger's records of exactly the transactions of
that block / of the pool (records compared as in `details_refines`; inside the unconfirmed batch the order is the
store's) -/
theorem range_refines {s : Store} {L : Ledger} (hg : Good s L) (hn : NoConflict L) (b e : Int) :
    ∃ bs, rangeTransactions s b e = .ok bs ∧ BatchesAgree bs (Ledger.range L b e) := by
  obtain ⟨bs, h1, h2⟩ := range_rel hg (records_equiv hg hn) b e
  exact ⟨bs, h1, h2.comp (rangeWith_perm L (unmined_txs_perm hg) b e)⟩

end TxStore
