/-
Specification vocabulary for C16 (used by Lemmas/Recovery*.lean, Props/C16.lean and the driver engine): the chain recovery
walks over, the wallet's outputs in it, the look-ahead hypothesis, chain well-formedness, the ground-truth balance and
credits; and executable checkers for the two hypotheses (their soundness: Lemmas/RecoveryComplete.lean).
-/
import BtcwVerif.Model.Recovery

namespace Recovery

/-- Child index `i` derives to a valid key. -/
def Valid (inv : List Nat) (i : Nat) : Prop := inv.contains i = false

/-- The blocks recovery walks over: (height, block). -/
abbrev Chain := List (Nat × Block)

def allTxs (c : Chain) : List Tx := c.flatMap (·.2)

/-- A wallet output: pays a key of one of the recovered scopes. -/
def isW (scopes : List Nat) (o : TxOut) : Bool :=
  match o.key with
  | some k => scopes.contains k.scope
  | none => false

/-- Wallet outputs among `outs` (output indices starting at `i`) of transaction `txid`: (outpoint, amount). -/
def wouts (scopes : List Nat) (txid : Nat) : List TxOut → Nat → List (OutPoint × Nat)
  | [], _ => []
  | o :: rest, i =>
    if isW scopes o then ((txid, i), o.amount) :: wouts scopes txid rest (i + 1) else wouts scopes txid rest (i + 1)

def walletOuts (scopes : List Nat) (txs : List Tx) : List (OutPoint × Nat) :=
  txs.flatMap (fun tx => wouts scopes tx.id tx.outs 0)

def wops (scopes : List Nat) (txs : List Tx) : List OutPoint := (walletOuts scopes txs).map (·.1)

def spentIn (txs : List Tx) (op : OutPoint) : Bool := txs.any (fun t => t.ins.contains op)

def touches (scopes : List Nat) (ops : List OutPoint) (tx : Tx) : Bool :=
  tx.outs.any (isW scopes) || tx.ins.any (fun op => ops.contains op)

def paidKeys (txs : List Tx) : List Key := txs.flatMap (fun tx => tx.outs.filterMap (·.key))

def paidIdx (txs : List Tx) (br : BranchId) : List Nat :=
  ((paidKeys txs).filter (fun k => k.scope == br.1 && k.internal == br.2)).map (·.index)

/-- One above the highest index paid on `br` by `txs` (0 if none): the branch's next index after `txs`. -/
def nextAfter (txs : List Tx) (br : BranchId) : Nat := invBound (paidIdx txs br)

/-- The look-ahead hypothesis of C16: every block pays, on each branch of each recovered scope, only indices less
    than `W` beyond the next index after the EARLIER blocks (several payments per block allowed; payments of one
    block are all measured against the earlier blocks). -/
def LookAhead (W : Nat) (scopes : List Nat) (c : Chain) : Prop :=
  ∀ pre h blk post, c = pre ++ (h, blk) :: post → ∀ k ∈ paidKeys blk, scopes.contains k.scope = true →
    k.index < nextAfter (allTxs pre) (k.scope, k.internal) + W

/-- The same for the blocks at positions `≥ n` only (a recovery that resumes above the first `n` blocks). -/
def LookAheadFrom (W : Nat) (scopes : List Nat) (n : Nat) (c : Chain) : Prop :=
  ∀ pre h blk post, c = pre ++ (h, blk) :: post → n ≤ pre.length → ∀ k ∈ paidKeys blk, scopes.contains k.scope = true →
    k.index < nextAfter (allTxs pre) (k.scope, k.internal) + W

theorem LookAhead.from {W : Nat} {scopes : List Nat} {c : Chain} (h : LookAhead W scopes c) (n : Nat) :
    LookAheadFrom W scopes n c := fun pre hh blk post e _ => h pre hh blk post e

theorem LookAheadFrom.mono {W : Nat} {scopes : List Nat} {n m : Nat} {c : Chain} (h : LookAheadFrom W scopes n c)
    (hnm : n ≤ m) : LookAheadFrom W scopes m c :=
  fun pre hh blk post e hm => h pre hh blk post e (Nat.le_trans hnm hm)

theorem LookAheadFrom.min_len {W : Nat} {scopes : List Nat} {n : Nat} {c : Chain} (h : LookAheadFrom W scopes n c) :
    LookAheadFrom W scopes (min n c.length) c := by
  intro pre hh blk post e hn
  have hl : c.length = pre.length + (post.length + 1) := by rw [e]; simp
  exact h pre hh blk post e (by omega)

/-- What a valid chain gives us.  Apart from unique transaction ids, the clauses constrain wallet outputs and wallet keys only. -/
structure ChainWF (scopes : List Nat) (invalid : BranchId → List Nat) (c : Chain) : Prop where
  /-- transaction ids are unique -/
  ids : ∀ pre tx post, allTxs c = pre ++ tx :: post → ∀ t ∈ pre, t.id ≠ tx.id
  /-- no transaction spends a wallet output of itself or of a later transaction -/
  order : ∀ pre tx post, allTxs c = pre ++ tx :: post → ∀ op ∈ tx.ins, ∀ t ∈ tx :: post,
      op ∉ (wouts scopes t.id t.outs 0).map (·.1)
  /-- no wallet output is spent twice -/
  nodbl : ∀ pre tx post, allTxs c = pre ++ tx :: post → ∀ op ∈ tx.ins, op ∈ wops scopes (allTxs c) →
      ∀ t ∈ pre, op ∉ t.ins
  /-- an address exists only for valid child indices -/
  valid : ∀ k ∈ paidKeys (allTxs c), scopes.contains k.scope = true → Valid (invalid (k.scope, k.internal)) k.index

/-- Ground truth: the sum of the wallet outputs of the chain no transaction of the chain spends. -/
def ledgerBalance (scopes : List Nat) (txs : List Tx) : Nat :=
  (((walletOuts scopes txs).filter (fun p => !spentIn txs p.1)).map (·.2)).sum

/-- Ground truth: the credits the wallet must hold after `txs`. -/
def specCredits (scopes : List Nat) (txs : List Tx) : List Credit :=
  (walletOuts scopes txs).map (fun p => ⟨p.1, p.2, spentIn txs p.1⟩)

/-! ### executable checkers for the hypotheses (non-vacuity, driver self-check) -/

/-- `P (pre ++ a) x post` for every split `l = a ++ x :: post`. -/
def allSplits {α : Type} (P : List α → α → List α → Bool) : List α → List α → Bool
  | _, [] => true
  | pre, x :: post => P pre x post && allSplits P (pre ++ [x]) post

def checkWF (scopes : List Nat) (invalid : BranchId → List Nat) (c : Chain) : Bool :=
  allSplits (fun pre tx post =>
      pre.all (fun t => t.id != tx.id) &&
      tx.ins.all (fun op => (tx :: post).all (fun t => !((wouts scopes t.id t.outs 0).map (·.1)).contains op)) &&
      tx.ins.all (fun op => !(wops scopes (allTxs c)).contains op || pre.all (fun t => !t.ins.contains op)))
    [] (allTxs c) &&
  (paidKeys (allTxs c)).all (fun k => !scopes.contains k.scope || !(invalid (k.scope, k.internal)).contains k.index)

def checkLA (W : Nat) (scopes : List Nat) (c : Chain) : Bool :=
  allSplits (fun pre hb _ => (paidKeys hb.2).all (fun k =>
      !scopes.contains k.scope || decide (k.index < nextAfter (allTxs pre) (k.scope, k.internal) + W))) [] c

def checkLAFrom (W : Nat) (scopes : List Nat) (n : Nat) (c : Chain) : Bool :=
  allSplits (fun pre hb _ => decide (pre.length < n) || (paidKeys hb.2).all (fun k =>
      !scopes.contains k.scope || decide (k.index < nextAfter (allTxs pre) (k.scope, k.internal) + W))) [] c

end Recovery
