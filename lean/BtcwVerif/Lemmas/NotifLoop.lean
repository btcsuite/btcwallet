/-
Lemmas for the notification loops of btcd.go / neutrino.go (C18): what a step computes under any table whose clauses
have the bodies that belong to their kinds (`Table.Ok`, true of both loops), invariant, progress.
-/
import BtcwVerif.Model.NotifLoop
namespace NotifLoop
variable {α : Type}

def bodyFor : Kind → Body
  | .recvEnqueue => .appendAndArm
  | .sendDequeue => .popAndDisarm
  | .sendCurrentBlock => .nothing
  | .recvRescanErr => .logOnly
  | .quit => .breakOut
  | .dflt | .unknown => .unknown

def Table.has (t : Table) (k : Kind) : Bool := t.cases.any (·.kind == k)

/-- All the proofs use of a table: every clause has the body of its kind, and the enqueue, dequeue and quit clauses
exist.  (btcd and neutrino differ in `has .recvRescanErr` only.) -/
structure Table.Ok (t : Table) : Prop where
  bodies : ∀ c ∈ t.cases, c.body = bodyFor c.kind
  recv : t.has .recvEnqueue = true
  send : t.has .sendDequeue = true
  quit : t.has .quit = true

theorem expectedBtcd_ok : expectedBtcd.Ok := ⟨by decide, rfl, rfl, rfl⟩

theorem expectedNeutrino_ok : expectedNeutrino.Ok := ⟨by decide, rfl, rfl, rfl⟩

variable {t : Table} {s s' : State α} {l : Label α}

theorem step_kind_some (ht : t.Ok) {k : Kind}
    (hk : l.kind = some k) : step t s l = some s' ↔
      s.exited = false ∧ t.has k = true ∧ guard s l = true ∧ execBody (chanEffect s l) l (bodyFor k) = s' := by
  simp only [step, hk]
  cases hf : t.cases.find? (fun c => c.kind == k) with
  | none =>
    have : t.has k = false := by simpa [Table.has] using hf
    simp [this]
  | some c =>
    have hc := List.mem_of_find?_eq_some hf
    have hck : c.kind = k := by simpa using List.find?_some hf
    have : t.has k = true := List.any_eq_true.mpr ⟨c, hc, by simp [hck]⟩
    cases he : s.exited <;> simp [this, ht.bodies c hc, hck]

/-- The slice queue of the two handler loops in every reachable state.
`acc`: what the consumer has received, then the slice `notifications`, is what was taken from `enqueue`, in order.
`armed`, `next`: `dequeue` is non-nil exactly while the slice is non-empty, and then offers `notifications[0]`.
`exited`: the loop is left only through the `quit` clause, so only after `quit` was closed. -/
structure Inv (s : State α) : Prop where
  acc : s.delivered ++ s.notifications = s.accepted
  armed : s.armed = !s.notifications.isEmpty
  next : s.armed = true → s.next = s.notifications.head?
  exited : s.exited = true → s.quitClosed = true

theorem inv_init : Inv (init α) := by constructor <;> simp [init]

/-- `n, ok := <-enqueue`, field by field: append, and arm `dequeue` with `next = n` if the slice was empty. -/
def enqueue (s : State α) (x : α) : State α :=
  { s with accepted := s.accepted ++ [x], notifications := s.notifications ++ [x],
           next := if s.notifications.isEmpty then some x else s.next,
           armed := s.notifications.isEmpty || s.armed }

/-- `dequeue <- next`, field by field: pop, and disarm `dequeue` if that empties the slice. -/
def dequeue (s : State α) : State α :=
  { s with delivered := s.delivered ++ s.next.toList, notifications := s.notifications.tail,
           next := s.notifications.tail.head?.or s.next,
           armed := !s.notifications.tail.isEmpty && s.armed }

theorem enqueue_eq (s : State α) (x : α) :
    execBody (chanEffect s (.recvEnqueue x)) (.recvEnqueue x) .appendAndArm = enqueue s x := by
  cases h : s.notifications.isEmpty <;> simp [execBody, chanEffect, enqueue, h]

theorem dequeue_eq (s : State α) : execBody (chanEffect s .sendDequeue) .sendDequeue .popAndDisarm = dequeue s := by
  cases h : s.notifications.tail <;> simp [execBody, chanEffect, dequeue, h]

theorem inv_enqueue (hI : Inv s) (x : α) : Inv (enqueue s x) where
  acc := by simp [enqueue, ← hI.acc]
  armed := by simp [enqueue, hI.armed]
  exited := hI.exited
  next _ := by
    cases hn : s.notifications with
    | nil => simp [enqueue, hn]
    | cons y r => simpa [enqueue, hn] using hI.next (by simp [hI.armed, hn])

theorem inv_dequeue (hI : Inv s) (ha : s.armed = true) : Inv (dequeue s) := by
  cases hn : s.notifications with
  | nil => simp [hI.armed, hn] at ha
  | cons y r =>
    have hy : s.next = some y := by simpa [hn] using hI.next ha
    exact { acc := by simp [dequeue, ← hI.acc, hn, hy]
            armed := by simp [dequeue, ha, hn]
            exited := hI.exited
            next := fun _ => by cases r <;> simp_all [dequeue] }

theorem inv_step (ht : t.Ok) (hI : Inv s)
    (h : step t s l = some s') : Inv s' := by
  cases hk : l.kind with
  | none =>
    cases l <;> cases hk
    simp [step, Label.kind, guard] at h
    exact h.2 ▸ { hI with exited := fun _ => rfl }
  | some k =>
    obtain ⟨-, -, hg, rfl⟩ := (step_kind_some ht hk).mp h
    cases l <;> cases hk
    · exact enqueue_eq s _ ▸ inv_enqueue hI _
    · exact dequeue_eq s ▸ inv_dequeue hI hg
    · exact hI
    · exact hI
    · exact { hI with exited := fun _ => hg }

theorem inv_run (ht : t.Ok) : ∀ (tr : List (Label α)) {s s' : State α}, Inv s →
    run t s tr = some s' → Inv s'
  | [], _, _, hI, h => Option.some.inj h ▸ hI
  | l :: ls, s, _, hI, h => by
    simp only [run] at h
    cases hs : step t s l with
    | none => simp [hs] at h
    | some s1 => rw [hs] at h; exact inv_run ht ls (inv_step ht hI hs) h

theorem step_recvEnqueue (ht : t.Ok) (he : s.exited = false) (x : α) :
    step t s (.recvEnqueue x) = some (enqueue s x) :=
  enqueue_eq s x ▸ (step_kind_some ht rfl).mpr ⟨he, ht.recv, rfl, rfl⟩

theorem step_sendDequeue (ht : t.Ok) (he : s.exited = false)
    (ha : s.armed = true) : step t s .sendDequeue = some (dequeue s) :=
  dequeue_eq s ▸ (step_kind_some ht rfl).mpr ⟨he, ht.send, ha, rfl⟩

theorem quit_enabled (ht : t.Ok) (he : s.exited = false)
    (hq : s.quitClosed = true) : ∃ s', step t s .quit = some s' ∧ s'.exited = true :=
  ⟨_, (step_kind_some ht rfl).mpr ⟨he, ht.quit, hq, rfl⟩, rfl⟩

theorem exited_dead (t : Table) (he : s.exited = true) (hl : l.kind ≠ none) :
    step t s l = none := by
  obtain ⟨k, hk⟩ := Option.ne_none_iff_exists'.mp hl
  simp [step, hk, he]

theorem drain (ht : t.Ok) : ∀ (n : Nat) (s : State α), Inv s → s.exited = false →
    s.notifications.length = n →
    ∃ s', run t s (List.replicate n .sendDequeue) = some s' ∧ s'.delivered = s.accepted ∧
      s'.accepted = s.accepted ∧ s'.notifications = []
  | 0, s, hI, _, hn => by
    have hv : s.notifications = [] := List.eq_nil_of_length_eq_zero hn
    exact ⟨s, rfl, by simp [← hI.acc, hv], rfl, hv⟩
  | n + 1, s, hI, he, hn => by
    have ha : s.armed = true := by rw [hI.armed]; cases hv : s.notifications <;> simp_all
    have hs := step_sendDequeue ht he ha
    obtain ⟨s', h1, h⟩ := drain ht n _ (inv_step ht hI hs) he (by simp [dequeue, hn])
    exact ⟨s', by rw [List.replicate_succ, run, hs]; exact h1, h⟩

end NotifLoop
