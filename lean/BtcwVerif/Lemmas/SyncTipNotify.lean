/-
C15, the modelled `NotificationServer` (wallet/notifications.go; `NSrv`: `currentTxNtfn` + delivered notifications) next to
the wallet: it never influences the wallet (every `…N` function of the model projects onto its plain version; `startupDuringN`'s
projection is `C15_notifications_startup_proj` in Props/C15.lean), and it
carries exactly the `notifyAttachedBlock` / `notifyDetachedBlock` calls of Lemmas/SyncTipEvolve.lean (`blockEvents`):
the detached hashes delivered or pending are those calls in order (`notify_detached`), an attached block is the last
entry of the notification it goes out with (`attachEntry_last`).
-/
import BtcwVerif.Lemmas.SyncTipCompose
import BtcwVerif.Lemmas.Util
namespace SyncTip

section
variable (cfg : Cfg)

theorem processN_fst (ns : List Ntfn) (p : Wallet × NSrv) : (processN cfg p ns).1 = process cfg p.1 ns :=
  foldl_fst (handleN cfg) (handle cfg) (fun _ _ => rfl) ns p

theorem evolveN_proj (steps : List Step) (p : Wallet × NSrv) (tip : BlockId) :
    ((evolveN cfg (p, tip) steps).1.1, (evolveN cfg (p, tip) steps).2) = evolve cfg (p.1, tip) steps := by
  induction steps generalizing p tip with
  | nil => rfl
  | cons st rest ih =>
    simp only [evolveN, evolve]
    rw [ih, processN_fst]

theorem recTxsN_fst (blocks : List BlockId) (p : Wallet × NSrv) :
    (blocks.foldl (fun p b =>
      if p.1.birthday.1 ≤ b.length then (cfg.C.txs b).foldl (txStepN (some (stampOf cfg.C b))) p else p) p).1
      = recTxs cfg p.1 blocks :=
  foldl_fst _ _ (fun p b => by
    split
    · exact foldl_fst (txStepN _) _ (fun _ _ => rfl) _ p
    · rfl) blocks p

theorem recoveryBatchN_fst (p : Wallet × NSrv) (blocks : List BlockId) :
    (recoveryBatchN cfg p blocks).1 = recoveryBatch cfg p.1 blocks := by
  simp only [recoveryBatchN, recoveryBatch_eq, recTxsN_fst]

theorem recoveryRunN_proj (batch : Nat) (tip : BlockId) : ∀ (fuel : Nat) (p : Wallet × NSrv),
    ((recoveryRunN cfg batch tip fuel p).1.1, (recoveryRunN cfg batch tip fuel p).2)
      = recoveryRun cfg batch tip fuel p.1 := by
  intro fuel
  induction fuel with
  | zero => intro p; rfl
  | succ fuel ih =>
    intro p
    simp only [recoveryRunN, recoveryRun]
    by_cases h : p.1.syncedTo.height + 1 > tip.length
    · simp only [if_pos h]
    · simp only [if_neg h, ← recoveryBatchN_fst]
      split
      · rename_i heq; rw [heq]
      · rename_i heq; rw [heq]; exact ih _

/-- The part of `syncWithChain` after its rollback transaction, with `F` the notifications of the synced-to height. -/
theorem syncTailN_proj (recW batch : Nat) (tip : BlockId) (p : Wallet × NSrv) (F : Nat → List Ntfn) :
    let R := if recW > 0 then recoveryRunN cfg batch tip (tip.length + 1) p else (p, true)
    let r := if recW > 0 then recoveryRun cfg batch tip (tip.length + 1) p.1 else (p.1, true)
    ((if R.2 = false then (R.1, false) else (processN cfg R.1 (F R.1.1.syncedTo.height), true)).1.1,
      (if R.2 = false then (R.1, false) else (processN cfg R.1 (F R.1.1.syncedTo.height), true)).2)
      = if r.2 = false then (r.1, false) else (process cfg r.1 (F r.1.syncedTo.height), true) := by
  intro R r
  have e : (R.1.1, R.2) = r := by
    by_cases hr : recW > 0
    · simp only [R, r, if_pos hr]; exact recoveryRunN_proj ..
    · simp only [R, r, if_neg hr]
  clear_value R r
  obtain ⟨⟨w, s⟩, ok⟩ := R
  rw [← e]
  cases ok <;> simp [processN_fst]

end

theorem resyncN_proj (cfg : Cfg) (recW batch : Nat) (p : Wallet × NSrv) (tip : BlockId) :
    ((resyncN cfg recW batch p tip).1.1, (resyncN cfg recW batch p tip).2) = resync cfg recW batch p.1 tip := by
  simp only [resyncN, resync]
  cases startupRollback cfg p.1 tip with
  | error _ => rfl
  | ok w1 => exact syncTailN_proj cfg recW batch tip (w1, p.2) (rescanTxNtfns cfg.C tip)

def NSrv.allDetached (s : NSrv) : List Hash := s.sent.flatMap (·.detached) ++ s.curD.detached

def detachedOf : List BEvent → List Hash
  | [] => []
  | .detached h :: rest => h :: detachedOf rest
  | .attached _ :: rest => detachedOf rest

theorem attachEntry_detached (n : TxNtfn) (b : Stamp) : (attachEntry n b).detached = n.detached := by
  unfold attachEntry
  split
  · split <;> rfl
  · rfl

theorem notifyAttached_allDetached (synced : Bool) (s : NSrv) (b : Stamp) :
    (notifyAttached synced s b).allDetached = s.allDetached := by
  simp only [notifyAttached]
  split
  · simp only [NSrv.allDetached, NSrv.curD, Option.getD_some, attachEntry_detached]
  · simp only [NSrv.allDetached, NSrv.curD, Option.getD_none, List.flatMap_append, List.flatMap_cons,
      List.flatMap_nil, List.append_nil, attachEntry_detached]

theorem txNotify_allDetached (w : Wallet) (s : NSrv) (t : Tx) (blk : Option Stamp) :
    (txNotify w s t blk).allDetached = s.allDetached := by
  simp only [txNotify]
  split
  · rfl
  · cases blk with
    | some b =>
      simp only [notifyMined, NSrv.allDetached, NSrv.curD, Option.getD_some, attachEntry_detached]
    | none =>
      simp only [notifyUnmined, NSrv.allDetached, NSrv.curD, List.flatMap_append, List.flatMap_cons,
        List.flatMap_nil, List.append_nil]

theorem txFoldN_allDetached (blk : Option Stamp) (ts : List Tx) (p : Wallet × NSrv) :
    (ts.foldl (txStepN blk) p).2.allDetached = p.2.allDetached :=
  List.foldlRecOn (motive := fun q : Wallet × NSrv => q.2.allDetached = p.2.allDetached) ts _ rfl
    fun q h t _ => (txNotify_allDetached q.1 q.2 t blk).trans h

/-- **Detached hashes are conserved**: the `DetachedBlocks` of everything delivered plus the pending notification
    grow by exactly the `notifyDetachedBlock` calls — nothing is dropped, duplicated or reordered by the coalescing. -/
theorem notify_detached (cfg : Cfg) (w : Wallet) (s : NSrv) (n : Ntfn) :
    (notify cfg w s n).allDetached = s.allDetached ++ detachedOf (blockEvents cfg w n) := by
  cases n with
  | connected b =>
    simp only [notify, blockEvents]
    cases connectBlock cfg.W w b <;> simp only [detachedOf, List.append_nil, notifyAttached_allDetached]
  | disconnected b =>
    simp only [notify, blockEvents]
    by_cases hs : w.chainSynced = false
    · simp only [hs, if_true, detachedOf, List.append_nil]
    · simp only [if_neg hs]
      cases disconnectBlock cfg w b <;> simp only [detachedOf, List.append_nil, notifyDetached, NSrv.allDetached,
        NSrv.curD, Option.getD_some, List.append_assoc]
  | relevantTx t blk => simp only [notify, blockEvents, detachedOf, List.append_nil, txNotify_allDetached]
  | filtered b ts => simp only [notify, blockEvents, detachedOf, List.append_nil, txFoldN_allDetached]
  | rescanFinished _ _ => simp only [notify, blockEvents, detachedOf, List.append_nil]

theorem attachEntry_last (n : TxNtfn) (b : Stamp) : ∃ e, (attachEntry n b).attached.getLast? = some e ∧ e.hash = b.hash := by
  unfold attachEntry
  split
  · rename_i l hl
    split
    · rename_i he; exact ⟨l, hl, he⟩
    · exact ⟨⟨b.height, b.hash, []⟩, by simp, rfl⟩
  · exact ⟨⟨b.height, b.hash, []⟩, by simp, rfl⟩

theorem detachedOf_append (a b : List BEvent) : detachedOf (a ++ b) = detachedOf a ++ detachedOf b := by
  induction a with
  | nil => rfl
  | cons x a iha => cases x <;> simp [detachedOf, iha]

theorem processN_detached (cfg : Cfg) (ns : List Ntfn) (p : Wallet × NSrv) :
    (processN cfg p ns).2.allDetached = p.2.allDetached ++ detachedOf (eventsOf cfg p.1 ns) := by
  induction ns generalizing p with
  | nil => exact (List.append_nil _).symm
  | cons n ns ih =>
    simp only [processN, List.foldl_cons] at ih ⊢
    rw [ih]
    simp only [handleN, eventsOf, detachedOf_append, notify_detached, List.append_assoc]

theorem evolveN_detached (cfg : Cfg) (steps : List Step) (p : Wallet × NSrv) (tip : BlockId) :
    (evolveN cfg (p, tip) steps).1.2.allDetached = p.2.allDetached ++ detachedOf (runEvents cfg (p.1, tip) steps) := by
  induction steps generalizing p tip with
  | nil => exact (List.append_nil _).symm
  | cons st rest ih =>
    simp only [evolveN, runEvents, detachedOf_append]
    rw [ih, processN_detached, processN_fst, List.append_assoc]

end SyncTip
