import BtcwVerif.Lemmas.RefDefs
/-!
# Reading a good pair: what `spenderOf`, `latestTxRecord`, the spent test and the unspent index answer
Facts about one pair `Good s L` (or one store) and no event; the lease steps (RefLease), the observables (RefDetails,
RefUtxos, RefRange) and the event proofs start from them (`unmined_perm`: the fuel bound of *abandoned* and the unconfirmed
batch of the range read the same fact; `credit_of_unspent`, `ucredit_value`, `value_stored`: the `known` clause of the leases
and the debits of an unconfirmed record read the same three).
-/
namespace TxStore
open KMap Ledger

theorem latestTxRecord_isSome_iff (s : Store) (h : Nat) :
    (latestTxRecord s h).isSome = true ↔ ∃ p ∈ s.txrecs, p.1.hash = h := by
  unfold latestTxRecord
  rw [List.getLast?_isSome, Ne, List.filter_eq_nil_iff]
  simp

theorem latestTxRecord_mem {s : Store} {h : Nat} {k : TxKey} {v : Tx} (hl : latestTxRecord s h = some (k, v)) :
    (k, v) ∈ s.txrecs ∧ k.hash = h := by
  have hm := List.mem_of_getLast? hl
  rw [List.mem_filter] at hm
  exact ⟨hm.1, by simpa using hm.2⟩

theorem withIdx_findSome_none {op : OutPoint} {h : Nat} {blk : Block} (ins : List OutPoint) (n : Nat) :
    (withIdx ins n).findSome? (fun ji => if ji.2 = op then some (⟨h, blk, ji.1⟩ : CredKey) else none) = none ↔
      op ∉ ins := by
  have hmem : op ∈ ins ↔ ∃ p ∈ withIdx ins n, p.2 = op :=
    (congrArg (op ∈ ·) (withIdx_map_snd ins n)).symm ▸ List.mem_map
  rw [List.findSome?_eq_none_iff, hmem]
  constructor
  · rintro h1 ⟨p, hp, rfl⟩; simpa using h1 p hp
  · intro h1 p hp; simp only [ite_eq_right_iff, reduceCtorEq, imp_false]; exact fun e => h1 ⟨p, hp, e⟩

theorem spenderOf_eq_none_iff {L : Ledger} {op : OutPoint} :
    spenderOf L op = none ↔ ∀ p ∈ chainTxs L, op ∉ p.1.ins := by
  unfold spenderOf
  rw [List.findSome?_eq_none_iff]
  constructor
  · intro h p hp; exact (withIdx_findSome_none _ 0).mp (h p hp)
  · intro h p hp; exact (withIdx_findSome_none _ 0).mpr (h p hp)

theorem spenderOf_some_elim {L : Ledger} {op : OutPoint} {dk : CredKey} (h : spenderOf L op = some dk) :
    ∃ p ∈ chainTxs L, ∃ j, p.1.ins[j]? = some op ∧ dk = ⟨p.1.hash, p.2.block, j⟩ := by
  unfold spenderOf at h
  obtain ⟨l1, p, l2, hl, hp, _⟩ := List.findSome?_eq_some_iff.mp h
  obtain ⟨⟨j, x⟩, hm, hx⟩ := List.exists_of_findSome?_eq_some hp
  split at hx
  · rename_i e; cases e; exact ⟨p, by rw [hl]; simp, j, (mem_withIdx0 _ _ _).mp hm, (Option.some.inj hx).symm⟩
  · cases hx

theorem spenderOf_eq_some_iff {L : Ledger} (hn : ((chainTxs L).flatMap (·.1.ins)).Nodup) {op : OutPoint} {dk : CredKey} :
    spenderOf L op = some dk ↔ ∃ p ∈ chainTxs L, ∃ j, p.1.ins[j]? = some op ∧ dk = ⟨p.1.hash, p.2.block, j⟩ := by
  constructor
  · exact spenderOf_some_elim
  · rintro ⟨p, hp, j, hj, rfl⟩
    cases hs : spenderOf L op with
    | none =>
      have := spenderOf_eq_none_iff.mp hs p hp
      exact absurd (List.mem_of_getElem? hj) this
    | some dk' =>
      obtain ⟨q, hq, j', hj', rfl⟩ := spenderOf_some_elim hs
      have hpq : p = q := nodup_flatMap_unique _ _ hn p hp q hq op (List.mem_of_getElem? hj) (List.mem_of_getElem? hj')
      subst hpq
      have hnd : p.1.ins.Nodup := (List.pairwise_flatMap.mp hn).1 p hp
      have hlt : j < p.1.ins.length := (List.getElem?_eq_some_iff.mp hj).1
      have : j = j' := (List.getElem?_inj hlt hnd).mp (by rw [hj, hj'])
      subst this; rfl

theorem spenderOf_isSome {L : Ledger} (op : OutPoint) : (spenderOf L op).isSome = spentConfirmed L op := by
  cases hs : spenderOf L op with
  | none =>
    have := spenderOf_eq_none_iff.mp hs
    symm
    simp only [Option.isSome_none]
    exact spentConfirmed_false_iff.mpr this
  | some dk =>
    obtain ⟨p, hp, j, hj, _⟩ := spenderOf_some_elim hs
    symm
    exact spentConfirmed_iff.mpr ⟨p, hp, List.mem_of_getElem? hj⟩

section
variable {s : Store} {L : Ledger}
theorem spentByUnmined_iff (hr : Refines s L) (op : OutPoint) :
    spentByUnmined s op = true ↔ ∃ u ∈ L.pool, op ∈ u.ins := by
  have h1 : spentByUnmined s op = true ↔ ∃ x, x ∈ spendHashes s op := by
    unfold spentByUnmined spendHashes
    rw [contains_eq]
    cases hf : s.unminedInputs.find? op with
    | none => simp
    | some l =>
      cases l with
      | nil => exact absurd hf (hr.uinputsNE op)
      | cons x r => simp
  rw [h1]
  simp only [hr.uinputs, mem_poolSpenders]
  exact ⟨fun ⟨_, u, hu, h, _⟩ => ⟨u, hu, h⟩, fun ⟨u, hu, h⟩ => ⟨_, u, hu, h, rfl⟩⟩

theorem spent_eq (hr : Refines s L) (op : OutPoint) :
    Ledger.spent L op = (spentConfirmed L op || spentByUnmined s op) := by
  rw [Bool.eq_iff_iff, spent_iff, Bool.or_eq_true, spentConfirmed_iff, spentByUnmined_iff hr]
  constructor
  · rintro ⟨⟨t, ob⟩, hp, hin⟩
    rcases mem_known.mp hp with ⟨b, rfl, hm⟩ | ⟨rfl, hm⟩
    · exact Or.inl ⟨(t, b), hm, hin⟩
    · exact Or.inr ⟨t, hm, hin⟩
  · rintro (⟨p, hp, hin⟩ | ⟨u, hu, hin⟩)
    · exact ⟨(p.1, some p.2), known_of_mined hp, hin⟩
    · exact ⟨(u, none), known_of_pool hu, hin⟩
end

theorem known_find {L : Ledger} (hl : LWF L) {p : Tx × Option BlockMeta} (hp : p ∈ known L) :
    (known L).find? (fun q => q.1.hash == p.1.hash) = some p := by
  cases hf : (known L).find? (fun q => q.1.hash == p.1.hash) with
  | none => exact absurd (beq_self_eq_true _) (List.find?_eq_none.mp hf p hp)
  | some q => rw [hl.known_unique (List.mem_of_find?_eq_some hf) hp (by simpa using List.find?_some hf)]

theorem creditValue_eq_some_iff {L : Ledger} (hl : LWF L) {op : OutPoint} {v : Int} :
    creditValue L op = some v ↔
      ∃ chg p, lookup L.credit op = some chg ∧ p ∈ known L ∧ p.1.hash = op.hash ∧ p.1.outs[op.index]? = some v := by
  unfold creditValue credited
  cases lookup L.credit op with
  | none => exact ⟨fun h => (by cases h), fun ⟨_, _, h, _⟩ => (by cases h)⟩
  | some chg =>
    rw [if_pos (show (some chg).isSome = true from rfl)]
    constructor
    · intro h
      cases hf : (known L).find? (fun p => p.1.hash == op.hash) with
      | none => rw [hf] at h; cases h
      | some p =>
        rw [hf] at h
        exact ⟨chg, p, rfl, List.mem_of_find?_eq_some hf, by simpa using List.find?_some hf, h⟩
    · rintro ⟨_, p, _, hp, hh, hv⟩
      rw [← hh, known_find hl hp]
      exact hv

/-- leasable: a valued output that no confirmed transaction spends (a credited output of a known transaction has a value:
`LWF.credit_known`) -/
theorem leasable_iff {L : Ledger} (hl : LWF L) {op : OutPoint} :
    leasable L op = true ↔ (∃ v, creditValue L op = some v) ∧ spentConfirmed L op = false := by
  unfold leasable credited
  rw [Bool.and_eq_true, Bool.not_eq_true', Bool.and_eq_true, Option.isSome_iff_exists]
  refine and_congr_left fun _ => ⟨?_, ?_⟩
  · rintro ⟨⟨chg, hlk⟩, _⟩
    obtain ⟨q, hq, e1, e2⟩ := hl.credit_known hlk
    exact ⟨_, (creditValue_eq_some_iff hl).mpr ⟨chg, q, hlk, hq, e1, List.getElem?_eq_getElem e2⟩⟩
  · rintro ⟨v, hv⟩
    obtain ⟨chg, p, hlk, hp, hh, _⟩ := (creditValue_eq_some_iff hl).mp hv
    exact ⟨⟨chg, hlk⟩, isKnown_iff.mpr ⟨p, hp, hh⟩⟩

section
variable {s : Store} {L : Ledger} (hg : Good s L)
include hg

theorem blocks_find_of_mined {x : Tx} {b : BlockMeta} (hx : (x, b) ∈ chainTxs L) :
    ∃ br, s.blocks.find? b.block.height = some br ∧ br.time = b.time := by
  obtain ⟨lb, hlb, hbm, _⟩ := mem_chainTxs.mp hx
  have hmem : blockEntry lb ∈ s.blocks := by rw [hg.ref.blocks]; exact List.mem_map.mpr ⟨lb, hlb, rfl⟩
  have := find?_of_mem _ (nodupKeys_of_sorted _ hg.wf2.wf.sorted) hmem
  rw [← hbm]
  exact ⟨(blockEntry lb).2, this, rfl⟩

theorem latestTxRecord_none {h : Nat} (hk : ∀ p ∈ chainTxs L, p.1.hash ≠ h) : latestTxRecord s h = none := by
  rw [← Option.not_isSome_iff_eq_none, latestTxRecord_isSome_iff]
  rintro ⟨⟨k, v⟩, hkv, e⟩
  obtain ⟨bm, hm, rfl⟩ := (hg.ref.txrecs_iff k v).mp (find?_of_mem _ hg.ref.nodupTxrecs hkv)
  exact hk _ hm e

/-- the clause `Refines` leaves to `WF.index`: the unspent index holds the credited outputs of confirmed transactions that no
confirmed transaction spends, under their block -/
theorem unspent_iff (op : OutPoint) (blk : Block) :
    s.unspent.find? op = some blk ↔
      ∃ t bm, (t, bm) ∈ chainTxs L ∧ op.hash = t.hash ∧ blk = bm.block ∧ op.index < t.outs.length ∧
        (lookup L.credit op).isSome = true ∧ spentConfirmed L op = false := by
  obtain ⟨oh, oi⟩ := op
  rw [hg.wf2.wf.index]
  constructor
  · rintro ⟨cv, hcv, hsp⟩
    obtain ⟨t, bm, ht, e1, e2, e3, e4, _, e6⟩ := (hg.ref.credits_iff _ _).mp hcv
    exact ⟨t, bm, ht, e1, e2, (List.getElem?_eq_some_iff.mp e3).1, Option.isSome_iff_exists.mpr ⟨_, e4⟩,
      (spenderOf_isSome _).symm.trans (e6.symm.trans hsp)⟩
  · rintro ⟨t, bm, ht, e1, rfl, hlt, hc, hsp⟩
    obtain ⟨chg, hc⟩ := Option.isSome_iff_exists.mp hc
    cases e1
    have := hg.ref.credit_of_mined ht (List.getElem?_eq_getElem hlt) hc
    rw [spenderOf_isSome, hsp] at this
    exact ⟨_, this, rfl⟩

theorem credit_of_unspent {inp : OutPoint} {blk : Block}
    (h : s.unspent.find? inp = some blk) :
    ∃ cv, s.credits.find? ⟨inp.hash, blk, inp.index⟩ = some cv ∧ creditValue L inp = some cv.amount ∧
      spentConfirmed L inp = false := by
  obtain ⟨cv, hcv, hsp⟩ := (hg.wf2.wf.index inp blk).mp h
  obtain ⟨x, bx, hx, e1, _, e3, e4, _, e6⟩ := (hg.ref.credits_iff _ _).mp hcv
  exact ⟨cv, hcv, (creditValue_eq_some_iff hg.lwf).mpr ⟨_, _, e4, known_of_mined hx, e1.symm, e3⟩,
    (spenderOf_isSome _).symm.trans (e6.symm.trans hsp)⟩

theorem ucredit_value {inp : OutPoint} {uc : UCredit}
    (h : s.unminedCredits.find? inp = some uc) :
    creditValue L inp = some uc.amount ∧ spentConfirmed L inp = false ∧ s.unspent.find? inp = none := by
  obtain ⟨w, hw, h1, h2, h3⟩ := (hg.ref.ucredits_iff _ _).mp h
  refine ⟨(creditValue_eq_some_iff hg.lwf).mpr ⟨_, _, h3, known_of_pool hw, h1.symm, h2⟩,
    OutPoint.eq_of_fields h1 rfl ▸ hg.lwf.spentConfirmed_pool hw inp.index, ?_⟩
  cases hf : s.unspent.find? inp with
  | none => rfl
  | some blk =>
    obtain ⟨x, bx, hx, e1, _⟩ := (unspent_iff hg inp blk).mp hf
    exact absurd (e1.symm.trans h1) (hg.lwf.pool_not_mined hw hx)

/-- a valued output that no confirmed transaction spends is in the unspent index or among the unconfirmed credits: where
`unminedDebit` looks (in this order) and what `isKnownOutput` tests; the converse is `credit_of_unspent`, `ucredit_value` -/
theorem value_stored {inp : OutPoint} {v : Int}
    (hv : creditValue L inp = some v) (hsc : spentConfirmed L inp = false) :
    (∃ blk, s.unspent.find? inp = some blk) ∨ ∃ uc, s.unminedCredits.find? inp = some uc := by
  obtain ⟨chg, ⟨x, ob⟩, hlk, hp, hh, hx⟩ := (creditValue_eq_some_iff hg.lwf).mp hv
  rcases mem_known.mp hp with ⟨bx, rfl, hm⟩ | ⟨rfl, hm⟩
  · exact Or.inl ⟨bx.block, (unspent_iff hg _ _).mpr
      ⟨x, bx, hm, hh.symm, rfl, (List.getElem?_eq_some_iff.mp hx).1, by rw [hlk]; rfl, hsc⟩⟩
  · exact Or.inr ⟨⟨v, chg⟩, (hg.ref.ucredits_iff _ _).mpr ⟨x, hm, hh.symm, hx, hlk⟩⟩

/-- the unmined bucket holds the pool, each transaction once under its hash -/
theorem unmined_perm : s.unmined.Perm (expUnmined L) := by
  refine Holds.perm hg.ref.unmined hg.ref.nodupUnmined (nodup_of_nodup_map (·.1) ?_)
  unfold expUnmined
  rw [List.map_map]
  exact pool_hashes_nodup hg.lwf

theorem unmined_txs_perm : (s.unmined.map (·.2)).Perm L.pool := by
  have := (unmined_perm hg).map (·.2)
  unfold expUnmined at this
  rwa [List.map_map, show ((·.2) ∘ fun t : Tx => (t.hash, t)) = id from rfl, List.map_id] at this

theorem unmined_length : s.unmined.length = L.pool.length := by
  rw [← (unmined_txs_perm hg).length_eq, List.length_map]

theorem Good.spender_ins {u : Tx} (hu : u ∈ L.pool) {op : OutPoint}
    (h : u.hash ∈ spendHashes s op) : op ∈ u.ins := by
  obtain ⟨v, hv, h1, h2⟩ := mem_poolSpenders.mp ((hg.ref.uinputs _ _).mp h)
  cases hg.lwf.pool_unique hv hu h2; exact h1

end

end TxStore
