import BtcwVerif.Model.AddrIssue

/-! Lemmas for C09.  When every caller's site holds `w.newAddrMtx` the system is sequential: whoever does not own the mutex is
idle or done, the owner's state is a function of its program counter (`HolderOK`), and a step does nothing only if the caller has
returned or somebody else owns the mutex (`inv_stepC`).  At the end: the harness's coarse schedules are fine schedules of the model (`Reach`).
Core Lean only. -/
namespace AddrIssue

def HoldsAll (cs : List Caller) : Prop := ∀ c ∈ cs, c.holdsMutex = true

/-- data invariant: the committed (branch,index) pairs are, per branch, exactly `[base, disk next)` in order -/
def Q (base : Idx) (σ : State) : Prop :=
  ∀ b, base.get b ≤ σ.disk.get b ∧
    issuedOn b σ.issued = List.range' (base.get b) (σ.disk.get b - base.get b)

/-- what holds while caller `h` (program `c`) owns `w.newAddrMtx`, by program counter -/
def HolderOK (c : Caller) (σ : State) (h : Nat) : Prop :=
  match σ.pc h with
  | .idle => False
  | .done => False
  | .wantTx => σ.writer = none ∧ σ.smtx = none ∧ σ.mem = σ.disk
  | .inTx => σ.writer = some h ∧ σ.smtx = none ∧ σ.mem = σ.disk ∧ σ.work = σ.disk
  | .inTx2 => σ.writer = some h ∧ σ.smtx = none ∧ σ.mem = σ.disk ∧ σ.work = σ.disk
  | .locked => σ.writer = some h ∧ σ.smtx = some h ∧ σ.mem = σ.disk ∧ σ.work = σ.disk
  | .read r => σ.writer = some h ∧ σ.smtx = some h ∧ σ.mem = σ.disk ∧ σ.work = σ.disk ∧ r = σ.mem.get c.branch
  | .wrote r => σ.writer = some h ∧ σ.smtx = some h ∧ σ.mem = σ.disk ∧
      σ.work = σ.disk.set c.branch (r + 1) ∧ r = σ.mem.get c.branch
  | .toCommit none => σ.writer = some h ∧ σ.smtx = none ∧ σ.mem = σ.disk ∧ σ.work = σ.disk
  | .toCommit (some r) => σ.writer = some h ∧ σ.smtx = none ∧ σ.mem = σ.disk ∧
      σ.work = σ.disk.set c.branch (r + 1) ∧ r = σ.mem.get c.branch
  | .cbWait r => σ.writer = none ∧ σ.smtx = none ∧ σ.disk = σ.mem.set c.branch (r + 1) ∧ r = σ.mem.get c.branch
  | .cbLocked r => σ.writer = none ∧ σ.smtx = some h ∧ σ.disk = σ.mem.set c.branch (r + 1) ∧
      r = σ.mem.get c.branch
  | .cbSet _ => σ.writer = none ∧ σ.smtx = some h ∧ σ.mem = σ.disk
  | .toRelease => σ.writer = none ∧ σ.smtx = none ∧ σ.mem = σ.disk

structure Inv (cs : List Caller) (base : Idx) (σ : State) : Prop where
  q : Q base σ
  others : ∀ j, σ.mtx ≠ some j → σ.pc j = .idle ∨ σ.pc j = .done
  holder : ∀ h, σ.mtx = some h → ∃ c, cs[h]? = some c ∧ HolderOK c σ h
  free : σ.mtx = none → σ.writer = none ∧ σ.smtx = none ∧ σ.mem = σ.disk

theorem inv_init (cs : List Caller) (base : Idx) : Inv cs base (init base) :=
  ⟨fun b => ⟨Nat.le_refl _, by show [] = List.range' _ (base.get b - base.get b); rw [Nat.sub_self]; rfl⟩,
   fun _ _ => .inl rfl, nofun, fun _ => ⟨rfl, rfl, rfl⟩⟩

def rank : PC → Nat
  | .idle => 0 | .wantTx => 1 | .inTx => 2 | .inTx2 => 3 | .locked => 4 | .read _ => 5 | .wrote _ => 6
  | .toCommit _ => 7 | .cbWait _ => 8 | .cbLocked _ => 9 | .cbSet _ => 10 | .toRelease => 11 | .done => 12

theorem rank_le (p : PC) : rank p ≤ 12 := by cases p <;> exact Nat.le_of_ble_eq_true rfl

theorem rank_lt {p q : PC} (h : (rank p + 1).ble (rank q) = true) : rank p < rank q := Nat.le_of_ble_eq_true h

/-- caller `i` alone has moved, forward -/
def Moved (σ σ' : State) (i : Nat) : Prop := ∃ p, σ'.pc = upd σ.pc i p ∧ rank (σ.pc i) < rank p

theorem Moved.pc_ne {σ σ' : State} {i : Nat} (h : Moved σ σ' i) : σ'.pc i ≠ σ.pc i := by
  obtain ⟨p, hpc, hlt⟩ := h
  rw [hpc, upd_same]
  exact fun e => Nat.lt_irrefl _ (e ▸ hlt)

theorem holderOK_iff {c : Caller} {σ : State} {h : Nat} {p : PC} (hp : σ.pc h = p) :
    HolderOK c σ h ↔ HolderOK c { σ with pc := fun _ => p } h := by
  unfold HolderOK; rw [hp]

theorem inv_of_holder {cs : List Caller} {base : Idx} {σ σ' : State} {i : Nat} {c : Caller} {p : PC}
    (hinv : Inv cs base σ) (hm : σ.mtx = some i) (hc : cs[i]? = some c)
    (hmtx : σ'.mtx = some i) (hpc : σ'.pc = upd σ.pc i p)
    (hq : Q base σ') (hok : HolderOK c { σ' with pc := fun _ => p } i) {q : PC} (hp : σ.pc i = q)
    (hlt : rank q < rank p) : Inv cs base σ' ∧ Moved σ σ' i := by
  refine ⟨⟨hq, fun j hj => ?_, fun h hh => ?_, fun hn => nomatch hmtx.symm.trans hn⟩, p, hpc, hp ▸ hlt⟩
  · have hji : j ≠ i := fun e => hj (e ▸ hmtx)
    rw [hpc, upd_other _ _ _ _ hji]
    exact hinv.others j fun e => hji (Option.some.inj (hm.symm.trans e)).symm
  · cases Option.some.inj (hmtx.symm.trans hh)
    exact ⟨c, hc, (holderOK_iff (hpc ▸ upd_same ..)).mpr hok⟩

theorem issuedOn_append (b b' : Branch) (l : List (Branch × Nat)) (r : Nat) :
    issuedOn b' (l ++ [(b, r)]) = issuedOn b' l ++ (if b = b' then [r] else []) := by
  unfold issuedOn
  by_cases h : b = b' <;> simp [List.filter_append, h]

theorem Q_commit {base : Idx} {σ : State} (b : Branch) (hq : Q base σ) :
    Q base { σ with disk := σ.disk.set b (σ.disk.get b + 1), issued := σ.issued ++ [(b, σ.disk.get b)] } := by
  intro b'
  obtain ⟨hle, hiss⟩ := hq b'
  show base.get b' ≤ (σ.disk.set b (σ.disk.get b + 1)).get b' ∧ issuedOn b' (σ.issued ++ [(b, σ.disk.get b)]) =
    List.range' (base.get b') ((σ.disk.set b (σ.disk.get b + 1)).get b' - base.get b')
  rw [Idx.get_set, issuedOn_append, hiss]
  by_cases e : b = b'
  · subst e
    rw [if_pos rfl, if_pos rfl, Nat.succ_sub hle, List.range'_1_concat, Nat.add_sub_cancel' hle]
    exact ⟨Nat.le_succ_of_le hle, rfl⟩
  · rw [if_neg e, if_neg e, List.append_nil]
    exact ⟨hle, rfl⟩

theorem issuedOn_cons (b b' : Branch) (n : Nat) (t : List (Branch × Nat)) :
    issuedOn b' ((b, n) :: t) = if b = b' then n :: issuedOn b' t else issuedOn b' t := by
  unfold issuedOn
  by_cases h : b = b' <;> simp [h]

theorem nodup_of_issuedOn (l : List (Branch × Nat)) (h : ∀ b, (issuedOn b l).Nodup) : l.Nodup := by
  induction l with
  | nil => exact List.nodup_nil
  | cons x t ih =>
    obtain ⟨b, n⟩ := x
    refine List.nodup_cons.mpr ⟨fun hmem => ?_, ih fun b' =>
      (h b').sublist (((List.sublist_cons_self _ t).filter _).map _)⟩
    have hb := h b
    rw [issuedOn_cons, if_pos rfl] at hb
    exact (List.nodup_cons.mp hb).1 (List.mem_map.mpr ⟨(b, n), List.mem_filter.mpr ⟨hmem, decide_eq_true rfl⟩, rfl⟩)

theorem nodup_of_Q {base : Idx} {σ : State} (hq : Q base σ) : σ.issued.Nodup :=
  nodup_of_issuedOn _ fun b => (hq b).2 ▸ List.nodup_range' 1

/-- One step of caller `i` when all sites hold the mutex: the invariant is kept; the step does nothing only if `i` has
returned or somebody else holds the mutex (lock order newAddrMtx → bbolt writer → s.mtx, nobody else inside);
otherwise it moves `i` alone, forward. -/
theorem inv_stepC {cs : List Caller} {base : Idx} {σ : State} {i : Nat} {c : Caller}
    (hinv : Inv cs base σ) (hc : cs[i]? = some c) (hm : c.holdsMutex = true) :
    Inv cs base (stepC c σ i) ∧
      (stepC c σ i = σ ∧ σ.mtx ≠ some i ∧ (σ.mtx = none → σ.pc i = .done) ∨ Moved σ (stepC c σ i) i) := by
  have hq := hinv.q
  by_cases hmi : σ.mtx = some i
  · -- `i` owns the mutex: it moves on alone, from one line of `HolderOK` to the next
    refine (?_ : _ ∧ Moved σ _ i).imp_right .inr
    obtain ⟨c', hc', hok⟩ := hinv.holder i hmi
    cases Option.some.inj (hc.symm.trans hc')
    have keep : ∀ {σ' : State} {p : PC}, σ'.mtx = some i → σ'.pc = upd σ.pc i p → Q base σ' →
        HolderOK c { σ' with pc := fun _ => p } i → ∀ {q}, σ.pc i = q → rank q < rank p → _ := inv_of_holder hinv hmi hc
    unfold stepC
    cases hp : σ.pc i with
    | idle => exact ((holderOK_iff hp).mp hok).elim
    | done => exact ((holderOK_iff hp).mp hok).elim
    | wantTx =>
      obtain ⟨hw, hs, hmd⟩ := (holderOK_iff hp).mp hok
      dsimp only
      rw [hw]
      exact keep hmi rfl hq (.intro rfl ⟨hs, hmd, rfl⟩) hp (rank_lt rfl)
    | inTx =>
      obtain ⟨hw, hs, hmd, hwk⟩ := (holderOK_iff hp).mp hok
      dsimp only
      rw [hs]
      -- whichever way the closure goes, only the program counter (and `ret`) changes
      cases c.skip with
      | true => exact keep hmi rfl hq (.intro hw ⟨rfl, hmd, hwk⟩) hp (rank_lt rfl)
      | false => cases c.cond with
        | false => exact keep hmi rfl hq (.intro hw ⟨rfl, hmd, hwk⟩) hp (rank_lt rfl)
        | true =>
          by_cases h : σ.mem.get c.branch = 0 ∨ (σ.mem.get c.branch - 1) ∈ c.used
          · rw [if_pos h]; exact keep hmi rfl hq (.intro hw ⟨rfl, hmd, hwk⟩) hp (rank_lt rfl)
          · rw [if_neg h]; exact keep hmi rfl hq (.intro hw ⟨rfl, hmd, hwk⟩) hp (rank_lt rfl)
    | inTx2 =>
      obtain ⟨hw, hs, hmd, hwk⟩ := (holderOK_iff hp).mp hok
      dsimp only
      rw [hs]
      exact keep hmi rfl hq (.intro hw ⟨rfl, hmd, hwk⟩) hp (rank_lt rfl)
    | locked =>
      obtain ⟨hw, hs, hmd, hwk⟩ := (holderOK_iff hp).mp hok
      dsimp only
      exact keep hmi rfl hq (.intro hw ⟨hs, hmd, hwk, rfl⟩) hp (rank_lt rfl)
    | read r =>
      obtain ⟨hw, hs, hmd, hwk, hr⟩ := (holderOK_iff hp).mp hok
      dsimp only
      exact keep hmi rfl hq (.intro hw ⟨hs, hmd, congrArg (·.set c.branch (r + 1)) hwk, hr⟩) hp (rank_lt rfl)
    | wrote r =>
      obtain ⟨hw, hs, hmd, hwk, hr⟩ := (holderOK_iff hp).mp hok
      dsimp only
      exact keep hmi rfl hq (.intro hw ⟨rfl, hmd, hwk, hr⟩) hp (rank_lt rfl)
    | toCommit ro =>
      cases c.dry with
      | true =>
        dsimp only
        rw [if_pos rfl]
        cases ro <;>
        · obtain ⟨-, hs, hmd, -⟩ := (holderOK_iff hp).mp hok
          exact keep hmi rfl hq (.intro rfl ⟨hs, hmd⟩) hp (rank_lt rfl)
      | false =>
        cases ro with
        | none =>
          obtain ⟨hw, hs, hmd, hwk⟩ := (holderOK_iff hp).mp hok
          dsimp only
          rw [if_neg Bool.false_ne_true, hwk]
          exact keep hmi rfl hq (.intro rfl ⟨hs, hmd⟩) hp (rank_lt rfl)
        | some r =>
          obtain ⟨hw, hs, hmd, hwk, hr⟩ := (holderOK_iff hp).mp hok
          dsimp only
          rw [if_neg Bool.false_ne_true, hwk, show r = σ.disk.get c.branch from hmd ▸ hr]
          exact keep hmi rfl (Q_commit c.branch hq) (.intro rfl ⟨hs, by rw [hmd], by rw [hmd]⟩) hp (rank_lt rfl)
    | cbWait r =>
      obtain ⟨hw, hs, hd, hr⟩ := (holderOK_iff hp).mp hok
      dsimp only
      rw [hs]
      exact keep hmi rfl hq (.intro hw ⟨rfl, hd, hr⟩) hp (rank_lt rfl)
    | cbLocked r =>
      obtain ⟨hw, hs, hd, hr⟩ := (holderOK_iff hp).mp hok
      dsimp only
      exact keep hmi rfl hq (.intro hw ⟨hs, hd.symm⟩) hp (rank_lt rfl)
    | cbSet r =>
      obtain ⟨hw, hs, hmd⟩ := (holderOK_iff hp).mp hok
      dsimp only
      exact keep hmi rfl hq (.intro hw ⟨rfl, hmd⟩) hp (rank_lt rfl)
    | toRelease =>
      dsimp only
      rw [hm]
      refine ⟨⟨hq, fun j _ => ?_, nofun, fun _ => (holderOK_iff hp).mp hok⟩, _, rfl, hp ▸ rank_lt rfl⟩
      by_cases hji : j = i
      · exact .inr (hji ▸ upd_same ..)
      · have := hinv.others j fun e => hji (Option.some.inj (hmi.symm.trans e)).symm
        rwa [← upd_other σ.pc i j .done hji] at this
  · -- `i` does not own the mutex: it is idle or done
    rcases hinv.others i hmi with hp | hp
    · unfold stepC
      rw [hp]
      dsimp only
      rw [hm, if_pos rfl]
      cases hmx : σ.mtx with
      | some h => exact ⟨hinv, .inl ⟨rfl, hmx ▸ hmi, nofun⟩⟩
      | none =>
        refine ⟨⟨hq, fun j hj => ?_, fun h hh => ?_, nofun⟩, .inr ⟨_, rfl, hp ▸ rank_lt rfl⟩⟩
        · have := hinv.others j (hmx ▸ nofun)
          rwa [← upd_other σ.pc i j .wantTx fun e => hj (e ▸ rfl)] at this
        · cases Option.some.inj hh
          exact ⟨c, hc, (holderOK_iff (p := .wantTx) (upd_same ..)).mpr (hinv.free hmx)⟩
    · unfold stepC; rw [hp]; exact ⟨hinv, .inl ⟨rfl, hmi, fun _ => rfl⟩⟩

theorem step_some {cs : List Caller} {i : Nat} {c : Caller} (hc : cs[i]? = some c) (σ : State) :
    step cs σ i = stepC c σ i := by
  unfold step; rw [hc]

theorem step_none {cs : List Caller} {i : Nat} (hc : cs[i]? = none) (σ : State) : step cs σ i = σ := by
  unfold step; rw [hc]

theorem inv_step {cs : List Caller} {base : Idx} {σ : State} (hall : HoldsAll cs) (hinv : Inv cs base σ)
    (i : Nat) : Inv cs base (step cs σ i) := by
  cases hc : cs[i]? with
  | none => rw [step_none hc]; exact hinv
  | some c => rw [step_some hc]; exact (inv_stepC hinv hc (hall c (List.mem_of_getElem? hc))).1

theorem inv_run {cs : List Caller} {base : Idx} (hall : HoldsAll cs) (sched : List Nat) (σ : State)
    (h : Inv cs base σ) : Inv cs base (run cs σ sched) :=
  List.foldlRecOn sched _ h fun _ h i _ => inv_step hall h i

theorem inv_exec {cs : List Caller} (hall : HoldsAll cs) (base : Idx) (sched : List Nat) :
    Inv cs base (exec cs base sched) :=
  inv_run hall sched _ (inv_init cs base)

theorem holder_lt {cs : List Caller} {c : Caller} {h : Nat} (hc : cs[h]? = some c) : h < cs.length :=
  (List.getElem?_eq_some_iff.mp hc).1

theorem mtx_free_of_done {cs : List Caller} {base : Idx} {σ : State} (hinv : Inv cs base σ) (hdone : allDone cs σ) :
    σ.mtx = none := by
  cases hmx : σ.mtx with
  | none => rfl
  | some h =>
    obtain ⟨c, hc, hok⟩ := hinv.holder h hmx
    exact ((holderOK_iff (hdone h (holder_lt hc))).mp hok).elim

theorem inv_no_deadlock {cs : List Caller} {base : Idx} {σ : State} (hall : HoldsAll cs) (hinv : Inv cs base σ)
    (hnot : ¬ allDone cs σ) : ∃ i, i < cs.length ∧ Moved σ (step cs σ i) i := by
  -- the mutex holder; with the mutex free, anybody who has not returned
  obtain ⟨i, c, hc, hgo⟩ : ∃ i c, cs[i]? = some c ∧ ¬ (σ.mtx ≠ some i ∧ (σ.mtx = none → σ.pc i = .done)) := by
    cases hmx : σ.mtx with
    | some h =>
      obtain ⟨c, hc, -⟩ := hinv.holder h hmx
      exact ⟨h, c, hc, fun hw => hw.1 rfl⟩
    | none =>
      obtain ⟨i, hi, hne⟩ : ∃ i, i < cs.length ∧ σ.pc i ≠ .done :=
        Classical.byContradiction fun hcon => hnot fun i hi =>
          Classical.byContradiction fun hne => hcon ⟨i, hi, hne⟩
      exact ⟨i, _, List.getElem?_eq_getElem hi, fun hw => hne (hw.2 rfl)⟩
  refine ⟨i, holder_lt hc, ?_⟩
  rw [step_some hc]
  exact (inv_stepC hinv hc (hall c (List.mem_of_getElem? hc))).2.resolve_left fun hw => hgo hw.2

def msum (f : Nat → Nat) : Nat → Nat
  | 0 => 0
  | n + 1 => msum f n + f n

theorem msum_le {f g : Nat → Nat} (n : Nat) (h : ∀ j, j < n → g j ≤ f j) : msum g n ≤ msum f n := by
  induction n with
  | zero => exact Nat.le_refl _
  | succ n ih => exact Nat.add_le_add (ih fun j hj => h j (Nat.lt_succ_of_lt hj)) (h n (Nat.lt_succ_self n))

theorem msum_lt {f g : Nat → Nat} {i : Nat} (n : Nat) (hi : i < n) (h : ∀ j, j < n → g j ≤ f j) (hlt : g i < f i) :
    msum g n < msum f n := by
  induction n with
  | zero => exact absurd hi (Nat.not_lt_zero i)
  | succ n ih =>
    have h' : ∀ j, j < n → g j ≤ f j := fun j hj => h j (Nat.lt_succ_of_lt hj)
    by_cases e : i = n
    · exact Nat.add_lt_add_of_le_of_lt (msum_le n h') (e ▸ hlt)
    · exact Nat.add_lt_add_of_lt_of_le (ih (Nat.lt_of_le_of_ne (Nat.le_of_lt_succ hi) e) h') (h n (Nat.lt_succ_self n))

/-- steps still to be taken, at most (12 = `rank .done`, the largest rank: `rank_le`) -/
def remaining (cs : List Caller) (σ : State) : Nat := msum (fun j => 12 - rank (σ.pc j)) cs.length

theorem Moved.remaining_lt {cs : List Caller} {σ σ' : State} {i : Nat} (hi : i < cs.length) (h : Moved σ σ' i) :
    remaining cs σ' < remaining cs σ := by
  obtain ⟨p, hpc, hlt⟩ := h
  refine msum_lt _ hi (fun j _ => Nat.sub_le_sub_left ?_ 12) ?_
  · rw [hpc]
    by_cases hj : j = i
    · subst hj; rw [upd_same]; exact Nat.le_of_lt hlt
    · rw [upd_other _ _ _ _ hj]; exact Nat.le_refl _
  · show 12 - rank (σ'.pc i) < 12 - rank (σ.pc i)
    rw [hpc, upd_same]
    have := rank_le p
    omega

theorem inv_can_complete {cs : List Caller} {base : Idx} (hall : HoldsAll cs) (m : Nat) :
    ∀ σ, Inv cs base σ → remaining cs σ ≤ m → ∃ more, allDone cs (run cs σ more) := by
  induction m with
  | zero =>
    intro σ hinv hm
    refine ⟨[], Classical.byContradiction fun hd => ?_⟩
    obtain ⟨i, hi, hne⟩ := inv_no_deadlock hall hinv hd
    exact Nat.not_lt_zero _ (Nat.lt_of_lt_of_le (hne.remaining_lt hi) hm)
  | succ m ih =>
    intro σ hinv hm
    by_cases hd : allDone cs σ
    · exact ⟨[], hd⟩
    · obtain ⟨i, hi, hne⟩ := inv_no_deadlock hall hinv hd
      obtain ⟨more, hmore⟩ := ih (step cs σ i) (inv_step hall hinv i)
        (Nat.le_of_lt_succ (Nat.lt_of_lt_of_le (hne.remaining_lt hi) hm))
      exact ⟨i :: more, hmore⟩

theorem run_append (cs : List Caller) (σ : State) (a b : List Nat) :
    run cs σ (a ++ b) = run cs (run cs σ a) b :=
  List.foldl_append

/-- `σ'` is reached from `σ` by some fine schedule -/
def Reach (cs : List Caller) (σ σ' : State) : Prop := ∃ l, σ' = run cs σ l

theorem Reach.refl (cs : List Caller) (σ : State) : Reach cs σ σ := ⟨[], rfl⟩
theorem Reach.trans {cs : List Caller} {a b c : State} (h1 : Reach cs a b) (h2 : Reach cs b c) : Reach cs a c := by
  obtain ⟨l1, e1⟩ := h1; obtain ⟨l2, e2⟩ := h2
  exact ⟨l1 ++ l2, by rw [run_append, ← e1, e2]⟩
theorem Reach.step (cs : List Caller) (σ : State) (i : Nat) : Reach cs σ (step cs σ i) := ⟨[i], rfl⟩

theorem advance_reach (cs : List Caller) : ∀ fuel σ i, Reach cs σ (advance cs fuel σ i)
  | 0, σ, _ => Reach.refl cs σ
  | fuel + 1, σ, i => by
    unfold advance
    dsimp only
    cases isPark ((step cs σ i).pc i) with
    | true => exact Reach.step cs σ i
    | false => cases (step cs σ i).pc i == σ.pc i with
      | true => exact Reach.step cs σ i
      | false => exact (Reach.step cs σ i).trans (advance_reach cs fuel _ i)

theorem settle_reach (cs : List Caller) (k : Coarse) : Reach cs k.σ (settle cs k).σ :=
  List.foldlRecOn (motive := fun k' : Coarse => Reach cs k.σ k'.σ) _ _ (Reach.refl cs _) fun k' h j _ => by
    cases k'.started j && k'.σ.pc j == .idle with
    | true => exact h.trans (advance_reach cs 16 k'.σ j)
    | false => exact h

theorem coarseStep_reach (cs : List Caller) (k : Coarse) (i : Nat) : Reach cs k.σ (coarseStep cs k i).σ := by
  unfold coarseStep
  by_cases hi : i ≥ cs.length
  · rw [if_pos hi]; exact Reach.refl cs _
  · rw [if_neg hi]
    have adv := advance_reach cs 16 k.σ i
    cases k.σ.pc i with
    | idle =>
      dsimp only
      cases k.started i with
      | true => exact settle_reach cs _
      | false =>
        cases (List.range cs.length).any (fun j => k.started j && k.σ.pc j == .idle) with
        | true => exact settle_reach cs _
        | false => exact adv.trans (settle_reach cs _)
    | wantTx =>
      dsimp only
      cases k.σ.writer.isSome with
      | true => exact settle_reach cs _
      | false => exact adv.trans (settle_reach cs _)
    | toCommit _ => exact adv.trans (settle_reach cs _)
    | cbWait _ => exact adv.trans (settle_reach cs _)
    | _ => exact settle_reach cs _

/-- from any controller state; the driver starts from the indices the previous schedule left -/
theorem coarseSteps_reach (cs : List Caller) (sched : List Nat) (k : Coarse) :
    Reach cs k.σ (sched.foldl (coarseStep cs) k).σ :=
  List.foldlRecOn (motive := fun k' : Coarse => Reach cs k.σ k'.σ) sched _ (Reach.refl cs _) fun k' h i _ =>
    h.trans (coarseStep_reach cs k' i)

end AddrIssue

