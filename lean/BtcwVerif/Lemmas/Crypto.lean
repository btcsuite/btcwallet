import BtcwVerif.Model.Crypto
/-!
Helper lemmas and the *assumption vocabulary* for C17:

* byte-level facts about `leBytes/leNat/toU64/ofU64` (little-endian uint64, Go int⇄uint64) and the 88-byte layout;
* what the modelled functions compute; the exits of `Unlock` and `ChangePassphrase`;
* the laws assumed of `secretbox` (`AEAD.Correct`, `AEAD.Binding`, `AEAD.Distance`) and of `sha256∘scrypt`
  (`KDF.Binding`);
* proofs that the toy instance of the driver satisfies `Correct`, `Binding` and `Distance` (non-vacuity).
Core Lean only.
-/
namespace Crypto

theorem leBytes_length (n v : Nat) : (leBytes n v).length = n := by
  induction n generalizing v with
  | zero => rfl
  | succ n ih => simp [leBytes, ih]

theorem leNat_leBytes (n v : Nat) : leNat (leBytes n v) = v % 256 ^ n := by
  induction n generalizing v with
  | zero => simp [leBytes, leNat, Nat.mod_one]
  | succ n ih =>
    show (UInt8.ofNat v).toNat + 256 * leNat (leBytes n (v / 256)) = v % 256 ^ (n + 1)
    have e : 256 ^ (n + 1) = 256 * 256 ^ n := by rw [Nat.pow_succ, Nat.mul_comm]
    rw [ih, UInt8.toNat_ofNat', e, Nat.mod_mul]

theorem leNat_lt (b : Bytes) : leNat b < 256 ^ b.length := by
  induction b with
  | nil => simp [leNat]
  | cons x xs ih =>
    simp only [leNat, List.length_cons, Nat.pow_succ]
    have := UInt8.toNat_lt x
    omega

theorem leBytes_leNat (b : Bytes) : leBytes b.length (leNat b) = b := by
  induction b with
  | nil => rfl
  | cons x xs ih =>
    have hx := UInt8.toNat_lt x
    have h1 : (x.toNat + 256 * leNat xs) / 256 = leNat xs := by
      rw [Nat.add_mul_div_left _ _ (by decide), Nat.div_eq_of_lt hx, Nat.zero_add]
    have h2 : UInt8.ofNat (x.toNat + 256 * leNat xs) = x := by
      apply UInt8.toNat_inj.mp
      rw [UInt8.toNat_ofNat', Nat.add_mul_mod_self_left, Nat.mod_eq_of_lt hx]
    simp only [List.length_cons, leBytes, leNat, h1, h2, ih]

theorem two64_eq : two64 = 256 ^ 8 := by decide

theorem toU64_lt (i : Int) : toU64 i < two64 := by
  unfold toU64 two64
  omega

theorem ofU64_toU64 (i : Int) (lo : -(two63 : Int) ≤ i) (hi : i < (two63 : Int)) : ofU64 (toU64 i) = i := by
  unfold ofU64 toU64 two63 two64 at *
  omega

theorem toU64_ofU64 (n : Nat) (h : n < two64) : toU64 (ofU64 n) = n := by
  unfold ofU64 toU64 two63 two64 at *
  omega

theorem ofU64_range (n : Nat) (h : n < two64) : -(two63 : Int) ≤ ofU64 n ∧ ofU64 n < (two63 : Int) := by
  unfold ofU64 two63 two64 at *
  omega

theorem leNat_lt_two64 (b : Bytes) (h : b.length = 8) : leNat b < two64 := by
  rw [two64_eq, ← h]
  exact leNat_lt b

theorem field_roundtrip (i : Int) (lo : -(two63 : Int) ≤ i) (hi : i < (two63 : Int)) :
    ofU64 (leNat (leBytes 8 (toU64 i))) = i := by
  rw [leNat_leBytes, ← two64_eq, Nat.mod_eq_of_lt (toU64_lt i), ofU64_toU64 i lo hi]

theorem field_roundtrip' (b : Bytes) (h : b.length = 8) : leBytes 8 (toU64 (ofU64 (leNat b))) = b := by
  rw [toU64_ofU64 _ (leNat_lt_two64 b h), ← h, leBytes_leNat]

/-! ## the 88-byte layout `salt(32) ‖ digest(32) ‖ N(8) ‖ R(8) ‖ P(8)` -/

theorem unmarshal_append (s d n r q : Bytes) (hs : s.length = 32) (hd : d.length = 32) (hn : n.length = 8)
    (hr : r.length = 8) (hq : q.length = 8) :
    unmarshal (s ++ d ++ n ++ r ++ q) = .ok ⟨s, d, ofU64 (leNat n), ofU64 (leNat r), ofU64 (leNat q)⟩ := by
  simp [unmarshal, marshalledLen, keySize, digestSize, List.drop_append, List.drop_eq_nil_of_le,
    List.take_of_length_le, hs, hd, hn, hr, hq]

/-- An 88-byte string is five fields of these widths, so `unmarshal_append` speaks of every input `unmarshal` accepts. -/
theorem split_fields (b : Bytes) (h : b.length = 88) :
    ∃ s d n r q, b = s ++ d ++ n ++ r ++ q ∧ s.length = 32 ∧ d.length = 32 ∧ n.length = 8 ∧ r.length = 8 ∧
      q.length = 8 := by
  have cut : ∀ (l : Bytes) w k, l.length = w + k → ∃ s t, l = s ++ t ∧ s.length = w ∧ t.length = k :=
    fun l w k hl => ⟨l.take w, l.drop w, (List.take_append_drop w l).symm, by simp [hl], by simp [hl]⟩
  obtain ⟨s, t, rfl, hs, ht⟩ := cut b 32 56 h
  obtain ⟨d, t, rfl, hd, ht⟩ := cut t 32 24 ht
  obtain ⟨n, t, rfl, hn, ht⟩ := cut t 8 16 ht
  obtain ⟨r, q, rfl, hr, hq⟩ := cut t 8 8 ht
  exact ⟨s, d, n, r, q, by simp only [List.append_assoc], hs, hd, hn, hr, hq⟩

theorem decrypt_of_le (A : AEAD) (k c : Bytes) (h : nonceSize ≤ c.length) :
    decrypt A k c = match A.openF k (c.take nonceSize) (c.drop nonceSize) with
      | some m => .ok m
      | none => .error .decryptFailed :=
  if_neg (Nat.not_lt.mpr h)

theorem deriveKey_of_check (K : KDF) (sk : SecretKey) (pass : Bytes)
    (hc : scryptCheck sk.params.N sk.params.R sk.params.P = .ok) :
    sk.deriveKey K pass =
      ({ sk with key := K.kdf (hmacBlock K.hash pass) sk.params.salt sk.params.N sk.params.R sk.params.P },
        if K.hash (K.kdf (hmacBlock K.hash pass) sk.params.salt sk.params.N sk.params.R sk.params.P)
            = sk.params.digest then .ok () else .error .invalidPassword) := by
  simp only [SecretKey.deriveKey, SecretKey.deriveKeyRaw, hc]
  split <;> rfl

theorem newSecretKey_ok (K : KDF) (salt pass : Bytes) (N R P : Int) (sk : SecretKey)
    (h : newSecretKey K salt pass N R P = .ok sk) :
    scryptCheck N R P = .ok ∧
    sk = { key := K.kdf (hmacBlock K.hash pass) salt N R P,
           params := { salt := salt, digest := K.hash (K.kdf (hmacBlock K.hash pass) salt N R P), N := N, R := R, P := P } } := by
  unfold newSecretKey SecretKey.deriveKeyRaw at h
  cases hc : scryptCheck N R P <;> simp [hc] at h
  exact ⟨rfl, h.symm⟩

theorem rederive (K : KDF) (salt pass pass' : Bytes) (N R P : Int) (sk : SecretKey)
    (h : newSecretKey K salt pass N R P = .ok sk) (hb : hmacBlock K.hash pass' = hmacBlock K.hash pass) :
    sk.zero.deriveKey K pass' = (sk, .ok ()) := by
  obtain ⟨hc, hsk⟩ := newSecretKey_ok K salt pass N R P sk h
  have hc' : scryptCheck sk.zero.params.N sk.zero.params.R sk.zero.params.P = .ok := by rw [hsk]; exact hc
  rw [deriveKey_of_check K sk.zero pass' hc', hb]
  subst hsk
  exact Prod.ext rfl (if_pos rfl)

theorem hmacBlock_short (hash : Bytes → Bytes) (pass : Bytes) (h : pass.length ≤ hmacBlockSize) :
    hmacBlock hash pass = pass ++ List.replicate (hmacBlockSize - pass.length) 0 := by
  unfold hmacBlock
  rw [if_neg (Nat.not_lt.mpr h)]

theorem hmacBlock_trailing_nul (hash : Bytes → Bytes) (pass : Bytes) (h : pass.length < hmacBlockSize) :
    hmacBlock hash (pass ++ [0]) = hmacBlock hash pass := by
  have hl : (pass ++ [0]).length = pass.length + 1 := List.length_append
  have e : hmacBlockSize - (pass.length + 1) + 1 = hmacBlockSize - pass.length := by omega
  -- the NUL byte is the first byte of the zero padding
  rw [hmacBlock_short _ _ (Nat.le_of_lt h), hmacBlock_short _ _ (hl ▸ h), hl, List.append_assoc,
    List.singleton_append, ← List.replicate_succ, e]

theorem Mgr.encrypt_of_select {A : AEAD} {m : Mgr} {kt : Nat} {k : Bytes} (hk : m.selectCryptoKey kt = .ok k)
    (n x : Bytes) : m.encrypt A kt n x = .ok (encryptWith A n k x) := by
  simp only [Mgr.encrypt, hk]

theorem Mgr.encrypt_script (A : AEAD) (m : Mgr) (hl : m.locked = false) (hw : m.watchOnly = false) (n x : Bytes) :
    m.encrypt A 1 n x = .ok (encryptWith A n m.cryptoKeyScript x) :=
  Mgr.encrypt_of_select (by simp [Mgr.selectCryptoKey, hl, hw]) n x

theorem Mgr.unlock_cases (A : AEAD) (K : KDF) (m : Mgr) (pass : Bytes) (hw : m.watchOnly = false)
    {res : Mgr × Except MgrErr Unit} (h : m.unlock A K pass = res) :
    (∃ m0 e, res = (Mgr.lock m0, .error e)) ∨ (m.locked = false ∧ res = (m, .ok ())) ∨
      (m.locked = true ∧ ∃ sk k ks, m.masterKeyPriv.deriveKey K pass = (sk, .ok ()) ∧
        sk.decrypt A m.cryptoKeyPrivEncrypted = .ok k ∧ sk.decrypt A m.cryptoKeyScriptEncrypted = .ok ks ∧
        res = ({ m with masterKeyPriv := sk, cryptoKeyPriv := k, cryptoKeyScript := ks, locked := false,
                        privPass := some pass }, .ok ())) := by
  unfold Mgr.unlock at h
  rw [if_neg (by simp [hw])] at h
  cases hl : m.locked
  · rw [hl] at h
    by_cases hp : m.privPass = some pass
    · exact Or.inr (Or.inl ⟨rfl, (if_pos hp ▸ h).symm⟩)
    · exact Or.inl ⟨_, _, (if_neg hp ▸ h).symm⟩
  rw [hl] at h
  dsimp only [Bool.not_true, Bool.false_eq_true, if_false] at h
  generalize hd : m.masterKeyPriv.deriveKey K pass = r1 at h
  obtain ⟨sk, e | ⟨⟩⟩ := r1
  · cases e <;> exact Or.inl ⟨_, _, h.symm⟩
  dsimp only at h
  generalize hk : sk.decrypt A m.cryptoKeyPrivEncrypted = r2 at h
  obtain e | k := r2
  · exact Or.inl ⟨_, _, h.symm⟩
  generalize hks : sk.decrypt A m.cryptoKeyScriptEncrypted = r3 at h
  obtain e | ks := r3
  · exact Or.inl ⟨_, _, h.symm⟩
  exact Or.inr (Or.inr ⟨rfl, sk, k, ks, rfl, hk, hks, h.symm⟩)

theorem Mgr.changePassphrase_cases (A : AEAD) (K : KDF) (m : Mgr) (d : MgrDisk) (r : ChangeRand)
    (old new : Bytes) (priv : Bool) (N R P : Int) {res : Mgr × MgrDisk × Except MgrErr Unit}
    (h : m.changePassphrase A K d r old new priv N R P = res) :
    (∃ e, res = (m, d, .error e)) ∨
      (res.2.2 = .ok () ∧ (priv = true → res.1.privPass = (if m.locked then none else some new) ∧
          res.1.locked = m.locked ∧ res.1.watchOnly = false)) := by
  unfold Mgr.changePassphrase at h
  by_cases hw : (priv && m.watchOnly) = true
  · exact Or.inl ⟨_, (if_pos hw ▸ h).symm⟩
  rw [if_neg hw] at h
  dsimp only at h
  generalize SecretKey.deriveKey K _ old = r1 at h
  obtain ⟨sk, e | ⟨⟩⟩ := r1
  · cases e <;> exact Or.inl ⟨_, h.symm⟩
  generalize newSecretKey K r.salt new N R P = r2 at h
  obtain e | nm := r2
  · exact Or.inl ⟨_, h.symm⟩
  cases priv
  · exact Or.inr ⟨h ▸ rfl, nofun⟩
  dsimp only at h
  generalize sk.decrypt A m.cryptoKeyPrivEncrypted = r3 at h
  obtain e | k := r3
  · exact Or.inl ⟨_, h.symm⟩
  generalize sk.decrypt A m.cryptoKeyScriptEncrypted = r4 at h
  obtain e | ks := r4
  · exact Or.inl ⟨_, h.symm⟩
  subst h
  exact Or.inr ⟨rfl, fun _ => ⟨rfl, rfl, by simpa using hw⟩⟩

theorem Interleave.perm {α : Type} {threads : List (List α)} {out : List α} (h : Interleave threads out) :
    out.Perm threads.flatten := by
  induction h with
  | done threads hall => rw [List.flatten_eq_nil_iff.mpr hall]
  | step threads i x tl rest hi hint ih =>
    refine (List.Perm.cons x ih).trans ?_
    clear ih hint
    induction threads generalizing i with
    | nil => simp at hi
    | cons t ts iht =>
      cases i with
      | zero =>
        simp only [List.getElem?_cons_zero, Option.some.injEq] at hi
        subst hi
        simp
      | succ j =>
        simp only [List.getElem?_cons_succ] at hi
        simp only [List.set_cons_succ, List.flatten_cons]
        exact (List.perm_middle.symm).trans (List.Perm.append_left t (iht j hi))

/-! ## Statement vocabulary of C17: the laws assumed of `secretbox` and of `sha256 ∘ scrypt`, and the tampering relations -/

/-- Functional laws. These hold of the real `secretbox` by construction (Open recomputes the Poly1305 tag of the
box body and compares it; the tag function is deterministic) — no cryptographic assumption is involved. -/
structure AEAD.Correct (A : AEAD) : Prop where
  open_seal : ∀ k n m, A.openF k n (A.sealF k n m) = some m
  /-- the only boxes that open under (k, n) are outputs of Seal under (k, n) -/
  open_sound : ∀ k n b m, A.openF k n b = some m → b = A.sealF k n m
  /-- `len(box) = len(msg) + Overhead` -/
  seal_length : ∀ k n m, (A.sealF k n m).length = m.length + overhead

/-- Key binding (idealised): under one nonce, boxes sealed under distinct keys of the class `K` never coincide.
Cannot hold for all 2^256 keys with a 16-byte tag (pigeonhole); it is the cryptographic assumption "infeasible
to find", stated for the keys in use. -/
def AEAD.Binding (A : AEAD) (K : Bytes → Prop) : Prop :=
  ∀ k k' n m m', K k → K k' → A.sealF k n m = A.sealF k' n m' → k = k'

def isBitFlip (c c' : Bytes) : Prop := ∃ i, i < 8 * c.length ∧ c' = flipBit c i

def isTruncation (c c' : Bytes) : Prop := ∃ j, j < c.length ∧ c' = c.take j

/-- Go slice lengths are below 2^63. -/
def maxLen : Nat := 9223372036854775808

/-- Unforgeability restricted to what C17 quantifies over (idealised): two *different* genuine ciphertexts under
the same key are never one bit flip apart and never a truncation of one another; i.e. flipping a bit of / truncating
a genuine ciphertext never yields another genuine ciphertext. -/
def AEAD.Distance (A : AEAD) (k : Bytes) : Prop :=
  ∀ n m n' m', n.length = nonceSize → n'.length = nonceSize → m.length < maxLen → m'.length < maxLen →
    encryptWith A n' k m' ≠ encryptWith A n k m →
      ¬ isBitFlip (encryptWith A n k m) (encryptWith A n' k m') ∧
      ¬ isTruncation (encryptWith A n k m) (encryptWith A n' k m')

/-- Collision resistance of `sha256 ∘ scrypt` on a class `B` of HMAC key blocks (idealised; cannot hold on all
byte strings). -/
def KDF.Binding (K : KDF) (salt : Bytes) (N R P : Int) (B : Bytes → Prop) : Prop :=
  ∀ b b', B b → B b' → K.hash (K.kdf b salt N R P) = K.hash (K.kdf b' salt N R P) → b = b'

theorem flipBit_length (c : Bytes) (i : Nat) : (flipBit c i).length = c.length := by
  simp [flipBit]

theorem flipMask_ne_zero (i : Nat) : ((1 : UInt8) <<< UInt8.ofNat (i % 8)) ≠ 0 :=
  (by decide : ∀ s : Fin 8, ((1 : UInt8) <<< UInt8.ofNat s.val) ≠ 0) ⟨i % 8, Nat.mod_lt _ (by decide)⟩

theorem xor_ne_self (b x : UInt8) (hx : x ≠ 0) : b ^^^ x ≠ b :=
  fun h => hx ((UInt8.xor_right_inj b).mp (h.trans UInt8.xor_zero.symm))

theorem flipBit_ne (c : Bytes) (i : Nat) (h : i < 8 * c.length) : flipBit c i ≠ c := by
  intro heq
  have hi : i / 8 < c.length := Nat.div_lt_of_lt_mul h
  have h1 : (flipBit c i)[i / 8]? = c[i / 8]? := by rw [heq]
  rw [flipBit, List.getElem?_modify_eq, List.getElem?_eq_getElem hi] at h1
  exact xor_ne_self _ _ (flipMask_ne_zero i) (Option.some.inj h1)

theorem modify_append {α} (f : α → α) (l₁ l₂ : List α) (i : Nat) :
    (l₁ ++ l₂).modify i f =
      if i < l₁.length then l₁.modify i f ++ l₂ else l₁ ++ l₂.modify (i - l₁.length) f := by
  induction l₁ generalizing i with
  | nil => simp
  | cons x xs ih =>
    cases i with
    | zero => simp
    | succ i =>
      simp only [List.cons_append, List.modify_succ_cons, ih, List.length_cons, Nat.succ_lt_succ_iff,
        Nat.succ_sub_succ]
      split <;> rfl

theorem modify_append_cases {α} (f : α → α) {l₁ l₂ l₁' l₂' : List α} {i : Nat}
    (h : l₁' ++ l₂' = (l₁ ++ l₂).modify i f) (hl : l₁'.length = l₁.length) :
    (i < l₁.length ∧ l₁' = l₁.modify i f ∧ l₂' = l₂) ∨
      (l₁.length ≤ i ∧ l₁' = l₁ ∧ l₂' = l₂.modify (i - l₁.length) f) := by
  rw [modify_append] at h
  split at h
  · next hi => exact Or.inl ⟨hi, List.append_inj h (by simpa using hl)⟩
  · next hi => exact Or.inr ⟨Nat.le_of_not_lt hi, List.append_inj h hl⟩

theorem nil_of_zeros {a a' : Bytes} (hz : (a ++ a').getLast? ≠ some 0) (h0 : ∀ e ∈ a', e = 0) : a' = [] := by
  cases a' with
  | nil => rfl
  | cons e es =>
    have hne : e :: es ≠ [] := List.cons_ne_nil _ _
    rw [List.getLast?_append, List.getLast?_eq_some_getLast hne, Option.some_or, h0 _ (List.getLast_mem hne)] at hz
    exact absurd rfl hz

theorem pad_inj (a b : Bytes) (x y : Nat) (h : a ++ List.replicate x (0:UInt8) = b ++ List.replicate y 0)
    (hza : a.getLast? ≠ some 0) (hzb : b.getLast? ≠ some 0) : a = b := by
  rcases List.append_eq_append_iff.mp h with ⟨a', rfl, hr⟩ | ⟨b', rfl, hr⟩
  · rw [nil_of_zeros hzb fun e he => (List.mem_replicate.mp (hr ▸ List.mem_append_left _ he)).2, List.append_nil]
  · rw [nil_of_zeros hza fun e he => (List.mem_replicate.mp (hr ▸ List.mem_append_left _ he)).2, List.append_nil]

namespace Toy

theorem xorBytes_length (a b : Bytes) : (xorBytes a b).length = min a.length b.length := by
  simp [xorBytes]

theorem xorBytes_comm (a b : Bytes) : xorBytes a b = xorBytes b a :=
  List.zipWith_comm_of_comm UInt8.xor_comm

theorem xorBytes_invol (m s : Bytes) (h : m.length ≤ s.length) : xorBytes (xorBytes m s) s = m := by
  induction m generalizing s with
  | nil => simp [xorBytes]
  | cons x xs ih =>
    cases s with
    | nil => simp at h
    | cons y ys =>
      simp only [xorBytes, List.zipWith_cons_cons, List.cons.injEq]
      exact ⟨by rw [UInt8.xor_assoc, UInt8.xor_self, UInt8.xor_zero], ih ys (by simpa using h)⟩

theorem xorBytes_cancel (a b c : Bytes) (ha : a.length ≤ c.length) (hb : b.length ≤ c.length)
    (h : xorBytes a c = xorBytes b c) : a = b := by
  rw [← xorBytes_invol a c ha, ← xorBytes_invol b c hb, h]

section
-- explicit arguments, in this order, of the lemmas of this section whose statement mentions them
variable (k n body m : Bytes)

theorem stream_length (len : Nat) : (stream k n len).length = len := by
  simp [stream]

theorem keyPart_length : (keyPart k).length = overhead := by
  simp [keyPart, overhead]

theorem check_length : (check n body).length = overhead := by
  simp [check, leBytes_length, overhead]

theorem tag_length : (tag k n body).length = overhead := by
  simp [tag, xorBytes_length, keyPart_length, check_length]

theorem body_length : (xorBytes m (stream k n m.length)).length = m.length := by
  simp [xorBytes_length, stream_length]

theorem body_invol : xorBytes (xorBytes m (stream k n m.length)) (stream k n m.length) = m :=
  xorBytes_invol m _ (Nat.le_of_eq (stream_length k n _).symm)

theorem openB_append (t : Bytes) (ht : t.length = overhead) :
    openB k n (t ++ body) =
      if t = tag k n body then some (xorBytes body (stream k n body.length)) else none := by
  unfold openB
  rw [if_neg (by simp [ht]), List.take_left' ht, List.drop_left' ht]

end

theorem aead_correct : aead.Correct where
  open_seal := by
    intro k n m
    show openB k n (tag k n _ ++ _) = some m
    rw [openB_append _ _ _ _ (tag_length ..), if_pos rfl, body_length, body_invol]
  open_sound := by
    intro k n b m h
    show b = tag k n _ ++ _
    change openB k n b = some m at h
    by_cases hlen : b.length < overhead
    · simp [openB, hlen] at h
    · rw [← List.take_append_drop overhead b, openB_append _ _ _ _ (by simp; omega)] at h
      split at h
      · next htag =>
        cases h
        rw [body_length, body_invol, ← htag, List.take_append_drop]
      · cases h
  seal_length := by
    intro k n m
    show (tag k n _ ++ _).length = m.length + overhead
    rw [List.length_append, tag_length, body_length, Nat.add_comm]

theorem keyPart_of_good (k : Bytes) (h : GoodKey k) : k = keyPart k ++ List.replicate overhead 0 := by
  obtain ⟨hl, hz⟩ := h
  have : keyPart k = k.take overhead := by
    unfold keyPart
    rw [List.take_append_of_le_length (by simp [hl, keySize, overhead])]
  rw [this, ← hz, List.take_append_drop]

theorem aead_binding : aead.Binding GoodKey := by
  intro k k' n m m' hk hk' h
  change tag k n _ ++ _ = tag k' n _ ++ _ at h
  obtain ⟨ht, hb⟩ := List.append_inj h ((tag_length ..).trans (tag_length ..).symm)
  rw [hb] at ht
  have := xorBytes_cancel _ _ _ (by simp [keyPart_length, check_length]) (by simp [keyPart_length, check_length]) ht
  rw [keyPart_of_good k hk, keyPart_of_good k' hk', this]

theorem good_of_append (a : Bytes) (h : a.length = overhead) : GoodKey (a ++ List.replicate overhead 0) :=
  ⟨by simp [h, keySize, overhead], by rw [List.drop_left' h]⟩

theorem keyOfId_good (i : Nat) : GoodKey (keyOfId i) :=
  good_of_append _ (by simp [leBytes_length, overhead])

theorem zeroKey_good : GoodKey zeroKey := by
  constructor <;> decide

theorem kdf_good (b s : Bytes) (N R P : Int) : GoodKey (kdf b s N R P) :=
  good_of_append _ (leBytes_length ..)

theorem foldl_xor_acc (acc : UInt8) (l : Bytes) : l.foldl (· ^^^ ·) acc = acc ^^^ l.foldl (· ^^^ ·) 0 := by
  induction l generalizing acc with
  | nil => simp
  | cons x xs ih =>
    simp only [List.foldl_cons]
    rw [ih (acc ^^^ x), ih (0 ^^^ x), UInt8.zero_xor, UInt8.xor_assoc]

theorem parity_append (a b : Bytes) : parity (a ++ b) = parity a ^^^ parity b := by
  unfold parity
  rw [List.foldl_append, foldl_xor_acc]

theorem parity_cons (x : UInt8) (l : Bytes) : parity (x :: l) = x ^^^ parity l := by
  unfold parity
  rw [List.foldl_cons, foldl_xor_acc, UInt8.zero_xor]

theorem parity_modify (l : Bytes) (i : Nat) (x : UInt8) (h : i < l.length) :
    parity (l.modify i (· ^^^ x)) = parity l ^^^ x := by
  induction l generalizing i with
  | nil => simp at h
  | cons y ys ih =>
    cases i with
    | zero =>
      simp only [List.modify_zero_cons, parity_cons]
      rw [UInt8.xor_assoc, UInt8.xor_comm x, ← UInt8.xor_assoc]
    | succ i =>
      simp only [List.modify_succ_cons, parity_cons]
      rw [ih i (by simpa using h), UInt8.xor_assoc]

theorem xor_right_ne (a x : UInt8) (hx : x ≠ 0) : a ^^^ x ≠ a := xor_ne_self a x hx

theorem tag_eq (k n b n' b' : Bytes) (h : tag k n b = tag k n' b') :
    leBytes 8 b.length = leBytes 8 b'.length ∧ parity (n ++ b) = parity (n' ++ b') := by
  unfold tag at h
  rw [xorBytes_comm, xorBytes_comm (keyPart k)] at h
  have h := xorBytes_cancel _ _ _ (by simp [keyPart_length, check_length]) (by simp [keyPart_length, check_length]) h
  unfold check at h
  simp only [List.append_assoc] at h
  obtain ⟨h1, h2⟩ := List.append_inj h (by simp [leBytes_length])
  exact ⟨h1, (List.cons.inj h2).1⟩

theorem enc_eq (k n m : Bytes) :
    encryptWith aead n k m = n ++ (tag k n (xorBytes m (stream k n m.length)) ++ xorBytes m (stream k n m.length)) := rfl

theorem aead_distance (k : Bytes) : aead.Distance k := by
  intro n m n' m' hn hn' hm hm' hne
  rw [enc_eq, enc_eq] at *
  generalize hb : xorBytes m (stream k n m.length) = b at *
  generalize hb' : xorBytes m' (stream k n' m'.length) = b' at *
  replace hm : b.length < 256 ^ 8 := Nat.lt_trans (hb ▸ (body_length k n m).symm ▸ hm) (by decide)
  replace hm' : b'.length < 256 ^ 8 := Nat.lt_trans (hb' ▸ (body_length k n' m').symm ▸ hm') (by decide)
  have hnn : n'.length = n.length := hn'.trans hn.symm
  have htl : (tag k n' b').length = (tag k n b).length := (tag_length ..).trans (tag_length ..).symm
  constructor
  · rintro ⟨i, hi, he⟩
    have hx0 := flipMask_ne_zero i
    have hidx : i / 8 < (n ++ (tag k n b ++ b)).length := Nat.div_lt_of_lt_mul hi
    unfold flipBit at he
    generalize (1 : UInt8) <<< UInt8.ofNat (i % 8) = x at he hx0
    generalize i / 8 = idx at he hidx
    rcases modify_append_cases _ he hnn with ⟨h1, rfl, e2⟩ | ⟨h1, rfl, e2⟩
    · -- in the nonce: the check value's parity byte changes
      obtain ⟨e3, rfl⟩ := List.append_inj e2 htl
      have := (tag_eq _ _ _ _ _ e3).2
      rw [parity_append, parity_append, parity_modify _ _ _ h1, UInt8.xor_left_inj] at this
      exact xor_ne_self _ _ hx0 this
    · rcases modify_append_cases _ e2 htl with ⟨h2, _, rfl⟩ | ⟨h2, e3, rfl⟩
      · exact hne rfl
      · have := (tag_eq _ _ _ _ _ e3).2
        simp only [List.length_append] at hidx
        rw [parity_append, parity_append,
          parity_modify _ _ _ (Nat.sub_lt_left_of_lt_add h2 (Nat.sub_lt_left_of_lt_add h1 hidx)),
          UInt8.xor_right_inj] at this
        exact xor_ne_self _ _ hx0 this
  · -- truncations: the tag fixes the body length
    rintro ⟨j, hj, he⟩
    have hpre : n' ++ (tag k n' b' ++ (b' ++ (n ++ (tag k n b ++ b)).drop j)) = n ++ (tag k n b ++ b) := by
      rw [← List.append_assoc (tag ..), ← List.append_assoc, he, List.take_append_drop]
    have hl : (n' ++ (tag k n' b' ++ b')).length = j := he ▸ List.length_take_of_le (Nat.le_of_lt hj)
    obtain ⟨rfl, e2⟩ := List.append_inj hpre hnn
    obtain ⟨e3, _⟩ := List.append_inj e2 htl
    have hh := congrArg leNat (tag_eq _ _ _ _ _ e3).1
    rw [leNat_leBytes, leNat_leBytes, Nat.mod_eq_of_lt hm, Nat.mod_eq_of_lt hm'] at hh
    simp only [List.length_append, htl, hh] at hl hj
    omega

end Toy
end Crypto
