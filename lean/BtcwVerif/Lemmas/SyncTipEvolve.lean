/-
C15: the invariant `Inv` is preserved by every valid backend evolution step, and the `notifyAttachedBlock` /
`notifyDetachedBlock` calls made on the way replay that step (`step_preserves_inv`, `run_preserves_inv`: one walk for
both), and which heights stay remembered (`lo_bounds`, `remembered_range`).  The readings — tip, hashes, no record off the
best chain — are Props/C15.lean.

`Inv` (SyncTipDefs) is read in parts, each what one group of handlers looks at.  `CatchInv`: the remembered hashes and
the synced-to stamp, all that `PutSyncedTo` reads.  `StoppedInv` = `CatchInv` + the mined records: connects and
transaction notifications, which never read `chainSynced`.  `SyncInv` = `CatchInv` + `chainSynced`: what
`disconnectBlock` reads before it touches the records.  `Inv` = `StoppedInv` + `chainSynced`.  The four are flat
structures with the same field names; the conversions below are the only place where that is spelt out.
-/
import BtcwVerif.Lemmas.SyncTipDefs
namespace SyncTip

theorem ancestorAt_self (b : BlockId) : ancestorAt b b.length = b := by
  simp [ancestorAt]

theorem ancestorAt_length (b : BlockId) (h : Nat) (hh : h ≤ b.length) : (ancestorAt b h).length = h := by
  unfold ancestorAt
  rw [List.length_drop]; omega

theorem ancestorAt_drop (b : BlockId) (d h : Nat) (hh : h + d ≤ b.length) :
    ancestorAt (b.drop d) h = ancestorAt b h := by
  unfold ancestorAt
  rw [List.drop_drop, List.length_drop]
  congr 1; omega

theorem ancestorAt_cons (n : Nat) (b : BlockId) (h : Nat) (hh : h ≤ b.length) :
    ancestorAt (n :: b) h = ancestorAt b h :=
  (ancestorAt_drop (n :: b) 1 h (Nat.succ_le_succ hh)).symm

theorem ancestorAt_append (a b : BlockId) (h : Nat) (hh : h ≤ b.length) :
    ancestorAt (a ++ b) h = ancestorAt b h := by
  have := ancestorAt_drop (a ++ b) a.length h (by rw [List.length_append]; omega)
  rwa [List.drop_left, eq_comm] at this

theorem ancestorAt_ancestorAt (b : BlockId) (h k : Nat) (hk : k ≤ h) (hh : h ≤ b.length) :
    ancestorAt (ancestorAt b h) k = ancestorAt b k :=
  ancestorAt_drop b (b.length - h) k (by omega)

theorem same_hash_same_below (a b : BlockId) (h k : Nat) (hk : k ≤ h) (ha : h ≤ a.length) (hb : h ≤ b.length)
    (e : ancestorAt a h = ancestorAt b h) : ancestorAt a k = ancestorAt b k := by
  rw [← ancestorAt_ancestorAt a h k hk ha, ← ancestorAt_ancestorAt b h k hk hb, e]

theorem ancestorAt_succ (tip : BlockId) (h : Nat) (hh : h < tip.length) :
    ∃ n, ancestorAt tip (h + 1) = n :: ancestorAt tip h := by
  unfold ancestorAt
  have e : tip.length - h = (tip.length - (h + 1)) + 1 := by omega
  rw [e]
  exact ⟨tip[tip.length - (h + 1)]'(by omega), List.drop_eq_getElem_cons (by omega)⟩

theorem getBlockHash_of_le {tip : BlockId} {h : Nat} (hh : h ≤ tip.length) :
    getBlockHash tip h = some (ancestorAt tip h) := if_pos hh

theorem getBlockHash_some {tip : BlockId} {h : Nat} {ch : BlockId} (e : getBlockHash tip h = some ch) :
    h ≤ tip.length ∧ ch = ancestorAt tip h := by
  unfold getBlockHash at e
  split at e
  · exact ⟨by assumption, (Option.some.inj e).symm⟩
  · cases e

theorem stampOf_ancestorAt (C : Content) {tip : BlockId} {h : Nat} (hh : h ≤ tip.length) :
    stampOf C (ancestorAt tip h) = ⟨h, some (ancestorAt tip h), C.time (ancestorAt tip h)⟩ := by
  rw [stampOf, ancestorAt_length tip h hh]

/-- What `MinedOn` asks of the block of each record, and what `replayEv` tests of a detached block. -/
def OnChain (b c : BlockId) : Prop := b.length ≤ c.length ∧ ancestorAt c b.length = b

theorem onChain_ancestorAt (c : BlockId) (h : Nat) (hh : h ≤ c.length) : OnChain (ancestorAt c h) c := by
  unfold OnChain
  rw [ancestorAt_length c h hh]
  exact ⟨hh, rfl⟩

/-! Statement vocabulary of Props/C15.lean from here on: the parts of `Inv`, `setSynced`, `putOk`. -/

/-- The part of `Inv` about the synced-to stamp and the remembered hashes: what holds while the wallet is catching up. -/
structure CatchInv (cfg : Cfg) (w : Wallet) (c : BlockId) (lo : Nat) : Prop where
  bday       : w.birthdaySet = true
  tipEq      : w.syncedTo = stampOf cfg.C c
  lo_le      : lo ≤ c.length
  window     : c.length < lo + cfg.W ∨ (lo = 0 ∧ c.length ≤ cfg.W)
  remembered : ∀ h, lo ≤ h → h ≤ c.length → w.hashes h = some (some (ancestorAt c h))
  correct    : ∀ h x, h ≤ c.length → w.hashes h = some x → x = some (ancestorAt c h)

/-- `Inv` without `chainSynced`: what connects and transaction notifications need and keep, on a running wallet as on one
    that was stopped while in sync with `old` (whence the name). -/
structure StoppedInv (cfg : Cfg) (w : Wallet) (old : BlockId) (lo : Nat) : Prop where
  bday       : w.birthdaySet = true
  tipEq      : w.syncedTo = stampOf cfg.C old
  lo_le      : lo ≤ old.length
  window     : old.length < lo + cfg.W ∨ (lo = 0 ∧ old.length ≤ cfg.W)
  remembered : ∀ h, lo ≤ h → h ≤ old.length → w.hashes h = some (some (ancestorAt old h))
  correct    : ∀ h x, h ≤ old.length → w.hashes h = some x → x = some (ancestorAt old h)
  mined      : MinedOn w old

/-- `Inv` without the records: what `disconnectBlock` reads before it calls `Rollback`. -/
structure SyncInv (cfg : Cfg) (w : Wallet) (tip : BlockId) (lo : Nat) : Prop where
  synced     : w.chainSynced = true
  bday       : w.birthdaySet = true
  tipEq      : w.syncedTo = stampOf cfg.C tip
  lo_le      : lo ≤ tip.length
  window     : tip.length < lo + cfg.W ∨ (lo = 0 ∧ tip.length ≤ cfg.W)
  remembered : ∀ h, lo ≤ h → h ≤ tip.length → w.hashes h = some (some (ancestorAt tip h))
  correct    : ∀ h x, h ≤ tip.length → w.hashes h = some x → x = some (ancestorAt tip h)

theorem Inv.stopped {cfg w old lo} (h : Inv cfg w old lo) : StoppedInv cfg w old lo :=
  ⟨h.bday, h.tipEq, h.lo_le, h.window, h.remembered, h.correct, h.mined⟩

theorem Inv.sync {cfg w tip lo} (h : Inv cfg w tip lo) : SyncInv cfg w tip lo :=
  ⟨h.synced, h.bday, h.tipEq, h.lo_le, h.window, h.remembered, h.correct⟩

theorem SyncInv.catch {cfg w tip lo} (h : SyncInv cfg w tip lo) : CatchInv cfg w tip lo :=
  ⟨h.bday, h.tipEq, h.lo_le, h.window, h.remembered, h.correct⟩

theorem StoppedInv.catch {cfg w old lo} (h : StoppedInv cfg w old lo) : CatchInv cfg w old lo :=
  ⟨h.bday, h.tipEq, h.lo_le, h.window, h.remembered, h.correct⟩

theorem CatchInv.stopped {cfg w c lo} (h : CatchInv cfg w c lo) (hm : MinedOn w c) : StoppedInv cfg w c lo :=
  ⟨h.bday, h.tipEq, h.lo_le, h.window, h.remembered, h.correct, hm⟩

theorem StoppedInv.inv {cfg w tip lo} (h : StoppedInv cfg w tip lo) (hs : w.chainSynced = true) : Inv cfg w tip lo :=
  ⟨hs, h.bday, h.tipEq, h.lo_le, h.window, h.remembered, h.correct, h.mined⟩

/-- `{ w with chainSynced := b }`, the model's spelling, under a name. -/
def setSynced (w : Wallet) (b : Bool) : Wallet := { w with chainSynced := b }

theorem CatchInv.setSynced {cfg w c lo} (h : CatchInv cfg w c lo) (b : Bool) : CatchInv cfg (setSynced w b) c lo :=
  ⟨h.bday, h.tipEq, h.lo_le, h.window, h.remembered, h.correct⟩

theorem StoppedInv.unsynced {cfg w old lo} (h : StoppedInv cfg w old lo) :
    StoppedInv cfg { w with chainSynced := false } old lo :=
  (h.catch.setSynced false).stopped h.mined

theorem setSynced_of_synced (w : Wallet) (h : w.chainSynced = true) : setSynced w true = w := by
  cases w; simp only [setSynced] at *; subst h; rfl

theorem CatchInv.height {cfg w c lo} (h : CatchInv cfg w c lo) : w.syncedTo.height = c.length := by
  rw [h.tipEq]; rfl

/-- Two wallets with the same manager (sync) state. -/
def SameSync (w w' : Wallet) : Prop :=
  w'.syncedTo = w.syncedTo ∧ w'.hashes = w.hashes ∧ w'.birthdaySet = w.birthdaySet ∧ w'.chainSynced = w.chainSynced

theorem SameSync.refl (w : Wallet) : SameSync w w := ⟨rfl, rfl, rfl, rfl⟩

theorem SameSync.trans {a b c : Wallet} : SameSync a b → SameSync b c → SameSync a c :=
  fun ⟨a1, a2, a3, a4⟩ ⟨b1, b2, b3, b4⟩ => ⟨b1.trans a1, b2.trans a2, b3.trans a3, b4.trans a4⟩

theorem CatchInv.congr {cfg w w' c lo} (h : CatchInv cfg w c lo) : SameSync w w' → CatchInv cfg w' c lo :=
  fun ⟨e1, e2, e3, _⟩ => ⟨e3 ▸ h.bday, e1 ▸ h.tipEq, h.lo_le, h.window, e2 ▸ h.remembered, e2 ▸ h.correct⟩

theorem Inv.congr {cfg w w' c lo} (h : Inv cfg w c lo) (e : SameSync w w') (hm : MinedOn w' c) : Inv cfg w' c lo :=
  ((h.stopped.catch.congr e).stopped hm).inv (e.2.2.2 ▸ h.synced)

theorem MinedOn.cons {w : Wallet} {c : BlockId} (n : Nat) (h : MinedOn w c) : MinedOn w (n :: c) :=
  fun r hr => ⟨Nat.le_succ_of_le (h r hr).1, by rw [ancestorAt_cons n c _ (h r hr).1]; exact (h r hr).2⟩

theorem MinedOn.rollback {w w' : Wallet} {c c' : BlockId} {k : Nat} (hm : MinedOn w c) (hk : k ≤ c.length)
    (hk' : k ≤ c'.length) (e : ancestorAt c k = ancestorAt c' k) (hw : w'.mined = rollbackMined w.mined (k + 1)) :
    MinedOn w' c' := by
  intro r hr
  rw [hw, rollbackMined, List.mem_filter, decide_eq_true_eq] at hr
  have hr2 := Nat.le_of_lt_succ hr.2
  exact ⟨Nat.le_trans hr2 hk', by rw [(hm r hr.1).2, same_hash_same_below c c' k r.height hr2 hk hk' e]⟩

/-- The wallet `putSyncedTo` produces when its predecessor check passes. -/
def putOk (W : Nat) (w : Wallet) (bs : Stamp) : Wallet :=
  { w with
    hashes := if bs.height > W then upd (upd w.hashes bs.height (some bs.hash)) (bs.height - W) none
              else upd w.hashes bs.height (some bs.hash),
    syncedTo := bs }

theorem putOk_hashes (W : Nat) (w : Wallet) (bs : Stamp) (h : Nat) :
    (putOk W w bs).hashes h =
      if bs.height > W ∧ h = bs.height - W then none
      else if h = bs.height then some bs.hash else w.hashes h := by
  simp only [putOk]
  by_cases hgt : bs.height > W
  · rw [if_pos hgt]; simp only [upd, hgt, true_and]
  · rw [if_neg hgt]; simp only [upd, hgt, false_and, if_false]

/-- `putOk_hashes` for a block's stamp, with `c.length` where `omega` has to see it. -/
theorem putOk_hashes_stampOf (W : Nat) (C : Content) (w : Wallet) (c : BlockId) (h : Nat) :
    (putOk W w (stampOf C c)).hashes h =
      if c.length > W ∧ h = c.length - W then none
      else if h = c.length then some (some c) else w.hashes h :=
  putOk_hashes W w (stampOf C c) h

theorem putOk_mined (W : Nat) (w : Wallet) (bs : Stamp) : (putOk W w bs).mined = w.mined := rfl

theorem putSyncedTo_eq (W : Nat) (w : Wallet) (bs : Stamp) :
    putSyncedTo W w bs =
      if bs.height > 0 ∧ w.birthdaySet = true ∧ w.hashes (bs.height - 1) = none then .error .blockNotFound
      else .ok (putOk W w bs) := rfl

theorem putSyncedTo_cases (W : Nat) (w : Wallet) (bs : Stamp) :
    putSyncedTo W w bs = .ok (putOk W w bs) ∨
    (putSyncedTo W w bs = .error .blockNotFound ∧ 0 < bs.height ∧ w.hashes (bs.height - 1) = none) := by
  rw [putSyncedTo_eq]
  split
  · rename_i h; exact Or.inr ⟨rfl, h.1, h.2.2⟩
  · exact Or.inl rfl

theorem loAfter_bounds (W lo H : Nat) :
    lo ≤ loAfter W lo H ∧ (loAfter W lo H ≤ lo ∨ loAfter W lo H + W ≤ H + 1) := by
  unfold loAfter; split <;> omega

/-- Pruning at `T + 1 - W` establishes the window by itself. -/
theorem loAfter_window {W lo T : Nat} (hW : 1 ≤ W) (hle : lo ≤ T) :
    loAfter W lo (T + 1) ≤ T + 1 ∧
    (T + 1 < loAfter W lo (T + 1) + W ∨ (loAfter W lo (T + 1) = 0 ∧ T + 1 ≤ W)) := by
  unfold loAfter; split <;> omega

section
variable {cfg : Cfg} {w : Wallet} {c tip : BlockId} {lo : Nat}

theorem CatchInv.put_ok (hS : CatchInv cfg w c lo) (bs : Stamp)
    (h : bs.height = 0 ∨ (lo + 1 ≤ bs.height ∧ bs.height ≤ c.length + 1)) :
    putSyncedTo cfg.W w bs = .ok (putOk cfg.W w bs) :=
  (putSyncedTo_cases cfg.W w bs).resolve_right fun ⟨_, h1, h2⟩ => by
    rw [hS.remembered (bs.height - 1) (by omega) (by omega)] at h2
    cases h2

/-- `c'` is `c`, a child of `c` or an ancestor of `c`; the new window keeps the pruned height `|c'| - W` out of `[lo', c']`. -/
theorem putOk_catchInv (c' : BlockId) (lo' : Nat) (hS : CatchInv cfg w c lo) (hlen : c'.length ≤ c.length + 1)
    (hagree : ∀ h, h < c'.length → ancestorAt c' h = ancestorAt c h)
    (hlo1 : ∀ h, lo' ≤ h → h < c'.length → lo ≤ h) (hlo2 : lo' ≤ c'.length)
    (hwin : c'.length < lo' + cfg.W ∨ (lo' = 0 ∧ c'.length ≤ cfg.W)) :
    CatchInv cfg (putOk cfg.W w (stampOf cfg.C c')) c' lo' := by
  have hlt : ∀ {h}, h ≤ c'.length → h ≠ c'.length → h < c'.length ∧ h ≤ c.length := fun h1 h2 =>
    ⟨Nat.lt_of_le_of_ne h1 h2, Nat.le_of_lt_succ (Nat.lt_of_lt_of_le (Nat.lt_of_le_of_ne h1 h2) hlen)⟩
  refine ⟨hS.bday, rfl, hlo2, hwin, ?_, ?_⟩
  · intro h h1 h2
    rw [putOk_hashes_stampOf, if_neg (by omega)]
    split
    · rename_i e; rw [e, ancestorAt_self]
    · rename_i e
      rw [hagree h (hlt h2 e).1]
      exact hS.remembered h (hlo1 h h1 (hlt h2 e).1) (hlt h2 e).2
  · intro h x h1
    rw [putOk_hashes_stampOf]
    split
    · intro hx; cases hx
    · split
      · rename_i e; intro hx; rw [e, ancestorAt_self]; exact (Option.some.inj hx).symm
      · rename_i e
        rw [hagree h (hlt h1 e).1]
        exact hS.correct h x (hlt h1 e).2

theorem CatchInv.connect (hW : 1 ≤ cfg.W) (n : Nat) (hS : CatchInv cfg w tip lo) :
    putSyncedTo cfg.W w (stampOf cfg.C (n :: tip)) = .ok (putOk cfg.W w (stampOf cfg.C (n :: tip))) ∧
    CatchInv cfg (putOk cfg.W w (stampOf cfg.C (n :: tip))) (n :: tip) (loAfter cfg.W lo (tip.length + 1)) :=
  have ⟨h1, h2⟩ := loAfter_window hW hS.lo_le
  ⟨hS.put_ok _ (Or.inr ⟨Nat.succ_le_succ hS.lo_le, Nat.le_refl _⟩),
    putOk_catchInv (n :: tip) _ hS (Nat.le_refl _) (fun h hh => ancestorAt_cons n tip h (Nat.le_of_lt_succ hh))
      (fun _ h _ => Nat.le_trans (loAfter_bounds ..).1 h) h1 h2⟩

/-- Of the old range `[lo, c]` the part up to `k` stays; below `lo` only the new entry `k` itself is known. -/
theorem CatchInv.rollbackTo {k : Nat} (hS : CatchInv cfg w c lo) (hk1 : k < c.length) (hk2 : k ≤ tip.length)
    (e : ancestorAt c k = ancestorAt tip k) :
    CatchInv cfg (putOk cfg.W w (stampOf cfg.C (ancestorAt tip k))) (ancestorAt tip k) (min lo k) := by
  have hwin := hS.window
  have hle := hS.lo_le
  have key : ∀ lo', lo' ≤ k → (∀ h, lo' ≤ h → h < k → lo ≤ h) → (k < lo' + cfg.W ∨ (lo' = 0 ∧ k ≤ cfg.W)) →
      CatchInv cfg (putOk cfg.W w (stampOf cfg.C (ancestorAt tip k))) (ancestorAt tip k) lo' := by
    intro lo' h1 h2 h3
    apply putOk_catchInv _ _ hS <;> rw [ancestorAt_length tip k hk2]
    · exact Nat.le_succ_of_le (Nat.le_of_lt hk1)
    · intro h hh
      rw [ancestorAt_ancestorAt tip k h (Nat.le_of_lt hh) hk2]
      exact (same_hash_same_below c tip k h (Nat.le_of_lt hh) (Nat.le_of_lt hk1) hk2 e).symm
    · exact h2
    · exact h1
    · exact h3
  rcases Nat.le_total lo k with hlk | hlk
  · rw [Nat.min_eq_left hlk]; exact key lo hlk (fun _ h _ => h) (by omega)
  · rw [Nat.min_eq_right hlk]
    exact key k (Nat.le_refl _) (fun h h1 h2 => absurd h1 (Nat.not_le_of_lt h2)) (by omega)

end

theorem process_nil (cfg : Cfg) (w : Wallet) : process cfg w [] = w := rfl

theorem process_append (cfg : Cfg) (w : Wallet) (xs ys : List Ntfn) :
    process cfg w (xs ++ ys) = process cfg (process cfg w xs) ys := by
  simp [process]

theorem rollbackTxs_sameSync (w : Wallet) (h : Nat) : SameSync w (rollbackTxs w h) := ⟨rfl, rfl, rfl, rfl⟩

section
variable {cfg : Cfg} {w : Wallet} {tip : BlockId} {lo : Nat}

theorem handle_connected_ok {w' : Wallet} {b : Stamp} (h : putSyncedTo cfg.W w b = .ok w') :
    handle cfg w (.connected b) = w' := by
  simp only [handle, connectBlock, h, orKeep]

theorem dup_connect (hI : Inv cfg w tip lo) : Inv cfg (handle cfg w (.connected (stampOf cfg.C tip))) tip lo := by
  rcases putSyncedTo_cases cfg.W w (stampOf cfg.C tip) with e | ⟨e, _⟩
  · rw [handle_connected_ok e]
    exact ((putOk_catchInv tip lo hI.stopped.catch (Nat.le_succ _) (fun _ _ => rfl) (fun _ h _ => h) hI.lo_le
      hI.window).stopped hI.mined).inv hI.synced
  · simp only [handle, connectBlock, e, orKeep]; exact hI

theorem disconnectBlock_tip {n : Nat} {rest : BlockId} (hS : SyncInv cfg w (n :: rest) lo)
    (hlo : lo + 1 ≤ rest.length ∨ (rest.length = 0 ∧ lo = 0)) :
    disconnectBlock cfg w (stampOf cfg.C (n :: rest)) =
      .ok (rollbackTxs (putOk cfg.W w (stampOf cfg.C rest)) (rest.length + 1)) := by
  have h1 := hS.remembered (rest.length + 1) hS.lo_le (Nat.le_refl _)
  have h2 := hS.remembered rest.length (by omega) (Nat.le_succ _)
  rw [show ancestorAt (n :: rest) (rest.length + 1) = n :: rest from ancestorAt_self (n :: rest)] at h1
  rw [ancestorAt_cons n rest _ (Nat.le_refl _), ancestorAt_self] at h2
  have hput : putSyncedTo cfg.W w ⟨rest.length, some rest, cfg.C.time rest⟩ = _ :=
    hS.catch.put_ok (stampOf cfg.C rest) (hlo.symm.imp (·.1) fun h => ⟨h, Nat.le_succ_of_le (Nat.le_succ _)⟩)
  simp only [disconnectBlock, stampOf, List.length_cons, hS.synced, hS.catch.height, h1, h2, hput, Bool.true_eq_false,
    if_false, Nat.le_refl, if_true]

theorem disconnect_tip {n : Nat} {rest : BlockId} (hI : Inv cfg w (n :: rest) lo) (hlo : lo + 1 ≤ rest.length ∨ (rest.length = 0 ∧ lo = 0)) :
    Inv cfg (handle cfg w (.disconnected (stampOf cfg.C (n :: rest)))) rest lo := by
  simp only [handle, disconnectBlock_tip hI.sync hlo, orKeep]
  have e := ancestorAt_cons n rest _ (Nat.le_refl rest.length)
  have hS := hI.stopped.catch.rollbackTo (tip := rest) (Nat.lt_succ_self _) (Nat.le_refl _) e
  rw [ancestorAt_self, Nat.min_eq_left (hlo.elim Nat.le_of_succ_le fun h => h.2 ▸ Nat.zero_le _)] at hS
  exact ((hS.congr (rollbackTxs_sameSync _ _)).stopped
    (hI.mined.rollback (Nat.le_succ _) (Nat.le_refl _) e rfl)).inv hI.synced

theorem stale_disconnect_noop (hI : Inv cfg w tip lo) (b : BlockId) (hb : ancestorAt tip b.length ≠ b) :
    handle cfg w (.disconnected (stampOf cfg.C b)) = w := by
  simp only [handle, disconnectBlock, hI.synced, hI.stopped.catch.height, Bool.true_eq_false, if_false]
  split
  · rename_i hle
    split
    · rfl
    · rename_i hash hh
      rw [if_neg (fun e : hash = (stampOf cfg.C b).hash =>
        hb (Option.some.inj (e.symm.trans (hI.correct b.length hash hle hh))).symm)]
      rfl
  · rfl

end

theorem addRelevantTx_sameSync (w : Wallet) (t : Tx) (blk : Option Stamp) : SameSync w (addRelevantTx w t blk) := by
  unfold addRelevantTx
  split <;> split <;> exact ⟨rfl, rfl, rfl, rfl⟩

theorem addRelevantTx_mined_none (w : Wallet) (t : Tx) : (addRelevantTx w t none).mined = w.mined := by
  simp only [addRelevantTx]
  split <;> rfl

theorem addRelevantTx_mined_some (w : Wallet) (t : Tx) (b : Stamp) :
    ∀ r ∈ (addRelevantTx w t (some b)).mined, r ∈ w.mined ∨ r = ⟨t, b.height, b.hash⟩ := by
  intro r
  simp only [addRelevantTx]
  split
  · exact Or.inl
  · simp only [List.mem_append, List.mem_singleton]; exact id

theorem foldTxs_sameSync (blk : Option Stamp) (ts : List Tx) (w : Wallet) :
    SameSync w (ts.foldl (fun w t => addRelevantTx w t blk) w) :=
  List.foldlRecOn (motive := SameSync w) ts _ (.refl w) fun w' h t _ => h.trans (addRelevantTx_sameSync w' t blk)

theorem foldTxs_onChain {c : BlockId} (C : Content) (b : BlockId) (hb : OnChain b c) (ts : List Tx) (w : Wallet)
    (hm : MinedOn w c) :
    SameSync w (ts.foldl (fun w t => addRelevantTx w t (some (stampOf C b))) w) ∧
    MinedOn (ts.foldl (fun w t => addRelevantTx w t (some (stampOf C b))) w) c := by
  refine ⟨foldTxs_sameSync _ ts w, List.foldlRecOn (motive := (MinedOn · c)) ts _ hm fun w hm t _ r hr => ?_⟩
  rcases addRelevantTx_mined_some w t _ r hr with h | h
  · exact hm r h
  · exact h ▸ ⟨hb.1, congrArg some hb.2.symm⟩

theorem process_relevantTxs (cfg : Cfg) (w : Wallet) (s : Stamp) (ts : List Tx) :
    process cfg w (ts.map (fun t => .relevantTx t (some s))) = ts.foldl (fun w t => addRelevantTx w t (some s)) w := by
  simp only [process, List.foldl_map, handle]

theorem filtered_eq (cfg : Cfg) (w : Wallet) (s : Stamp) (ts : List Tx) :
    handle cfg w (.filtered s ts) = ts.foldl (fun w t => addRelevantTx w t (some s)) w := rfl

/-! `addRelevantTx` reads and writes the transaction records only, `PutSyncedTo` the manager state only: the wallet
does not depend on which of the three orders (`TxMode`) the backend uses for a new block. -/

theorem addRelevantTx_putOk (W : Nat) (w : Wallet) (bs : Stamp) (t : Tx) (blk : Option Stamp) :
    addRelevantTx (putOk W w bs) t blk = putOk W (addRelevantTx w t blk) bs := by
  cases blk <;>
  · show _ = putOk W (if _ then _ else _) bs
    rw [apply_ite (fun x => putOk W x bs)]; rfl

theorem handle_connected_foldTxs (cfg : Cfg) (b : Stamp) (blk : Option Stamp) (ts : List Tx) (w : Wallet) :
    handle cfg (ts.foldl (fun w t => addRelevantTx w t blk) w) (.connected b)
      = ts.foldl (fun w t => addRelevantTx w t blk) (handle cfg w (.connected b)) :=
  (List.foldl_hom (handle cfg · (.connected b)) fun w t => Eq.symm <| by
    obtain ⟨_, e2, e3, _⟩ := addRelevantTx_sameSync w t blk
    simp only [handle, connectBlock, putSyncedTo_eq, e2, e3]
    split
    · rfl
    · exact (addRelevantTx_putOk ..).symm).symm

theorem process_connectNtfns (cfg : Cfg) (w : Wallet) (m : TxMode) (b : BlockId) :
    process cfg w (connectNtfns cfg.C m b) =
      (cfg.C.txs b).foldl (fun w t => addRelevantTx w t (some (stampOf cfg.C b)))
        (handle cfg w (.connected (stampOf cfg.C b))) := by
  cases m with
  | after => exact process_relevantTxs cfg _ _ _
  | before =>
    simp only [connectNtfns, process_append, process_relevantTxs]
    exact handle_connected_foldTxs ..
  | filtered => exact handle_connected_foldTxs ..

/-! Statement vocabulary of `C15_notifications_*`: `BEvent`, `blockEvents`, `eventsOf`, `runEvents`, `replayEv`. -/

inductive BEvent where
  | attached (b : Stamp)     -- notifyAttachedBlock(b)
  | detached (h : Hash)      -- notifyDetachedBlock(h)
deriving DecidableEq, Repr

/-- The calls made while `n` is handled in wallet state `w`: `connectBlock` notifies after a successful
    `SetSyncedTo`; `disconnectBlock` on every nil-returning path of a chain-synced wallet. -/
def blockEvents (cfg : Cfg) (w : Wallet) : Ntfn → List BEvent
  | .connected b =>
    match connectBlock cfg.W w b with
    | .ok _ => [.attached b]
    | .error _ => []
  | .disconnected b =>
    if w.chainSynced = false then []
    else match disconnectBlock cfg w b with
      | .ok _ => [.detached b.hash]
      | .error _ => []
  | _ => []   -- `relevantTx`, `filtered`, `rescanFinished`; a new kind of `Ntfn` lands here silently

def eventsOf (cfg : Cfg) : Wallet → List Ntfn → List BEvent
  | _, [] => []
  | w, n :: ns => blockEvents cfg w n ++ eventsOf cfg (handle cfg w n) ns

def runEvents (cfg : Cfg) : Wallet × BlockId → List Step → List BEvent
  | _, [] => []
  | (w, tip), st :: rest =>
    eventsOf cfg w (ntfnsOf cfg.C tip st) ++ runEvents cfg (process cfg w (ntfnsOf cfg.C tip st), stepTip tip st) rest

/-- What a client does with the calls: an attached block is the current tip again (nothing to do) or a child of it
    (push), anything else is an error; a detached block is the current tip (pop), or not on the client's chain at
    all (ignored), a block of the chain below the tip is an error. -/
def replayEv : BlockId → List BEvent → Option BlockId
  | tip, [] => some tip
  | tip, .attached s :: rest =>
    match s.hash with
    | some b =>
      if b = tip then replayEv tip rest
      else if b.tail = tip ∧ b ≠ [] then replayEv b rest
      else none
    | none => none
  | tip, .detached h :: rest =>
    match h with
    | some b =>
      if b = tip ∧ tip ≠ [] then replayEv tip.tail rest
      else if ancestorAt tip b.length = b then none
      else replayEv tip rest
    | none => none

/-- The calls `evs` take a client from `a` to `b`.  Stated with a continuation (`replayEv` stops at the first call it
    cannot place, so it is not a fold over the calls); this is what makes it compose. -/
def Replays (a : BlockId) (evs : List BEvent) (b : BlockId) : Prop :=
  ∀ rest, replayEv a (evs ++ rest) = replayEv b rest

theorem Replays.append {a b c : BlockId} {xs ys : List BEvent} (h1 : Replays a xs b) (h2 : Replays b ys c) :
    Replays a (xs ++ ys) c :=
  fun rest => by rw [List.append_assoc, h1, h2]

theorem eventsOf_append (cfg : Cfg) (xs ys : List Ntfn) (w : Wallet) :
    eventsOf cfg w (xs ++ ys) = eventsOf cfg w xs ++ eventsOf cfg (process cfg w xs) ys := by
  induction xs generalizing w with
  | nil => rfl
  | cons x xs ih =>
    simp only [List.cons_append, eventsOf, ih, List.append_assoc]
    rfl

theorem eventsOf_relevantTxs (cfg : Cfg) (s : Option Stamp) (ts : List Tx) (w : Wallet) :
    eventsOf cfg w (ts.map (fun t => .relevantTx t s)) = [] := by
  induction ts generalizing w with
  | nil => rfl
  | cons t ts ih => simp only [List.map_cons, eventsOf, blockEvents, List.nil_append]; exact ih _

theorem blockEvents_connected (cfg : Cfg) (w : Wallet) (s : Stamp) :
    blockEvents cfg w (.connected s) = [] ∨ blockEvents cfg w (.connected s) = [.attached s] := by
  simp only [blockEvents]
  split
  · exact Or.inr rfl
  · exact Or.inl rfl

theorem blockEvents_disconnected (cfg : Cfg) (w : Wallet) (s : Stamp) :
    blockEvents cfg w (.disconnected s) = [] ∨ blockEvents cfg w (.disconnected s) = [.detached s.hash] := by
  simp only [blockEvents]
  split
  · exact Or.inl rfl
  · split
    · exact Or.inr rfl
    · exact Or.inl rfl

theorem blockEvents_connected_congr {cfg : Cfg} {w w' : Wallet} (e : SameSync w w') (b : Stamp) :
    blockEvents cfg w' (.connected b) = blockEvents cfg w (.connected b) := by
  obtain ⟨_, e2, e3, _⟩ := e
  simp only [blockEvents, connectBlock, putSyncedTo_eq, e2, e3]
  by_cases hc : b.height > 0 ∧ w.birthdaySet = true ∧ w.hashes (b.height - 1) = none
  · simp only [if_pos hc]
  · simp only [if_neg hc]

theorem eventsOf_connectNtfns (cfg : Cfg) (w : Wallet) (m : TxMode) (b : BlockId) :
    eventsOf cfg w (connectNtfns cfg.C m b) = blockEvents cfg w (.connected (stampOf cfg.C b)) := by
  cases m with
  | after => simp only [connectNtfns, eventsOf, eventsOf_relevantTxs, List.append_nil]
  | before =>
    simp only [connectNtfns, eventsOf_append, eventsOf_relevantTxs, List.nil_append, process_relevantTxs, eventsOf,
      List.append_nil]
    exact blockEvents_connected_congr (foldTxs_sameSync ..) _
  | filtered =>
    simp only [connectNtfns, eventsOf, blockEvents, List.nil_append, filtered_eq, List.append_nil]
    exact blockEvents_connected_congr (foldTxs_sameSync ..) _

theorem replay_attached_child (C : Content) (n : Nat) (tip : BlockId) :
    Replays tip [.attached (stampOf C (n :: tip))] (n :: tip) := by
  intro rest
  simp only [List.cons_append, List.nil_append, replayEv, stampOf]
  rw [if_neg (List.cons_ne_self n tip), if_pos ⟨rfl, by simp⟩]

theorem replay_detached_tip (n : Nat) (tl : BlockId) : Replays (n :: tl) [.detached (some (n :: tl))] tl := by
  intro rest
  simp [replayEv]

section
variable {cfg : Cfg} {w : Wallet} {tip : BlockId} {lo : Nat}

/-- A disconnect for a block that is not on the best chain: no call or a `detached` the client ignores. -/
theorem replay_stale (tip : BlockId) (b : BlockId) (hb : ancestorAt tip b.length ≠ b) :
    Replays tip (blockEvents cfg w (.disconnected (stampOf cfg.C b))) tip := by
  intro rest
  rcases blockEvents_disconnected cfg w (stampOf cfg.C b) with e | e <;> rw [e]
  · rfl
  · show replayEv tip (.detached (some b) :: rest) = _
    simp only [replayEv]
    rw [if_neg fun h : b = tip ∧ tip ≠ [] => hb (h.1 ▸ ancestorAt_self b), if_neg hb]

/-- A repeated connect of the tip: no call (predecessor not remembered) or an `attached(tip)` the client already has. -/
theorem replay_dupConnect (tip : BlockId) : Replays tip (blockEvents cfg w (.connected (stampOf cfg.C tip))) tip := by
  intro rest
  rcases blockEvents_connected cfg w (stampOf cfg.C tip) with e | e <;> rw [e]
  · rfl
  · simp only [stampOf, List.cons_append, List.nil_append, replayEv, if_true]

/-! Connects and transaction notifications do not read `chainSynced`: they are followed at the level of `StoppedInv`,
whatever the flag, and leave the flag alone. -/

theorem connectNtfns_stopped (hW : 1 ≤ cfg.W) (m : TxMode) (n : Nat) (hS : StoppedInv cfg w tip lo) :
    StoppedInv cfg (process cfg w (connectNtfns cfg.C m (n :: tip))) (n :: tip) (loAfter cfg.W lo (tip.length + 1)) ∧
    (process cfg w (connectNtfns cfg.C m (n :: tip))).chainSynced = w.chainSynced ∧
    Replays tip (eventsOf cfg w (connectNtfns cfg.C m (n :: tip))) (n :: tip) := by
  obtain ⟨e, h⟩ := hS.catch.connect hW n
  rw [process_connectNtfns, handle_connected_ok e]
  obtain ⟨h1, h2⟩ := foldTxs_onChain cfg.C (n :: tip) ⟨Nat.le_refl _, ancestorAt_self _⟩ (cfg.C.txs (n :: tip)) _
    (show MinedOn (putOk cfg.W w (stampOf cfg.C (n :: tip))) (n :: tip) from hS.mined.cons n)
  refine ⟨(h.congr h1).stopped h2, h1.2.2.2, fun rest => ?_⟩
  -- `SetSyncedTo` succeeded (`e`), so the one call is `attached (n :: tip)`
  simp only [eventsOf_connectNtfns, blockEvents, connectBlock, e]
  exact replay_attached_child _ n tip rest

-- `w`, `lo` are bound in the statement, not the section's: the induction over the branch varies them
theorem connectBranch_stopped (hW : 1 ≤ cfg.W) (m : TxMode) (br : List Nat) :
    ∀ {w : Wallet} {base : BlockId} {lo : Nat}, StoppedInv cfg w base lo →
      StoppedInv cfg (process cfg w (connectBranch cfg.C m base br)) (br.reverse ++ base)
        (loAfterN cfg.W lo base.length br.length) ∧
      (process cfg w (connectBranch cfg.C m base br)).chainSynced = w.chainSynced ∧
      Replays base (eventsOf cfg w (connectBranch cfg.C m base br)) (br.reverse ++ base) := by
  induction br with
  | nil => exact fun hS => ⟨hS, rfl, fun _ => rfl⟩
  | cons n br ih =>
    intro w base lo hS
    simp only [connectBranch, process_append, List.length_cons, loAfterN, List.reverse_cons, List.append_assoc,
      eventsOf_append, List.cons_append, List.nil_append]
    obtain ⟨h1, e1, r1⟩ := connectNtfns_stopped hW m n hS
    obtain ⟨h2, e2, r2⟩ := ih h1
    exact ⟨h2, e2.trans e1, r1.append r2⟩

theorem validReorg_succ {lo d T : Nat} (hd : d + 1 ≤ T + 1)
    (hv : d + 1 = 0 ∨ lo + 1 + (d + 1) ≤ T + 1 ∨ (d + 1 = T + 1 ∧ lo = 0)) :
    (lo + 1 ≤ T ∨ (T = 0 ∧ lo = 0)) ∧ d ≤ T ∧ (d = 0 ∨ lo + 1 + d ≤ T ∨ (d = T ∧ lo = 0)) := by
  omega

theorem disconnectNtfns_inv (d : Nat) :
    ∀ {w : Wallet} {tip : BlockId}, Inv cfg w tip lo → d ≤ tip.length →
      (d = 0 ∨ lo + 1 + d ≤ tip.length ∨ (d = tip.length ∧ lo = 0)) →
      Inv cfg (process cfg w (disconnectNtfns cfg.C tip d)) (tip.drop d) lo ∧
      Replays tip (eventsOf cfg w (disconnectNtfns cfg.C tip d)) (tip.drop d) := by
  induction d with
  | zero =>
    intro w tip hI _ _
    cases tip <;> exact ⟨hI, fun _ => rfl⟩
  | succ d ih =>
    intro w tip hI hd hv
    cases tip with
    | nil => exact absurd hd (Nat.not_succ_le_zero d)
    | cons n tl =>
      obtain ⟨hlo, hd', hv'⟩ := validReorg_succ hd hv
      have hev : blockEvents cfg w (.disconnected (stampOf cfg.C (n :: tl))) = [.detached (some (n :: tl))] := by
        simp only [blockEvents, hI.synced, disconnectBlock_tip hI.sync hlo]
        rfl
      simp only [disconnectNtfns, eventsOf, hev, List.drop_succ_cons]
      obtain ⟨h, r⟩ := ih (disconnect_tip hI hlo) hd' hv'
      exact ⟨h, (replay_detached_tip n tl).append r⟩

/-- The one case split over `Step`: a new kind of step is a new case here (and in `stepLo_bounds`). -/
theorem step_preserves_inv (hW : 1 ≤ cfg.W) (st : Step) (hI : Inv cfg w tip lo) (hv : ValidStep tip lo st) :
    Inv cfg (process cfg w (ntfnsOf cfg.C tip st)) (stepTip tip st) (stepLo cfg.W tip lo st) ∧
    Replays tip (eventsOf cfg w (ntfnsOf cfg.C tip st)) (stepTip tip st) := by
  cases st with
  | extend n m =>
    have ⟨h, e, r⟩ := connectNtfns_stopped hW m n hI.stopped
    exact ⟨h.inv (e.trans hI.synced), r⟩
  | reorg d br m =>
    simp only [ntfnsOf, stepTip, stepLo, process_append, eventsOf_append]
    obtain ⟨h0, r0⟩ := disconnectNtfns_inv d hI hv.1 hv.2
    obtain ⟨h, e, r⟩ := connectBranch_stopped hW m br h0.stopped
    rw [List.length_drop] at h
    exact ⟨h.inv (e.trans h0.synced), r0.append r⟩
  | staleDisconnect b =>
    refine ⟨?_, fun rest => ?_⟩
    · show Inv cfg (handle cfg w (.disconnected (stampOf cfg.C b))) tip lo
      rw [stale_disconnect_noop hI b hv]; exact hI
    · simp only [ntfnsOf, eventsOf, List.append_nil]; exact replay_stale tip b hv rest
  | dupConnect =>
    have e : loAfter cfg.W lo tip.length = lo := by
      have := hI.window
      unfold loAfter; split <;> omega
    refine ⟨?_, fun rest => ?_⟩
    · simp only [stepLo, e]; exact dup_connect hI
    · simp only [ntfnsOf, eventsOf, List.append_nil]; exact replay_dupConnect tip rest
  | dupTxs h =>
    obtain ⟨h1, h2⟩ := foldTxs_onChain cfg.C _ (onChain_ancestorAt tip h hv) (cfg.C.txs _) w hI.mined
    exact ⟨process_relevantTxs cfg w _ _ ▸ hI.congr h1 h2, fun _ => by simp only [ntfnsOf, eventsOf_relevantTxs]; rfl⟩
  | mempoolTx t =>
    exact ⟨hI.congr (addRelevantTx_sameSync w t none) fun r hr => hI.mined r (addRelevantTx_mined_none w t ▸ hr),
      fun _ => rfl⟩

end

theorem inv_genesis (cfg : Cfg) (hW : 1 ≤ cfg.W) : Inv cfg (genesisWallet cfg.C) [] 0 := by
  refine ⟨rfl, rfl, rfl, Nat.le_refl _, Or.inl (Nat.zero_add _ ▸ hW), ?_, ?_, fun r hr => nomatch hr⟩
  · intro h _ hh
    cases Nat.le_zero.mp hh; rfl
  · intro h x hh hx
    cases Nat.le_zero.mp hh
    cases hx; rfl

section
-- `W` serves the statements about the ghost alone (`lo_bounds`); those about the wallet have `cfg.W`
variable {cfg : Cfg} {W : Nat} {w : Wallet} {tip : BlockId} {lo : Nat} {steps : List Step} {tip' : BlockId} {lo' : Nat}

/-- **The simulation.**  Over a valid run the wallet stays in sync with the backend (`Inv`: tip, remembered hashes, no record
    off the best chain) and its attach/detach calls, replayed by a client, reproduce the backend's evolution. -/
theorem run_preserves_inv (hW : 1 ≤ cfg.W) (hI : Inv cfg w tip lo) (hr : ValidRun cfg.W tip lo steps tip' lo') :
    Inv cfg (evolve cfg (w, tip) steps).1 tip' lo' ∧ (evolve cfg (w, tip) steps).2 = tip' ∧
    Replays tip (runEvents cfg (w, tip) steps) tip' := by
  induction hr generalizing w with
  | nil tip lo => exact ⟨hI, rfl, fun _ => rfl⟩
  | cons hv _ ih =>
    obtain ⟨h, r⟩ := step_preserves_inv hW _ hI hv
    obtain ⟨h1, h2, h3⟩ := ih h
    exact ⟨h1, h2, r.append h3⟩

/-! The lower end of the remembered window.  Bounds read `x ≤ lo ∨ x + W ≤ M + 1` because `omega` splits on every
`max` and every truncated subtraction. -/

theorem loAfterN_bounds (W : Nat) (n : Nat) : ∀ lo T,
    lo ≤ loAfterN W lo T n ∧ (loAfterN W lo T n ≤ lo ∨ loAfterN W lo T n + W ≤ T + n + 1) := by
  induction n with
  | zero => exact fun lo _ => ⟨Nat.le_refl lo, Or.inl (Nat.le_refl lo)⟩
  | succ n ih =>
    intro lo T
    have h1 := ih (loAfter W lo (T + 1)) (T + 1)
    have h2 := loAfter_bounds W lo (T + 1)
    simp only [loAfterN]
    omega

/-! Statement vocabulary of `C15_hashes`: `stepMax`, `maxTip`. -/

/-- The greatest height the backend's tip has while the step is carried out. -/
def stepMax (tip : BlockId) : Step → Nat
  | .extend _ _ => tip.length + 1
  | .reorg d br _ => max tip.length (tip.length - d + br.length)
  | _ => tip.length   -- every `Step` that leaves the tip alone; a new `Step` lands here silently

/-- The greatest height the backend's tip ever has during the evolution (including inside reorganisations). -/
def maxTip (tip : BlockId) : List Step → Nat
  | [] => tip.length
  | st :: rest => max (stepMax tip st) (maxTip (stepTip tip st) rest)

theorem stepLo_bounds (W : Nat) (tip : BlockId) (lo : Nat) (st : Step) :
    lo ≤ stepLo W tip lo st ∧ (stepLo W tip lo st ≤ lo ∨ stepLo W tip lo st + W ≤ stepMax tip st + 1) := by
  cases st with
  | extend | dupConnect => exact loAfter_bounds _ _ _
  | reorg d br =>
    have h := loAfterN_bounds W br.length lo (tip.length - d)
    have := Nat.le_max_right tip.length (tip.length - d + br.length)
    simp only [stepLo, stepMax]
    generalize max tip.length (tip.length - d + br.length) = M at this ⊢
    omega
  | _ => exact ⟨Nat.le_refl _, Or.inl (Nat.le_refl _)⟩

theorem maxTip_ge (tip : BlockId) (steps : List Step) : tip.length ≤ maxTip tip steps := by
  cases steps with
  | nil => exact Nat.le_refl _
  | cons st rest =>
    refine Nat.le_trans ?_ (Nat.le_max_left _ _)
    cases st with
    | extend => exact Nat.le_succ _
    | reorg => exact Nat.le_max_left _ _
    | _ => exact Nat.le_refl _

theorem lo_bounds (hr : ValidRun W tip lo steps tip' lo') :
    lo ≤ lo' ∧ (lo' ≤ lo ∨ lo' + W ≤ maxTip tip steps + 1) := by
  induction hr with
  | nil => exact ⟨Nat.le_refl _, Or.inl (Nat.le_refl _)⟩
  | @cons tip lo st rest tip' lo' _ _ ih =>
    have h := stepLo_bounds W tip lo st
    have h1 := Nat.le_max_left (stepMax tip st) (maxTip (stepTip tip st) rest)
    have h2 := Nat.le_max_right (stepMax tip st) (maxTip (stepTip tip st) rest)
    simp only [maxTip]
    generalize max (stepMax tip st) (maxTip (stepTip tip st) rest) = M at h1 h2 ⊢
    omega

theorem remembered_range (hW : 1 ≤ cfg.W) (hI : Inv cfg w tip lo) (hr : ValidRun cfg.W tip lo steps tip' lo') :
    ∀ h, lo ≤ h ∨ lo + cfg.W ≤ maxTip tip steps + 1 → maxTip tip steps + 1 - cfg.W ≤ h → h ≤ tip'.length →
      (evolve cfg (w, tip) steps).1.hashes h = some (some (ancestorAt tip' h)) := by
  intro h h1 h2 h3
  refine (run_preserves_inv hW hI hr).1.remembered h ?_ h3
  rcases (lo_bounds hr).2 with a | a
  · exact Nat.le_trans a (h1.elim id fun h1 => Nat.le_trans (Nat.le_sub_of_add_le h1) h2)
  · exact Nat.le_trans (Nat.le_sub_of_add_le a) h2

end

theorem lo_mono {W : Nat} {tip : BlockId} {lo : Nat} {steps : List Step} {tip' : BlockId} {lo' : Nat}
    (hr : ValidRun W tip lo steps tip' lo') : lo ≤ lo' :=
  (lo_bounds hr).1

def C0 : Content := ⟨fun b => b.length, fun _ => []⟩
def cfg0 : Cfg := ⟨10000, C0⟩
def C1 : Content := ⟨fun b => b.length, fun b => if b = [1] then [⟨7, false⟩] else []⟩
def cfg1 : Cfg := ⟨10000, C1⟩
def steps0 : List Step := [.extend 1 .after, .extend 2 .after, .reorg 1 [3] .after]
def steps1 : List Step := [.extend 1 .after, .extend 2 .after, .reorg 2 [3, 4] .after]

theorem steps0_valid : ValidRun 10000 [] 0 steps0 [3, 1] 0 :=
  .cons trivial (.cons trivial (.cons ⟨by decide, by decide⟩ (.nil _ _)))

theorem steps1_valid : ValidRun 10000 [] 0 steps1 [4, 3] 0 :=
  .cons trivial (.cons trivial (.cons ⟨by decide, by decide⟩ (.nil _ _)))

/-- depth-1 reorg: the fork block's hash is still remembered -/
example : (evolve cfg0 (genesisWallet C0, []) steps0).1.hashes 1 = some (some [1]) := by decide

/-- depth-2 reorg over a block holding a wallet transaction: it goes back to unmined -/
example : let r := evolve cfg1 (genesisWallet C1, []) steps1
    r.1.mined = [] ∧ r.1.unmined = [⟨7, false⟩] := by decide

example : Inv cfg0 (evolve cfg0 (genesisWallet C0, []) steps0).1 [3, 1] 0 :=
  (run_preserves_inv (by decide) (inv_genesis cfg0 (by decide)) steps0_valid).1

end SyncTip
