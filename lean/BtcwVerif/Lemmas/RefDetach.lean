import BtcwVerif.Lemmas.RefRollbackLoop
import BtcwVerif.Lemmas.RefChain
import BtcwVerif.Lemmas.RefAbandon
/-!
# Refinement, event *disconnected*, ledger side: the ledger without the detached blocks

The detached blocks and transactions in the order `rollback` visits them (`cutBlocks`, `cutPairs`, `cutTxs`), the ledger
without them (`detach`, before the coinbase clean-up), and who is in which.  `detach L h` is well-formed (`lwf_detach`), and
the ledger after the event is `detach L h` minus the unconfirmed descendants of the detached coinbases
(`apply_disconnected`).
-/
namespace TxStore
open Ledger

theorem sublist_flatMap_of_sublist {α β : Type} (f : α → List β) {l1 l2 : List α} (h : l1.Sublist l2) :
    (l1.flatMap f).Sublist (l2.flatMap f) := by
  induction h with
  | slnil => exact List.Sublist.refl _
  | cons a _ ih => rw [List.flatMap_cons]; exact List.Sublist.trans ih (List.sublist_append_right _ _)
  | cons_cons a _ ih => rw [List.flatMap_cons, List.flatMap_cons]; exact List.Sublist.append (List.Sublist.refl _) ih

theorem sublist_flatMap_filter {α β : Type} (f : α → List β) (p : α → Bool) (l : List α) :
    ((l.filter p).flatMap f).Sublist (l.flatMap f) :=
  sublist_flatMap_of_sublist f List.filter_sublist

/-- the detached blocks, highest first (the order `rollback` visits them) -/
def cutBlocks (L : Ledger) (h : Int) : List LBlock :=
  (L.chain.filter fun b => !decide ((b.bm.block.height : Int) < h)).reverse

def cutPairs (L : Ledger) (h : Int) : List (Tx × BlockMeta) := chainTxsOf (cutBlocks L h)

theorem mem_cutPairs {L : Ledger} {h : Int} {p : Tx × BlockMeta} :
    p ∈ cutPairs L h ↔ p ∈ chainTxs L ∧ ¬ ((p.2.block.height : Int) < h) := by
  simp only [cutPairs, cutBlocks, chainTxsOf, chainTxs, List.mem_flatMap, List.mem_map, List.mem_reverse,
    List.mem_filter, Bool.not_eq_true', decide_eq_false_iff_not]
  exact ⟨fun ⟨b, ⟨hb, hh⟩, t, ht, e⟩ => ⟨⟨b, hb, t, ht, e⟩, e ▸ hh⟩,
    fun ⟨⟨b, hb, t, ht, e⟩, hh⟩ => ⟨b, ⟨hb, by subst e; exact hh⟩, t, ht, e⟩⟩

theorem cutPairs_hashes_nodup {L : Ledger} (hl : LWF L) (h : Int) : ((cutPairs L h).map (·.1.hash)).Nodup := by
  unfold cutPairs cutBlocks chainTxsOf
  rw [(((List.reverse_perm _).flatMap_right _).map _).nodup_iff]
  exact ((sublist_flatMap_filter _ _ L.chain).map _).nodup (chain_hashes_nodup hl)

theorem cutPairs_nodup {L : Ledger} (hl : LWF L) (h : Int) : (cutPairs L h).Nodup :=
  (List.pairwise_map.mp (cutPairs_hashes_nodup hl h)).imp fun hne e => hne (congrArg (·.1.hash) e)

def cutTxs (L : Ledger) (h : Int) : List Tx := (cutBlocks L h).flatMap (·.txs)

theorem cutTxs_eq (L : Ledger) (h : Int) : (cutPairs L h).map (·.1) = cutTxs L h := by
  unfold cutPairs chainTxsOf cutTxs
  rw [List.map_flatMap]
  congr 1
  funext b
  rw [List.map_map]
  exact List.map_id' _

theorem mem_cutTxs {L : Ledger} {h : Int} {u : Tx} : u ∈ cutTxs L h ↔ ∃ bm, (u, bm) ∈ cutPairs L h := by
  rw [← cutTxs_eq, List.mem_map]
  exact ⟨fun ⟨p, hp, e⟩ => ⟨p.2, e ▸ hp⟩, fun ⟨bm, hp⟩ => ⟨(u, bm), hp, rfl⟩⟩

def isCutCb (L : Ledger) (h : Int) (x : Nat) : Bool := (((cutTxs L h).filter (·.isCoinBase)).map (·.hash)).contains x

/-- the ledger once the blocks at or above `h` are detached: their non-coinbase transactions are unconfirmed again,
their coinbases (and the credits of those) are gone; unconfirmed spenders of the coinbases are still there -/
def detach (L : Ledger) (h : Int) : Ledger :=
  { L with chain := L.chain.filter fun b => decide ((b.bm.block.height : Int) < h),
           pool := L.pool ++ (cutTxs L h).filter (fun t => !t.isCoinBase),
           credit := L.credit.filter fun p => !isCutCb L h p.1.hash }

theorem isCutCb_iff {L : Ledger} {h : Int} {x : Nat} :
    isCutCb L h x = true ↔ ∃ q ∈ cutPairs L h, q.1.isCoinBase = true ∧ q.1.hash = x := by
  simp only [isCutCb, List.contains_iff_mem, List.mem_map, List.mem_filter, mem_cutTxs]
  exact ⟨fun ⟨t, ⟨⟨bm, hq⟩, hcb⟩, e⟩ => ⟨(t, bm), hq, hcb, e⟩, fun ⟨q, hq, hcb, e⟩ => ⟨q.1, ⟨⟨q.2, hq⟩, hcb⟩, e⟩⟩

theorem mem_chainTxs_detach {L : Ledger} {h : Int} {p : Tx × BlockMeta} :
    p ∈ chainTxs (detach L h) ↔ p ∈ chainTxs L ∧ (p.2.block.height : Int) < h := by
  simp only [chainTxs, detach, List.mem_flatMap, List.mem_map, List.mem_filter, decide_eq_true_eq]
  exact ⟨fun ⟨b, ⟨hb, hh⟩, t, ht, e⟩ => ⟨⟨b, hb, t, ht, e⟩, e ▸ hh⟩,
    fun ⟨⟨b, hb, t, ht, e⟩, hh⟩ => ⟨b, ⟨hb, by subst e; exact hh⟩, t, ht, e⟩⟩

theorem mem_chainTxs_split {L : Ledger} (h : Int) {p : Tx × BlockMeta} :
    p ∈ chainTxs L ↔ p ∈ chainTxs (detach L h) ∨ p ∈ cutPairs L h := by
  rw [mem_chainTxs_detach, mem_cutPairs, ← and_or_left]
  exact (and_iff_left (Decidable.em _)).symm

theorem keep_cut_hash_ne {L : Ledger} (hl : LWF L) {h : Int} {p q : Tx × BlockMeta}
    (hp : p ∈ chainTxs (detach L h)) (hq : q ∈ cutPairs L h) : p.1.hash ≠ q.1.hash := by
  intro e
  obtain ⟨hp1, hp2⟩ := mem_chainTxs_detach.mp hp
  obtain ⟨hq1, hq2⟩ := mem_cutPairs.mp hq
  rw [hl.chainTxs_inj hp1 hq1 e] at hp2
  exact hq2 hp2

theorem remaining_cut_iff {L : Ledger} {h : Int} (q : Tx × BlockMeta) :
    Remaining L (cutPairs L h) q ↔ q ∈ chainTxs (detach L h) := by
  unfold Remaining
  rw [mem_chainTxs_detach, mem_cutPairs, not_and, Decidable.not_not]
  exact ⟨fun ⟨h1, h2⟩ => ⟨h1, h2 h1⟩, fun ⟨h1, h2⟩ => ⟨h1, fun _ => h2⟩⟩

theorem mem_pool_detach {L : Ledger} {h : Int} {u : Tx} :
    u ∈ (detach L h).pool ↔ u ∈ L.pool ∨ (u.isCoinBase = false ∧ ∃ bm, (u, bm) ∈ cutPairs L h) := by
  simp only [detach, List.mem_append, List.mem_filter, mem_cutTxs, Bool.not_eq_true', and_comm]

theorem lookup_detach (L : Ledger) (h : Int) (op : OutPoint) :
    lookup (detach L h).credit op = if !isCutCb L h op.hash then lookup L.credit op else none :=
  lookup_filter_key L.credit (fun op => !isCutCb L h op.hash) op

theorem known_detach_old {L : Ledger} {h : Int} {q : Tx × Option BlockMeta} (hq : q ∈ known (detach L h)) :
    ∃ ob, (q.1, ob) ∈ known L := by
  obtain ⟨t, ob⟩ := q
  rcases mem_known.mp hq with ⟨b, rfl, hm⟩ | ⟨rfl, hm⟩
  · exact ⟨_, known_of_mined (mem_chainTxs_detach.mp hm).1⟩
  · rcases mem_pool_detach.mp hm with h1 | ⟨_, bm, h2⟩
    · exact ⟨_, known_of_pool h1⟩
    · exact ⟨_, known_of_mined (mem_cutPairs.mp h2).1⟩

/-- the kept part of the chain is closed downwards -/
theorem kept_of_le {L : Ledger} {h : Int} {p q : Tx × BlockMeta} (hp : p ∈ chainTxs (detach L h)) (hq : q ∈ chainTxs L)
    (hle : q.2.block.height ≤ p.2.block.height) : q ∈ chainTxs (detach L h) :=
  mem_chainTxs_detach.mpr ⟨hq, Int.lt_of_le_of_lt (by exact_mod_cast hle) (mem_chainTxs_detach.mp hp).2⟩

theorem lwf_detach {L : Ledger} (hl : LWF L) (h : Int) : LWF (detach L h) := by
  have hsubl : (chainTxs (detach L h)).Sublist (chainTxs L) := sublist_flatMap_filter _ _ L.chain
  -- kept, unconfirmed before, detached non-coinbases: three parts of what was known before
  have hhash : ((known (detach L h)).map (·.1.hash)).Nodup := by
    unfold known
    show (List.map _ (_ ++ (L.pool ++ _).map _)).Nodup
    simp only [List.map_append, List.map_map, List.nodup_append, List.forall_mem_append, List.forall_mem_map]
    refine ⟨(hsubl.map _).nodup (chain_hashes_nodup hl), ⟨pool_hashes_nodup hl,
      nodup_map_filter _ _ _ (by rw [← cutTxs_eq, List.map_map]; exact cutPairs_hashes_nodup hl h),
      fun u hu v hv e => ?_⟩,
      fun p hp => ⟨fun u hu e => hl.pool_not_mined hu (mem_chainTxs_detach.mp hp).1 e, fun v hv e => ?_⟩⟩
    · obtain ⟨bm, hq⟩ := mem_cutTxs.mp (List.mem_filter.mp hv).1
      exact hl.pool_not_mined hu (mem_cutPairs.mp hq).1 e.symm
    · obtain ⟨bm, hq⟩ := mem_cutTxs.mp (List.mem_filter.mp hv).1
      exact keep_cut_hash_ne hl hp hq e
  have hkuniq : ∀ p q, p ∈ known (detach L h) → q ∈ known (detach L h) → p.1.hash = q.1.hash → p = q :=
    fun p q hp hq e => eq_of_nodup_map (fun p : Tx × Option BlockMeta => p.1.hash) _ hhash p hp q hq e
  refine ⟨?_, hhash, nodup_map_filter _ _ _ hl.creditKeys, ?_, ?_, ?_, ?_, ?_, ?_, ?_, hl.leaseKeys⟩
  · exact List.Pairwise.sublist (List.filter_sublist.map _) hl.heights
  · intro p hp
    obtain ⟨hp1, hp2⟩ := List.mem_filter.mp hp
    obtain ⟨⟨t, ob⟩, hq, e1, e2⟩ := hl.creditKnown p hp1
    rcases mem_known.mp hq with ⟨b, rfl, hm⟩ | ⟨rfl, hm⟩
    · rcases (mem_chainTxs_split h).mp hm with hk | hcut
      · exact ⟨_, known_of_mined hk, e1, e2⟩
      · cases hcb : t.isCoinBase with
        | true => rw [isCutCb_iff.mpr ⟨_, hcut, hcb, e1⟩] at hp2; cases hp2
        | false => exact ⟨(t, none), known_of_pool (mem_pool_detach.mpr (Or.inr ⟨hcb, b, hcut⟩)), e1, e2⟩
    · exact ⟨(t, none), known_of_pool (mem_pool_detach.mpr (Or.inl hm)), e1, e2⟩
  · intro u hu
    rcases mem_pool_detach.mp hu with h1 | ⟨h2, _⟩
    · exact hl.poolNoCb u h1
    · exact h2
  · exact (sublist_flatMap_of_sublist _ hsubl).nodup hl.noDouble
  · intro p hp i hi q hq e
    obtain ⟨ob, hq'⟩ := known_detach_old hq
    obtain ⟨b, rfl, hle⟩ := hl.parents p (mem_chainTxs_detach.mp hp).1 i hi _ hq' e
    have hm : (q.1, b) ∈ chainTxs L := by
      rcases mem_known.mp hq' with ⟨_, e, hm⟩ | ⟨e, _⟩
      · cases e; exact hm
      · cases e
    have hkeep := kept_of_le hp hm hle
    exact ⟨b, congrArg Prod.snd (hkuniq q (q.1, some b) hq (known_of_mined hkeep) rfl), hle⟩
  · obtain ⟨rk, hrk⟩ := hl.rank
    exact ⟨rk, fun p hp i hi q hq e =>
      (known_detach_old hp).elim fun _ hp' => (known_detach_old hq).elim fun _ hq' => hrk _ hp' i hi _ hq' e⟩
  · exact fun p hp i hi q hq e =>
      (known_detach_old hp).elim fun _ hp' => (known_detach_old hq).elim fun ob hq' => hl.validRefs _ hp' i hi (q.1, ob) hq' e
  · exact fun p hp => (known_detach_old hp).elim fun ob hp' => hl.outsBound (p.1, ob) hp'

theorem not_cutCb_of_keep {L : Ledger} (hl : LWF L) {h : Int} {p : Tx × BlockMeta}
    (hp : p ∈ chainTxs (detach L h)) : isCutCb L h p.1.hash = false := by
  cases hc : isCutCb L h p.1.hash with
  | false => rfl
  | true =>
    obtain ⟨q, hq, _, e⟩ := isCutCb_iff.mp hc
    exact absurd e.symm (keep_cut_hash_ne hl hp hq)

theorem not_cutCb_of_noncb {L : Ledger} (hl : LWF L) {h : Int} {u : Tx} (hu : ∃ ob, (u, ob) ∈ known L)
    (hcb : u.isCoinBase = false) : isCutCb L h u.hash = false := by
  cases hc : isCutCb L h u.hash with
  | false => rfl
  | true =>
    obtain ⟨q, hq, hqcb, e⟩ := isCutCb_iff.mp hc
    obtain ⟨ob, hob⟩ := hu
    have := hl.known_unique (known_of_mined (mem_cutPairs.mp hq).1) hob e
    have e2 : q.1 = u := congrArg Prod.fst this
    rw [e2, hcb] at hqcb; cases hqcb

theorem desc_first_step {pool : List Tx} {c x : Nat} (hd : Desc pool c x) :
    x = c ∨ ∃ v ∈ pool, (∃ i ∈ v.ins, i.hash = c) ∧ Desc pool v.hash x := by
  induction hd with
  | refl => exact Or.inl rfl
  | @step b u _ hu hi ih =>
    rcases ih with rfl | ⟨v, hv, hvi, hvd⟩
    · exact Or.inr ⟨u, hu, hi, Desc.refl _⟩
    · exact Or.inr ⟨v, hv, hvi, Desc.step hvd hu hi⟩

/-- the ledger after *disconnected*: the detached ledger without the unconfirmed transactions `P` that descend from a
spender of an output (`ops`: all of them, credited or not) of a detached coinbase -/
theorem apply_disconnected {L : Ledger} (hl : LWF L) (h : Int) {ops : List OutPoint} {P : Nat → Bool}
    (hops : ∀ op, op ∈ ops ↔
      ∃ p ∈ cutPairs L h, p.1.isCoinBase = true ∧ op.hash = p.1.hash ∧ op.index < p.1.outs.length)
    (hP : ∀ x, P x = true ↔ ∃ v ∈ (detach L h).pool, (∃ op ∈ ops, op ∈ v.ins) ∧ Desc (detach L h).pool v.hash x) :
    Ledger.apply L (.disconnected h) = minus (detach L h) P (fun _ => false) := by
  -- gone: the detached coinbases, and `P`
  have hgone : ∀ x, (closure (detach L h).pool (detach L h).pool.length
      (((cutTxs L h).filter (·.isCoinBase)).map (·.hash))).contains x = (isCutCb L h x || P x) := by
    intro x
    rw [Bool.eq_iff_iff, Bool.or_eq_true, List.contains_iff_mem, mem_closure_iff]
    constructor
    · rintro ⟨c, hc, hd⟩
      have hc : isCutCb L h c = true := List.contains_iff_mem.mpr hc
      rcases desc_first_step hd with rfl | ⟨v, hv, ⟨i, hi, hic⟩, hvd⟩
      · exact Or.inl hc
      · obtain ⟨q, hq, hqcb, hqh⟩ := isCutCb_iff.mp hc
        obtain ⟨_, hv'⟩ := known_detach_old (known_of_pool hv)
        exact Or.inr ((hP x).mpr ⟨v, hv, ⟨i, (hops i).mpr ⟨q, hq, hqcb, hic.trans hqh.symm,
          hl.validRefs _ hv' i hi (q.1, some q.2) (known_of_mined (mem_cutPairs.mp hq).1)
            (hqh.trans hic.symm)⟩, hi⟩, hvd⟩)
    · rintro (hx | hx)
      · exact ⟨x, List.contains_iff_mem.mp hx, Desc.refl _⟩
      · obtain ⟨v, hv, ⟨op, hop, hov⟩, hd⟩ := (hP x).mp hx
        obtain ⟨q, hq, hqcb, hqh, _⟩ := (hops op).mp hop
        exact ⟨q.1.hash, List.contains_iff_mem.mp (isCutCb_iff.mpr ⟨q, hq, hqcb, rfl⟩),
          (Desc.step (Desc.refl _) hv ⟨op, hov, hqh⟩).trans hd⟩
  simp only [Ledger.apply, closure_of_isEmpty]
  show ({ L with chain := _, pool := (detach L h).pool.filter _,
                 credit := dropCredits L.credit (closure (detach L h).pool _ _) } : Ledger) = _
  unfold minus
  congr 1
  · refine List.filter_congr fun u hu => (congrArg (!·) (hgone u.hash)).trans ?_
    -- an unconfirmed transaction is no detached coinbase
    rw [not_cutCb_of_noncb hl (known_detach_old (known_of_pool hu)) ((lwf_detach hl h).poolNoCb u hu)]
    rfl
  · show dropCredits L.credit _ = (L.credit.filter fun p => !isCutCb L h p.1.hash).filter _
    unfold dropCredits
    rw [List.filter_filter]
    refine List.filter_congr fun p _ => (congrArg (!·) (hgone p.1.hash)).trans ?_
    rw [Bool.not_or]
    exact (Bool.and_comm _ _).trans (congrArg (· && _) (Bool.and_true _).symm)

theorem noConflict_detach {L : Ledger} (hl : LWF L) (h : Int) (hn : NoConflict L) : NoConflict (detach L h) := by
  intro u hu i hi
  rw [spentConfirmed_false_iff]
  intro p hp hin
  obtain ⟨hp1, hp2⟩ := mem_chainTxs_detach.mp hp
  rcases mem_pool_detach.mp hu with hu2 | ⟨_, bm, hu2⟩
  · exact (spentConfirmed_false_iff.mp (hn u hu2 i hi)) p hp1 hin
  · obtain ⟨hu3, hu4⟩ := mem_cutPairs.mp hu2
    rw [nodup_flatMap_unique _ _ hl.noDouble p hp1 (u, bm) hu3 i hin hi] at hp2
    exact hu4 hp2

end TxStore
