import BtcwVerif.Lemmas.RefRemove
/-!
# Refinement: the specification's `closure` is the set of descendants; event *abandoned*
Also used by the later event files: `mem_closure_iff`, `closure_of_isEmpty` (RefConfirmed, RefDetach) and the fuel
bound `above_lt_fuel` (RefSpenders).
-/
namespace TxStore
open Ledger

/-- the transactions `closure` adds in one round -/
def closureMore (pool : List Tx) (rm : List Nat) : List Nat :=
  (pool.filter fun t => !rm.contains t.hash && t.ins.any fun i => rm.contains i.hash).map (·.hash)

theorem closure_succ (pool : List Tx) (n : Nat) (rm : List Nat) :
    closure pool (n + 1) rm = if (closureMore pool rm).isEmpty then rm else closure pool n (rm ++ closureMore pool rm) := rfl

/-- `closure` as a plain iteration: once a round adds nothing, no later round does -/
theorem closure_step (pool : List Tx) (n : Nat) (rm : List Nat) :
    closure pool (n + 1) rm = closure pool n (rm ++ closureMore pool rm) := by
  rw [closure_succ]
  split
  · next he =>
    rw [List.isEmpty_iff.mp he, List.append_nil]
    cases n with
    | zero => rfl
    | succ n => rw [closure_succ, if_pos he]
  · rfl

theorem closure_sub (pool : List Tx) (n : Nat) (rm : List Nat) : ∀ h ∈ rm, h ∈ closure pool n rm := fun h hh =>
  loop_keeps (loop := closure pool) (fun _ => rfl) (closure_step pool) (I := (h ∈ ·))
    (fun _ => List.mem_append_left _) n rm hh

theorem mem_closureMore {pool : List Tx} {rm : List Nat} {h : Nat} :
    h ∈ closureMore pool rm ↔ ∃ t ∈ pool, t.hash = h ∧ h ∉ rm ∧ ∃ i ∈ t.ins, i.hash ∈ rm := by
  unfold closureMore
  simp only [List.mem_map, List.mem_filter, Bool.and_eq_true, Bool.not_eq_true', List.any_eq_true,
    List.contains_iff_mem]
  constructor
  · rintro ⟨t, ⟨ht, h1, i, hi, h2⟩, rfl⟩
    exact ⟨t, ht, rfl, by simpa using h1, i, hi, h2⟩
  · rintro ⟨t, ht, rfl, h1, i, hi, h2⟩
    exact ⟨t, ⟨ht, by simpa using h1, i, hi, h2⟩, rfl⟩

theorem closure_sound (pool : List Tx) (D : Nat → Prop)
    (hD : ∀ b, D b → ∀ u ∈ pool, (∃ i ∈ u.ins, i.hash = b) → D u.hash) (n : Nat) (rm : List Nat) :
    (∀ h ∈ rm, D h) → ∀ h ∈ closure pool n rm, D h :=
  loop_keeps (loop := closure pool) (fun _ => rfl) (closure_step pool) (I := fun rm => ∀ h ∈ rm, D h)
    (fun rm hrm x hx => (List.mem_append.mp hx).elim (hrm x) fun hx => by
      obtain ⟨t, ht, rfl, _, i, hi, h2⟩ := mem_closureMore.mp hx
      exact hD _ (hrm _ h2) t ht ⟨i, hi, rfl⟩) n rm

theorem closure_closed (pool : List Tx) (n : Nat) (rm : List Nat) (hn : (pool.filter fun t => !rm.contains t.hash).length ≤ n) :
    ∀ t ∈ pool, (∃ i ∈ t.ins, i.hash ∈ closure pool n rm) → t.hash ∈ closure pool n rm := by
  -- a round that adds something collects one more transaction of the pool
  have hfix : closureMore pool (closure pool n rm) = [] :=
    loop_reaches (loop := closure pool) (fun _ => rfl) (closure_step pool) (P := fun rm => closureMore pool rm = [])
      (fun rm => (pool.filter fun t => !rm.contains t.hash).length) (fun rm h => by rw [h, List.append_nil]; exact h) (fun rm hne => by
        obtain ⟨x, hx⟩ := List.exists_mem_of_ne_nil _ hne
        obtain ⟨v, hv, hvx, hnot, _⟩ := mem_closureMore.mp hx
        apply filter_length_lt_of_imp
        · intro y _ hy
          simp only [Bool.not_eq_true', List.contains_eq_mem, List.mem_append, decide_eq_false_iff_not, not_or] at hy ⊢
          exact hy.1
        · refine ⟨v, hv, ?_, ?_⟩
          · simp only [Bool.not_eq_true', List.contains_eq_mem, decide_eq_false_iff_not]; rw [hvx]; exact hnot
          · simp only [Bool.not_eq_false', List.contains_eq_mem, List.mem_append, decide_eq_true_eq]
            right; rw [hvx]; exact hx) n rm hn
  intro t ht ⟨i, hi, hir⟩
  refine Classical.byContradiction fun hin => ?_
  have : t.hash ∈ closureMore pool (closure pool n rm) := mem_closureMore.mpr ⟨t, ht, rfl, hin, i, hi, hir⟩
  rw [hfix] at this; cases this

theorem mem_closure_iff (pool : List Tx) (roots : List Nat) (h : Nat) :
    h ∈ closure pool pool.length roots ↔ ∃ r ∈ roots, Desc pool r h := by
  constructor
  · intro hh
    refine closure_sound pool (fun x => ∃ r ∈ roots, Desc pool r x) ?_ pool.length roots ?_ h hh
    · rintro b ⟨r, hr, hd⟩ u hu hi
      exact ⟨r, hr, Desc.step hd hu hi⟩
    · intro x hx; exact ⟨x, hx, Desc.refl _⟩
  · rintro ⟨r, hr, hd⟩
    have hclosed := closure_closed pool pool.length roots (List.length_filter_le _ _)
    induction hd with
    | refl => exact closure_sub pool _ _ _ hr
    | step _ hu hi ih =>
      obtain ⟨i, hi1, hi2⟩ := hi
      exact hclosed _ hu ⟨i, hi1, by rw [hi2]; exact ih⟩

theorem closure_nil (pool : List Tx) : ∀ n, closure pool n [] = [] := by
  intro n
  cases n with
  | zero => rfl
  | succ n =>
    rw [closure_succ]
    have : closureMore pool [] = [] := by
      unfold closureMore
      simp
    rw [this]; rfl

theorem closure_of_isEmpty (pool : List Tx) (n : Nat) (roots : List Nat) :
    (if roots.isEmpty then [] else closure pool n roots) = closure pool n roots := by
  split
  · next he => rw [List.isEmpty_iff.mp he, closure_nil]
  · rfl

theorem above_lt_fuel {s : Store} {L : Ledger} (hg : Good s L) (rk : Nat → Nat) (h : Nat) : above rk L h < fuelOf s := by
  unfold above fuelOf
  rw [unmined_length hg]
  have := List.length_filter_le (fun v : Tx => decide (rk h < rk v.hash)) L.pool
  omega

theorem without_eq_minus (L : Ledger) (gone : List Nat) :
    { L with pool := L.pool.filter (fun u => !gone.contains u.hash), credit := dropCredits L.credit gone } =
      minus L (fun h => gone.contains h) (fun _ => false) := by
  unfold minus dropCredits
  congr 1
  congr 1
  funext p
  simp

theorem good_abandoned {s : Store} {L : Ledger} (hg : Good s L) {t : Tx} (now : Nat)
    (hc : Consistent L (.abandoned t)) :
    ∃ s', stepEvent s now (.abandoned t) = .ok s' ∧ Good s' (Ledger.apply L (.abandoned t)) ∧
      (NoConflict L → NoConflict (Ledger.apply L (.abandoned t))) := by
  have ht : t ∈ L.pool := by
    have := hc.extra
    simpa [Ledger.extra] using this
  obtain ⟨rk, hrk⟩ := hg.lwf.rank
  obtain ⟨s', P, h1, h2, h3⟩ := good_removeConflict rk (fuelOf s) s L t hg hrk ht (above_lt_fuel hg rk _)
  refine ⟨s', h1, ?_⟩
  simp only [Ledger.apply, inPool_iff.mpr ⟨t, ht, rfl⟩, if_true]
  -- the specification's `closure` collects the descendants, which `removeConflict` removed
  rw [without_eq_minus, minus_congr L (P' := P) (Q' := fun _ => false) (fun h => ?_) (fun _ _ => rfl)]
  · exact ⟨h2, fun hn => noConflict_minus hn _ _⟩
  · rw [Bool.eq_iff_iff, List.contains_iff_mem, mem_closure_iff, h3]
    simp

end TxStore
