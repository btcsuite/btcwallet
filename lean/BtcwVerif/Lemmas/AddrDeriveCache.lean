import BtcwVerif.Lemmas.AddrRename
import BtcwVerif.Lemmas.AddrStep
/-!
Two halves.  `DeriveFromKeyPathCache` (model `opDeriveCache`) in a state with `Inv`: `opDeriveCache_child`,
`opDeriveCache_agrees` (the claims are spelt out at `C03_derive_cache`, `C03_derive_cache_agrees`); `IsDeriveCache` requests
leave the state alone, singly and in any number.  `RenameAccount` + reopen: the account loads with the same keys, counters and
overriding address schema: a rename changes the name of one row (`opRename_rowSetName`), and the load after a reopen
(`loadAcct_locked`) does not read the name (`loadAcct_fresh_setName`).
-/
set_option linter.unusedSectionVars false
namespace AddrDerive

variable {K P : Type} [DecidableEq K] [DecidableEq P]

section
variable {hd : HD K P} {s s' : State K P} {sc : Scope} {acct : Nat} {sm : ScopeMem K P}
  {sd : ScopeDisk K P} {ai : AcctInfo K P}

theorem opDeriveCache_of_key {a b i : Nat} {k : Priv K}
    (hk : (opDeriveCache hd s sc a b i).2.1 = .key k) :
    s.mem.watchOnly = false ∧ s.mem.locked = false ∧
    ∃ ai ak k', cacheAt s sc a = some ai ∧ ai.keyPriv = some ak ∧ derive2 hd ak b i = some k' ∧ k = .hd k' := by
  revert hk
  unfold opDeriveCache
  refine ite_ind (P := fun r : State K P × Res K × List AddrSym.Row => r.2.1 = .key k → _) nofun fun hw =>
    ite_ind (P := fun r : State K P × Res K × List AddrSym.Row => r.2.1 = .key k → _) nofun fun hl => ?_
  split
  · exact nofun
  · rename_i sm hsm
    split
    · exact nofun
    · rename_i ai hai
      split
      · exact nofun
      · rename_i ak hak
        split
        · exact nofun
        · rename_i k' hk'
          intro hk
          cases hk
          exact ⟨by simpa using hw, by simpa using hl, ai, ak, k', by rw [cacheAt_of_getSM hsm]; exact hai, hak, hk', rfl⟩

theorem opDeriveCache_child (h : Inv hd s) {a b i : Nat} {k : Priv K}
    (hk : (opDeriveCache hd s sc a b i).2.1 = .key k) :
    ∃ row ak k', acctRow s sc a = some row ∧ rowPriv row = some ak ∧ RowKeyOK hd s sc a row ∧
      derive2 hd ak b i = some k' ∧ k = .hd k' := by
  obtain ⟨hw, hl, ai, ak, k', hc, hak, hk', rfl⟩ := opDeriveCache_of_key hk
  obtain ⟨row, hr, hok⟩ := h.cache sc a ai hc
  refine ⟨row, ak, k', hr, ?_, h.disk.row sc a row hr, hk', rfl⟩
  rw [← hok.enc, ← hok.unlocked hl]; exact hak

theorem opDeriveCache_agrees (h : Inv hd s) {a b i : Nat} {k : Priv K}
    (hk : (opDeriveCache hd s sc a b i).2.1 = .key k) (ac hh : Nat) :
    ∃ o, objOfHandle (opDerive hd s sc a ac b i hh).1 hh = some (.key o) ∧
      (opDerive hd s sc a ac b i hh).2.1 = .addr (infoOfKey o) ∧
      privKeyOf (opDerive hd s sc a ac b i hh).1 o = .ok k ∧
      o.scope = sc ∧ o.acct = a ∧ o.branch = b ∧ o.index = i ∧ o.imported = false := by
  obtain ⟨hw, hl, ai, ak, k', hc, hak, hk', rfl⟩ := opDeriveCache_of_key hk
  obtain ⟨row, hr, _⟩ := h.cache sc a ai hc
  obtain ⟨sm, hsm, hai⟩ := Option.bind_eq_some_iff.mp hc
  obtain ⟨sd, hsd, _⟩ := Option.bind_eq_some_iff.mp hr
  have hload : loadAcct hd s sc a = .ok (s, ai) := by
    unfold loadAcct; simp only [hsm, hsd, hai]
  have hm : mkChained hd sc a ai true b i (accountAddrType sm.schema ai (b == 1)) ac 0 =
      some { scope := sc, acct := a, acctChild := ac, branch := b, index := i, fp := 0, pub := .hd (hd.neuter k'),
             privEnc := some (.hd k'), typ := accountAddrType sm.schema ai (b == 1), imported := false,
             internal := b == 1, compressed := true, acctPub := some ai.keyPub, hasPrivAcct := ai.keyEnc.isSome } := by
    unfold mkChained; simp only [if_true, hak, hk', Option.map_some]
  refine ⟨{ scope := sc, acct := a, acctChild := ac, branch := b, index := i, fp := 0, pub := .hd (hd.neuter k'),
             privEnc := some (.hd k'), typ := accountAddrType sm.schema ai (b == 1), imported := false,
             internal := b == 1, compressed := true, acctPub := some ai.keyPub, hasPrivAcct := ai.keyEnc.isSome },
           ?_, ?_, ?_, rfl, rfl, rfl, rfl, rfl⟩
  all_goals
    unfold opDerive
    simp only [hload, hsm, hw, hl, hak, Bool.not_false, Bool.and_self, Option.isSome_some, hm, getSM_alloc, if_true]
  · simp [objOfHandle, bindH, alookup_aset, putSM, alloc]
  · simp [privKeyOf, bindH, putSM, alloc, hw, hl]

theorem getSM_restart (s : State K P) (sc : Scope) :
    getSM (opRestart s).1 sc = (getSD s sc).map fun sd => { schema := sd.schema, acctInfo := [], addrs := [], dou := [] } :=
  getSM_fresh s.disk _ rfl sc

theorem setName_rowName (r : AcctRow K P) : setName r (rowName r) = r := by
  cases r <;> rfl

/-- `loadAccountInfo` while locked, the account not cached: what the row says, unless one of the two last addresses
    does not derive.  Of the row it reads `rowPub`, `rowNext` and `rowInfo`. -/
theorem loadAcct_locked (hd : HD K P) {row : AcctRow K P} (hsm : getSM s sc = some sm) (hsd : getSD s sc = some sd)
    (hc : alookup sm.acctInfo acct = none) (hrow : alookup sd.accts acct = some row) (hl : s.mem.locked = true) :
    loadAcct hd s sc acct =
      if acct = importedAcct then .error .crypto else
      if (derive2pub hd (rowPub row) 0 (lastIdx (rowNext row false))).isNone
          || (derive2pub hd (rowPub row) 1 (lastIdx (rowNext row true))).isNone then .error .keyChain
      else .ok (putSM s sc { sm with acctInfo := (acct, rowInfo false acct row) :: sm.acctInfo }, rowInfo false acct row) := by
  unfold loadAcct
  simp only [hsm, hsd, hc, hrow, hl, Bool.not_true, Bool.false_and]
  cases row <;> rfl

theorem loadAcct_fresh_setName (hd : HD K P) (s s' : State K P) (sc : Scope) (a : Nat) (g : AcctRow K P → Nat)
    (hrow : acctRow s' sc a = (acctRow s sc a).map fun r => setName r (g r))
    {st : State K P} (hl : loadAcct hd (opRestart s').1 sc a = .ok (st, ai)) :
    ∃ st0 ai0 n, loadAcct hd (opRestart s).1 sc a = .ok (st0, ai0) ∧ ai = { ai0 with name := n } := by
  have ho := loadAcct_outcome hd (opRestart s').1 sc a
  rw [hl] at ho
  obtain ⟨sm', sd', hsm', hsd', ⟨-, hc⟩ | ⟨row', hc', hrow', -, -⟩⟩ := ho
  · -- nothing is cached after a reopen
    rw [getSM_restart] at hsm'
    obtain ⟨_, _, rfl⟩ := Option.map_eq_some_iff.mp hsm'
    cases hc
  -- the row read is a row of `s` renamed, so `s` has the scope and the row
  have hsd'' : getSD s' sc = some sd' := hsd'
  rw [acctRow_of_getSD hsd'', hrow'] at hrow
  obtain ⟨row, hr, rfl⟩ := Option.map_eq_some_iff.mp hrow.symm
  obtain ⟨sd, hsd, hrow0⟩ := Option.bind_eq_some_iff.mp hr
  have hsm : getSM (opRestart s).1 sc = some { schema := sd.schema, acctInfo := [], addrs := [], dou := [] } := by
    rw [getSM_restart, hsd]; rfl
  -- both loads are `loadAcct_locked`, and the name is in neither condition
  rw [loadAcct_locked hd hsm' hsd' hc' hrow' rfl, rowPub_setName, rowNext_setName, rowNext_setName] at hl
  rw [loadAcct_locked hd hsm hsd rfl hrow0 rfl]
  split at hl
  · cases hl
  split at hl
  · cases hl
  rename_i h1 h2
  rw [if_neg h1, if_neg h2]
  cases hl
  exact ⟨_, _, _, rfl, rowInfo_setName ..⟩

theorem opRename_rowSetName (s : State K P) (sc : Scope) (acct name : Nat) (sc' : Scope) (a : Nat) :
    ∃ g : AcctRow K P → Nat, acctRow (opRename s sc acct name).1 sc' a = (acctRow s sc' a).map fun r => setName r (g r) := by
  rcases opRename_outcome s sc acct name with ⟨e, _⟩ | ⟨sd, row, hsd, hrow, e⟩ <;> rw [e]
  · exact ⟨rowName, by simp only [setName_rowName]; cases acctRow s sc' a <;> rfl⟩
  refine ⟨fun r => if sc = sc' ∧ acct = a then name else rowName r, ?_⟩
  rw [acctRow_renameState hsd]
  split
  · rename_i e; rw [← e.1, ← e.2, acctRow_of_getSD hsd, hrow]; rfl
  · simp only [setName_rowName]
    cases acctRow s sc' a <;> rfl

end

def IsDeriveCache : Op K P → Prop
  | .deriveCache .. => True
  | _ => False

theorem step_deriveCache_state (cfg : Cfg) (hd : HD K P) (s : State K P) (sc : Scope) (a ac b i : Nat) :
    (step cfg hd s (.deriveCache sc a ac b i)).1 = s :=
  step_lift (Q := fun r => r.1 = s) (fun _ => rfl) (opDeriveCache_state hd s sc a b i)

theorem foldl_deriveCache_state (cfg : Cfg) (hd : HD K P) (qs : List (Op K P)) (hq : ∀ op ∈ qs, IsDeriveCache op)
    (s : State K P) : qs.foldl (fun st op => (step cfg hd st op).1) s = s :=
  List.foldlRecOn (motive := (· = s)) qs _ rfl fun s' h op ho => by
    have h1 := hq op ho
    cases op <;> simp only [IsDeriveCache] at h1
    rw [step_deriveCache_state]; exact h

end AddrDerive
