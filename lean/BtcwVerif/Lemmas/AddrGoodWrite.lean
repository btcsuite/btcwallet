/-
`Good` is kept by the operations that write to the database. A write is one of three kinds: fields outside the
account and address buckets, one address row, one account row; each has a lemma about the database alone and one
about `Good`.  ConvertToWatchingOnly is the exception: it maps every row and every cache entry at once and has a proof of
its own (`good_convertWO`).
-/
import BtcwVerif.Lemmas.AddrGoodOps
namespace AddrLock

/-- well-formedness of the database image alone; `Good` repeats the first two clauses but not the third, which
NewAccount needs (its number is unused), so the write lemmas take `DiskWF d` next to `Good d m` -/
structure DiskWF (d : Disk) : Prop where
  dpriv : d.watchOnly = false → ∀ sc a row, acctAns d sc a = .ok row → row.wo = false → row.hasPriv = true
  shape : ∀ sc k row, aget (d.scopes sc).addrs k = some row → (k.isChain = true ↔ row = .chain)
  accts : ∀ sc a row, aget (d.scopes sc).accts a = some row → a ≤ (d.scopes sc).lastAcct ∨ a = IMPORTED

variable {d : Disk} {m : Mem}

theorem good_open (h : DiskWF d) : Good d (openMem d) :=
  good_of_entries h.dpriv h.shape rfl rfl (fun _ _ _ h => by cases h) (fun _ _ _ h => by cases h)

theorem acctAns_congr {d' : Disk} {sc : Nat} (h : (d'.scopes sc).accts = (d.scopes sc).accts) (a : Nat) :
    acctAns d' sc a = acctAns d sc a := by unfold acctAns; rw [h]

theorem addrAns_mono {d' : Disk} {sc : Nat} {k : AKey}
    (h1 : ∀ row, aget (d.scopes sc).addrs k = some row →
      ∃ row', aget (d'.scopes sc).addrs k = some row' ∧ (row' = .chain ↔ row = .chain))
    (h2 : ∀ a row, acctAns d sc a = .ok row → ∃ row', acctAns d' sc a = .ok row')
    {x : Nat} (h : addrAns d sc k = .addr k x) : addrAns d' sc k = .addr k x := by
  cases hr : aget (d.scopes sc).addrs k with
  | none => unfold addrAns at h; rw [hr] at h; cases h
  | some row =>
    obtain ⟨row', hr', hc⟩ := h1 row hr
    by_cases hrow : row = .chain
    · rw [hc.mpr hrow] at hr'; subst hrow
      unfold addrAns at h ⊢
      rw [hr] at h; rw [hr']
      cases k with
      | chain a b i =>
        dsimp only at h ⊢
        cases ha : acctAns d sc a with
        | error e => rw [ha] at h; cases h
        | ok row0 =>
          obtain ⟨row1, hr1⟩ := h2 a row0 ha
          rw [ha] at h; rw [hr1]; exact h
      | imp _ => cases h
      | scr _ _ => cases h
    · rw [addrAns_nonchain hr hrow] at h
      rw [addrAns_nonchain hr' fun h' => hrow (hc.mp h')]; exact h

theorem addrAns_congr {d' : Disk} {sc : Nat} {k : AKey}
    (h1 : aget (d'.scopes sc).addrs k = aget (d.scopes sc).addrs k)
    (h2 : ∀ a row, acctAns d sc a = .ok row → ∃ row', acctAns d' sc a = .ok row')
    {x : Nat} (h : addrAns d sc k = .addr k x) : addrAns d' sc k = .addr k x :=
  addrAns_mono (fun row hr => ⟨row, h1.trans hr, Iff.rfl⟩) h2 h

theorem good_disk {d' : Disk} {m' : Mem} (hg : Good d m) (hw : DiskWF d')
    (hs : m'.scopes = m.scopes) (hh : m'.heap = m.heap) (hn : m'.heapN = m.heapN)
    (hwo : m'.watchOnly = d'.watchOnly) (hsy : m'.syncedTo = d'.syncedTo)
    (hacct : ∀ sc a ai, aget (m.scopes sc).acctInfo a = some ai → acctAns d' sc a = acctAns d sc a)
    (haddr : ∀ sc k id, aget (m.scopes sc).addrs k = some id → addrAns d' sc k = .addr k (keyAcct k)) : Good d' m' := by
  have hH : ∀ id, id < m.heapN → (m'.heap id).key = (m.heap id).key ∧ (m'.heap id).acct = (m.heap id).acct :=
    fun id _ => by rw [hh]; exact ⟨rfl, rfl⟩
  refine good_of_entries hw.dpriv hw.shape hwo hsy (fun sc a ai h => ?_) (fun sc k id h => ?_) <;> rw [hs] at h
  · exact (hg.acctOK h).mono (Nat.le_of_eq hn.symm) hH (hacct sc a ai h)
  · exact (hg.addrOK h).mono (Nat.le_of_eq hn.symm) hH (haddr sc k id h)

theorem diskWF_same {d' : Disk} (h : DiskWF d)
    (hacc : ∀ sc, (d'.scopes sc).accts = (d.scopes sc).accts)
    (hadr : ∀ sc, (d'.scopes sc).addrs = (d.scopes sc).addrs)
    (hla : ∀ sc, (d'.scopes sc).lastAcct = (d.scopes sc).lastAcct)
    (hwo : d'.watchOnly = d.watchOnly) : DiskWF d' :=
  ⟨fun hw sc a row hr => h.dpriv (hwo ▸ hw) sc a row (acctAns_congr (hacc sc) a ▸ hr),
   fun sc k row hk => h.shape sc k row (hadr sc ▸ hk),
   fun sc a row hk => hla sc ▸ h.accts sc a row (hacc sc ▸ hk)⟩

theorem good_disk_same {d' : Disk} {m' : Mem} (hg : Good d m) (hw : DiskWF d) (hsy : m'.syncedTo = d'.syncedTo)
    (hacc : ∀ sc, (d'.scopes sc).accts = (d.scopes sc).accts := by intro _; rfl)
    (hadr : ∀ sc, (d'.scopes sc).addrs = (d.scopes sc).addrs := by intro _; rfl)
    (hla : ∀ sc, (d'.scopes sc).lastAcct = (d.scopes sc).lastAcct := by intro _; rfl)
    (hs : m'.scopes = m.scopes := by rfl) (hh : m'.heap = m.heap := by rfl) (hn : m'.heapN = m.heapN := by rfl)
    (hmw : m'.watchOnly = m.watchOnly := by rfl) (hwo : d'.watchOnly = d.watchOnly := by rfl) :
    Good d' m' ∧ DiskWF d' := by
  have hw' := diskWF_same hw hacc hadr hla hwo
  exact ⟨good_disk hg hw' hs hh hn (hmw.trans (hg.wo.trans hwo.symm)) hsy (fun sc a _ _ => acctAns_congr (hacc sc) a)
    fun sc k id h => addrAns_congr (by rw [hadr]) (fun a row hr => ⟨row, (acctAns_congr (hacc sc) a).trans hr⟩)
      (hg.addrOK h).1, hw'⟩

/-- outcome `r = (d', m', err)` of a writing operation run in a transaction of its own: committed without an error,
rolled back to `d` (the memory stays as the operation left it) with one -/
structure WriteOK (d : Disk) (r : Disk × Mem × Option Err) : Prop where
  ok  : r.2.2 = none → Good r.1 r.2.1 ∧ DiskWF r.1
  err : r.2.2 ≠ none → Good d r.2.1

theorem writeOK_err {d' : Disk} (hg : Good d m) (e : Err) : WriteOK d (d', m, some e) :=
  ⟨fun h => (by cases h), fun _ => hg⟩

theorem writeOK_ok {d' : Disk} {m' : Mem} (h : Good d' m' ∧ DiskWF d') : WriteOK d (d', m', none) :=
  ⟨fun _ => h, fun h => absurd rfl h⟩

theorem good_changePass (cfg : Cfg) (hg : Good d m) (hw : DiskWF d) (o n : Nat) (pr : Bool) :
    WriteOK d (changePass cfg d m o n pr) :=
  ite_ind (fun _ => writeOK_err hg _) fun _ => ite_ind
    (fun _ => ite_ind (fun _ => writeOK_err hg _) fun _ =>
      writeOK_ok (good_disk_same hg hw hg.coh.synced))
    (fun _ => ite_ind (fun _ => writeOK_err hg _) fun _ =>
      writeOK_ok (good_disk_same hg hw hg.coh.synced))

theorem good_setSynced (hg : Good d m) (hw : DiskWF d) (h x : Nat) :
    WriteOK d (setSyncedTo d m h x) :=
  ite_ind (fun _ => writeOK_err hg _) fun _ =>
    writeOK_ok (good_disk_same hg hw rfl)

theorem good_setBirthday (hg : Good d m) (hw : DiskWF d) :
    Good { d with birthday := true } m ∧ DiskWF { d with birthday := true } :=
  good_disk_same hg hw hg.coh.synced

theorem good_markUsed (hg : Good d m) (hw : DiskWF d) (sc : Nat) (k : AKey) :
    Good (markUsed d m sc k).1 (markUsed d m sc k).2 ∧ DiskWF (markUsed d m sc k).1 := by
  unfold markUsed; dsimp only
  have g1 : Good d (m.updScope sc fun s => { s with addrs := adel s.addrs k }) := by
    refine good_ext hg (ext_updScope _ _ _) (fun sc' k' id h => Or.inl ?_) (fun sc' a ai h => Or.inl ⟨ai, ?_, rfl⟩)
    · rw [memUpd_scopes] at h
      split at h
      · rename_i hsc; subst hsc; rw [aget_adel] at h; split at h
        · cases h
        · exact h
      · exact h
    · rwa [memUpd_field (·.acctInfo) m sc fun s => { s with addrs := adel s.addrs k }] at h
  exact good_disk_same g1 hw g1.coh.synced (fun sc' => diskUpd_field (·.accts) d sc _ sc')
    (fun sc' => diskUpd_field (·.addrs) d sc _ sc') (fun sc' => diskUpd_field (·.lastAcct) d sc _ sc')

theorem acctAns_setAddr (d : Disk) (sc : Nat) (k : AKey) (row : ARow) (sc' a : Nat) :
    acctAns (d.setAddr sc k row) sc' a = acctAns d sc' a :=
  acctAns_congr (diskUpd_field (·.accts) d sc _ sc') a

theorem diskWF_setAddr (hw : DiskWF d) (sc : Nat) {k : AKey} {row : ARow}
    (hshape : k.isChain = true ↔ row = .chain) :
    DiskWF (d.setAddr sc k row) := by
  refine ⟨fun hwo sc' a r hr => hw.dpriv hwo sc' a r ((acctAns_setAddr ..).symm.trans hr), fun sc' k' r h => ?_,
    fun sc' a r h => ?_⟩
  · rw [aget_setAddr] at h; split at h
    · rename_i hc; cases h; rw [hc.2]; exact hshape
    · exact hw.shape sc' k' r h
  · rw [diskUpd_field (·.accts) d sc fun s => { s with addrs := aset s.addrs k row }] at h
    rw [diskUpd_field (·.lastAcct) d sc fun s => { s with addrs := aset s.addrs k row }]
    exact hw.accts sc' a r h

theorem good_disk_addAddr (hg : Good d m) (hw : DiskWF d) (sc : Nat) (k : AKey) (row : ARow)
    (hshape : k.isChain = true ↔ row = .chain)
    (hk : ∀ id, aget (m.scopes sc).addrs k = some id →
      addrAns (d.setAddr sc k row) sc k = .addr k (keyAcct k)) :
    Good (d.setAddr sc k row) m ∧
    DiskWF (d.setAddr sc k row) := by
  refine ⟨good_disk hg (diskWF_setAddr hw sc hshape) rfl rfl rfl hg.wo hg.coh.synced
    (fun sc' a _ _ => acctAns_setAddr ..) fun sc' k' id h => ?_,
    diskWF_setAddr hw sc hshape⟩
  by_cases hc : sc' = sc ∧ k' = k
  · obtain ⟨rfl, rfl⟩ := hc; exact hk id h
  · exact addrAns_congr (by rw [aget_setAddr, if_neg hc]) (fun a r hr => ⟨r, (acctAns_setAddr ..).trans hr⟩)
      (hg.addrOK h).1

theorem good_import (hg : Good d m) (hw : DiskWF d) (sc : Nat) (k : AKey) (row : ARow) (o : Obj)
    (hkc : k.isChain = false) (hrow : row ≠ .chain) (hok : o.key = k) (hoa : o.acct = IMPORTED)
    (hnc : existsAddr d m sc k = false) :
    Good (d.setAddr sc k row)
      ((m.alloc o).1.cacheAddr sc k (m.alloc o).2) ∧
    DiskWF (d.setAddr sc k row) := by
  have hnc : aget (m.scopes sc).addrs k = none := by
    cases hc : aget (m.scopes sc).addrs k with
    | none => rfl
    | some _ => unfold existsAddr at hnc; rw [hc] at hnc; cases hnc
  obtain ⟨g1, w1⟩ := good_disk_addAddr hg hw sc k row (by simp [hkc, hrow]) (by intro id h; rw [hnc] at h; cases h)
  have hka := keyAcct_not_chain hkc
  have hobj : (m.alloc o).1.heap (m.alloc o).2 = o := if_pos rfl
  refine ⟨good_addAddr (good_alloc g1 o) ⟨?_, Nat.lt_succ_self _, by rw [hobj, hok], by rw [hobj, hoa, hka]⟩, w1⟩
  rw [hka]; apply addrAns_nonchain (row := row) _ hrow
  rw [aget_setAddr, if_pos ⟨rfl, rfl⟩]

theorem good_importKey (hg : Good d m) (hw : DiskWF d) (sc k : Nat) (pr : Bool) :
    WriteOK d (importKey d m sc k pr) :=
  ite_ind (fun _ => writeOK_err hg _) fun _ => ite_ind (fun _ => writeOK_err hg _) fun hex =>
    writeOK_ok (good_import hg hw sc (.imp k) _ _ rfl (by simp) rfl rfl (by simpa using hex))

theorem good_importScript (hg : Good d m) (hw : DiskWF d) (sc kind sid : Nat) (sec : Bool) :
    WriteOK d (importScript d m sc kind sid sec) :=
  ite_ind (fun _ => writeOK_err hg _) fun _ => ite_ind (fun _ => writeOK_err hg _) fun _ =>
    ite_ind (fun _ => writeOK_err hg _) fun hex =>
      writeOK_ok (good_import hg hw sc (.scr kind sid) _ _ rfl (by split <;> simp) rfl rfl (by simpa using hex))

theorem acctAns_setRow (d : Disk) (sc acct : Nat) (row : AcctRow) (g : ScopeDisk → ScopeDisk)
    (hg : ∀ s, (g s).accts = aset s.accts acct row) (sc' a : Nat) :
    acctAns (d.updScope sc g) sc' a =
      if sc' = sc ∧ a = acct then (if a = IMPORTED then .error .crypto else .ok row) else acctAns d sc' a := by
  unfold acctAns
  rw [diskUpd_scopes]
  by_cases hsc : sc' = sc
  · subst hsc
    simp only [if_true, hg, true_and]
    by_cases ha : a = acct
    · subst ha; simp [aget_aset_self]
    · simp [ha, aget_aset]
  · simp [hsc]

/-! `g` writes the account row `row'` of `acct` and leaves the address rows alone; `hacc`, `hadr` are closed by `rfl`
once `g` has been read off the goal. -/

theorem acctAns_setRow_ne {sc acct : Nat} {row' : AcctRow} {g : ScopeDisk → ScopeDisk} {sc' a : Nat}
    (h : ¬ (sc' = sc ∧ a = acct)) (hacc : ∀ s, (g s).accts = aset s.accts acct row' := by intro _; rfl) :
    acctAns (d.updScope sc g) sc' a = acctAns d sc' a := by
  rw [acctAns_setRow d sc acct row' g hacc, if_neg h]

theorem acctAns_setRow_self {sc acct : Nat} {row' : AcctRow} {g : ScopeDisk → ScopeDisk}
    (hni : acct ≠ IMPORTED) (hacc : ∀ s, (g s).accts = aset s.accts acct row' := by intro _; rfl) :
    acctAns (d.updScope sc g) sc acct = .ok row' := by
  rw [acctAns_setRow d sc acct row' g hacc, if_pos ⟨rfl, rfl⟩, if_neg hni]

theorem addrAns_setRow {sc acct : Nat} {row' : AcctRow} {g : ScopeDisk → ScopeDisk} {sc' : Nat} {k : AKey}
    {x : Nat} (h : addrAns d sc' k = .addr k x)
    (hacc : ∀ s, (g s).accts = aset s.accts acct row' := by intro _; rfl)
    (hadr : ∀ s, (g s).addrs = s.addrs := by intro _; rfl) :
    addrAns (d.updScope sc g) sc' k = .addr k x := by
  refine addrAns_congr (by rw [diskUpd_field (·.addrs) d sc g sc' hadr]) (fun a r hr => ?_) h
  by_cases hc : sc' = sc ∧ a = acct
  · obtain ⟨rfl, rfl⟩ := hc; exact ⟨row', acctAns_setRow_self (acctAns_ok_row hr).2 hacc⟩
  · exact ⟨r, (acctAns_setRow_ne hc hacc).trans hr⟩

theorem diskWF_setRow {sc : Nat} (acct : Nat) (row' : AcctRow) {g : ScopeDisk → ScopeDisk} (hw : DiskWF d)
    (hla : (d.scopes sc).lastAcct ≤ (g (d.scopes sc)).lastAcct)
    (hnum : acct ≤ (g (d.scopes sc)).lastAcct ∨ acct = IMPORTED)
    (hp : d.watchOnly = false → row'.wo = false → row'.hasPriv = true)
    (hacc : ∀ s, (g s).accts = aset s.accts acct row' := by intro _; rfl)
    (hadr : ∀ s, (g s).addrs = s.addrs := by intro _; rfl) : DiskWF (d.updScope sc g) := by
  refine ⟨fun hwo sc' a r hr hrw => ?_, fun sc' k r h => hw.shape sc' k r ?_, fun sc' a r h => ?_⟩
  · by_cases hc : sc' = sc ∧ a = acct
    · obtain ⟨rfl, rfl⟩ := hc
      rw [acctAns_setRow d sc' a row' g hacc, if_pos ⟨rfl, rfl⟩] at hr
      split at hr
      · cases hr
      · cases hr; exact hp hwo hrw
    · exact hw.dpriv hwo sc' a r ((acctAns_setRow_ne hc hacc).symm.trans hr) hrw
  · rwa [diskUpd_field (·.addrs) d sc g sc' hadr] at h
  · rw [diskUpd_scopes] at h ⊢
    by_cases hsc : sc' = sc
    · subst hsc
      rw [if_pos rfl] at h ⊢
      rw [hacc] at h
      rcases aget_aset_some h with ⟨rfl, _⟩ | ⟨_, h⟩
      · exact hnum
      · exact (hw.accts sc' a r h).imp (fun h5 => Nat.le_trans h5 hla) fun h5 => h5
    · rw [if_neg hsc] at h ⊢; exact hw.accts sc' a r h

theorem good_setRow {sc : Nat} (acct : Nat) {row' : AcctRow} {g : ScopeDisk → ScopeDisk} {m' : Mem}
    (hg : Good d m) (hw' : DiskWF (d.updScope sc g)) (he : Ext m m')
    (haddrs : ∀ sc', (m'.scopes sc').addrs = (m.scopes sc').addrs)
    (hacct : ∀ sc' a ai, aget (m'.scopes sc').acctInfo a = some ai →
       (¬ (sc' = sc ∧ a = acct) ∧ aget (m.scopes sc').acctInfo a = some ai) ∨ AcctOK (d.updScope sc g) m' sc' a ai)
    (hacc : ∀ s, (g s).accts = aset s.accts acct row' := by intro _; rfl)
    (hadr : ∀ s, (g s).addrs = s.addrs := by intro _; rfl) :
    Good (d.updScope sc g) m' :=
  good_of_entries hw'.dpriv hw'.shape (he.wo.trans hg.wo) (he.synced.trans hg.coh.synced)
    (fun sc' a ai h => (hacct sc' a ai h).elim
      (fun ⟨hne, h0⟩ => (hg.acctOK h0).mono he.heapN he.heap (acctAns_setRow_ne hne hacc)) fun h1 => h1)
    (fun sc' _ _ h =>
      have h0 := hg.addrOK (haddrs sc' ▸ h)
      h0.mono he.heapN he.heap (addrAns_setRow h0.1 hacc hadr))

theorem good_newAccount (hg : Good d m) (hw : DiskWF d) (sc : Nat) (name : String) (wo : Bool) :
    Good (newAccount d m sc name wo).1 m ∧ DiskWF (newAccount d m sc name wo).1 := by
  have ind := @ite_ind (Disk × Except Err Nat) (fun r => Good r.1 m ∧ DiskWF r.1)
  unfold newAccount
  refine ind (fun _ => ⟨hg, hw⟩) fun _ => ind (fun _ => ⟨hg, hw⟩) fun _ =>
    ind (fun _ => ⟨hg, hw⟩) fun _ => ind (fun _ => ⟨hg, hw⟩) fun _ => ?_
  have w1 : DiskWF (d.updScope sc fun s => { s with
      accts := aset s.accts ((d.scopes sc).lastAcct + 1) ⟨name, wo, !wo, 0, 0⟩,
      lastAcct := (d.scopes sc).lastAcct + 1 }) :=
    diskWF_setRow _ ⟨name, wo, !wo, 0, 0⟩ hw (Nat.le_succ _) (Or.inl (Nat.le_refl _)) (fun _ h => by simpa using h)
  refine ⟨good_setRow _ hg w1 (Ext.refl m) (fun _ => rfl) fun sc' a ai h => Or.inl ⟨?_, h⟩, w1⟩
  -- a cached account has a row, so its number is not the new one
  rintro ⟨rfl, rfl⟩
  obtain ⟨⟨r, hr, _⟩, _⟩ := hg.acctOK h
  obtain ⟨h3, h4⟩ := acctAns_ok_row hr
  rcases hw.accts _ _ r h3 with h5 | h5
  · omega
  · exact h4 h5

theorem good_setRowInfo (hg : Good d m) (hw : DiskWF d) {sc acct : Nat} {row row' : AcctRow}
    {info' : AcctInfo} (hr : acctAns d sc acct = .ok row) (hwo : row'.wo = row.wo) (hp : row'.hasPriv = row.hasPriv)
    (hok : InfoOK m acct info' row') (hl : info'.lastExt < m.heapN ∧ info'.lastInt < m.heapN) :
    Good (d.setAcct sc acct row')
      (m.setAcct sc acct info') ∧
    DiskWF (d.setAcct sc acct row') := by
  obtain ⟨hrow, hni⟩ := acctAns_ok_row hr
  have w1 : DiskWF (d.setAcct sc acct row') :=
    diskWF_setRow acct row' hw (Nat.le_refl _) (hw.accts sc acct row hrow)
      (fun h1 h2 => hp ▸ hw.dpriv h1 sc acct row hr (hwo ▸ h2))
  refine ⟨good_setRow acct hg w1 (ext_updScope ..) (setAcct_addrs m sc acct info') fun sc' a ai h => ?_, w1⟩
  rw [aget_setAcct] at h; split at h
  · rename_i hc; cases h; rw [hc.1, hc.2]; exact Or.inr ⟨⟨row', acctAns_setRow_self hni, hok⟩, hl⟩
  · exact Or.inl ⟨‹_›, h⟩

theorem good_renameRow (hg : Good d m) (hw : DiskWF d) {sc acct : Nat} {row : AcctRow}
    (hr : acctAns d sc acct = .ok row) (name : String) :
    Good (d.setAcct sc acct { row with name := name })
      (match acctInfoOf m sc acct with
        | some ai => m.setAcct sc acct { ai with name := name }
        | none => m) ∧
    DiskWF (d.setAcct sc acct { row with name := name }) := by
  cases hc : acctInfoOf m sc acct with
  | none =>
    obtain ⟨hrow, _⟩ := acctAns_ok_row hr
    have w1 : DiskWF (d.setAcct sc acct { row with name := name }) :=
      diskWF_setRow acct { row with name := name } hw (Nat.le_refl _) (hw.accts sc acct row hrow)
        (fun hwo => hw.dpriv hwo sc acct row hr)
    refine ⟨good_setRow acct hg w1 (Ext.refl m) (fun _ => rfl) fun sc' a ai h => Or.inl ⟨?_, h⟩, w1⟩
    rintro ⟨rfl, rfl⟩; rw [show aget (m.scopes sc').acctInfo a = acctInfoOf m sc' a from rfl, hc] at h; cases h
  | some ai0 =>
    obtain ⟨⟨r, hr', _, i2, i3, i4, i5, i6, i7⟩, hl⟩ := hg.acctOK (show aget (m.scopes sc).acctInfo acct = some ai0 from hc)
    rw [hr] at hr'; cases hr'
    exact good_setRowInfo hg hw hr rfl rfl ⟨rfl, i2, i3, i4, i5, i6, i7⟩ hl

theorem good_rename (hg : Good d m) (hw : DiskWF d) (sc acct : Nat) (name : String) :
    WriteOK d (renameAccount d m sc acct name) := by
  unfold renameAccount
  refine ite_ind (fun _ => writeOK_err hg _) fun hni => ite_ind (fun _ => writeOK_err hg _) fun _ =>
    ite_ind (fun _ => writeOK_err hg _) fun _ => ?_
  cases hrow : aget (d.scopes sc).accts acct with
  | none => exact writeOK_err hg _
  | some row => exact writeOK_ok (good_renameRow hg hw (by unfold acctAns; rw [hrow]; exact if_neg hni) name)

theorem good_convertWO (cfg : Cfg) (hg : Good d m) (hw : DiskWF d) :
    Good (convertWO cfg d m).1 (convertWO cfg d m).2 ∧ DiskWF (convertWO cfg d m).1 := by
  unfold convertWO
  refine ite_ind (P := fun r : Disk × Mem => Good r.1 r.2 ∧ DiskWF r.1) (fun _ => ⟨hg, hw⟩) fun _ => ?_
  dsimp only
  have g1 : Good d (if m.locked = true then m else lockMem cfg m) := by
    split
    · exact hg
    · exact good_lockMem cfg hg
  generalize (if m.locked = true then m else lockMem cfg m) = m1 at g1 ⊢
  have hans : ∀ sc a, acctAns { d with watchOnly := true, scopes := fun i => delPrivScope cfg (d.scopes i) } sc a =
      match acctAns d sc a with
      | .ok r => .ok (delPrivAcct r)
      | .error e => .error e := by
    intro sc a
    unfold acctAns
    show (match aget ((d.scopes sc).accts.map fun p => (p.1, delPrivAcct p.2)) a with
      | none => _ | some row => _) = _
    rw [aget_map]
    cases aget (d.scopes sc).accts a with
    | none => rfl
    | some r => dsimp only [Option.map]; split <;> rfl
  have hadr : ∀ sc k row, aget (d.scopes sc).addrs k = some row →
      ∃ row', aget (delPrivScope cfg (d.scopes sc)).addrs k = some row' ∧ (row' = .chain ↔ row = .chain) := by
    intro sc k row h
    refine ⟨delPrivAddr cfg row, (aget_map ..).trans (by rw [h]; rfl), ?_⟩
    cases row <;> simp [delPrivAddr]
    split <;> simp
  have hwf : DiskWF { d with watchOnly := true, scopes := fun i => delPrivScope cfg (d.scopes i) } := by
    refine ⟨fun h => (nomatch h), fun sc k r h => ?_, fun sc a r h => ?_⟩
    · obtain ⟨r0, h0, rfl⟩ := aget_map_some (f := fun p : AKey × ARow => delPrivAddr cfg p.2) h
      obtain ⟨_, h1, hc⟩ := hadr sc k r0 h0
      exact (hw.shape sc k r0 h0).trans ((Option.some.inj (h.symm.trans h1) ▸ hc).symm)
    · obtain ⟨r0, h0, _⟩ := aget_map_some (f := fun p : Nat × AcctRow => delPrivAcct p.2) h
      exact hw.accts sc a r0 h0
  have key : ∀ m2 : Mem, m2.heapN = m1.heapN →
      (∀ id, (m2.heap id).key = (m1.heap id).key ∧ (m2.heap id).acct = (m1.heap id).acct) →
      m2.syncedTo = m1.syncedTo → m2.watchOnly = true →
      (∀ sc, (m2.scopes sc).acctInfo = (m1.scopes sc).acctInfo.map (fun p => (p.1, { p.2 with hasEnc := false })) ∧
        (m2.scopes sc).addrs = (m1.scopes sc).addrs) →
      Good { d with watchOnly := true, scopes := fun i => delPrivScope cfg (d.scopes i) } m2 := by
    intro m2 hN hH hsy hwo hsc
    refine good_of_entries hwf.dpriv hwf.shape hwo (hsy.trans g1.coh.synced) (fun sc a ai h => ?_) (fun sc k id h => ?_)
    · rw [(hsc sc).1] at h
      obtain ⟨ai0, h0, rfl⟩ := aget_map_some (f := fun p : Nat × AcctInfo => { p.2 with hasEnc := false }) h
      obtain ⟨⟨row, hr, hok⟩, hl⟩ := g1.acctOK h0
      refine AcctOK.view (ai := ai0) ⟨⟨delPrivAcct row, by rw [hans, hr], ?_⟩, hN ▸ hl⟩ rfl
      have := infoOK_ext (fun id _ => hH id) hok hl.1 hl.2
      unfold delPrivAcct; split <;> exact this
    · rw [(hsc sc).2] at h
      exact (g1.addrOK h).mono (Nat.le_of_eq hN.symm) (fun id _ => hH id)
        (addrAns_mono (hadr sc k) (fun a r hr => ⟨delPrivAcct r, by rw [hans, hr]⟩) (g1.addrOK h).1)
  exact ⟨key _ rfl (fun id => by dsimp only; split <;> exact ⟨rfl, rfl⟩) rfl rfl (fun sc => ⟨rfl, rfl⟩), hwf⟩

end AddrLock
