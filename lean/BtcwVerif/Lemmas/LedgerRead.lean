import BtcwVerif.Lemmas.KMap
import BtcwVerif.Model.Ledger
/-!
# Reading the ledger: facts about `Ledger` alone (no store)

Membership in `chainTxs` / `known`, the Boolean tests (`isKnown`, `inPool`, `inChain`, `spentConfirmed`, `spent`) as
quantified statements, and `Ledger.lookup`: the ledger's association lists (`leases`, `credit`) are buckets in arrival
order and `Ledger.lookup` is the bucket lookup (`lookup_eq_find?`), so the bucket lemmas of Lemmas/KMap.lean speak
about both sides of the refinement.
-/
namespace TxStore
open KMap Ledger

theorem lookup_eq_find? {α : Type} (l : List (OutPoint × α)) (op : OutPoint) : lookup l op = KMap.find? l op := by
  induction l with
  | nil => rfl
  | cons p t ih =>
    obtain ⟨k, v⟩ := p
    rw [find?_cons, ← ih]
    unfold lookup
    by_cases h : k = op <;> simp [h]

/-- dropping the entries of one outpoint is the bucket `Delete` -/
theorem filter_ne_eq_erase {α : Type} (l : List (OutPoint × α)) (op : OutPoint) :
    (l.filter fun p => p.1 != op) = KMap.erase l op := rfl

theorem mem_chainTxs {L : Ledger} {t : Tx} {bm : BlockMeta} :
    (t, bm) ∈ chainTxs L ↔ ∃ lb ∈ L.chain, lb.bm = bm ∧ t ∈ lb.txs := by
  unfold chainTxs
  simp only [List.mem_flatMap, List.mem_map, Prod.mk.injEq]
  constructor
  · rintro ⟨lb, hlb, t', ht', rfl, rfl⟩; exact ⟨lb, hlb, rfl, ht'⟩
  · rintro ⟨lb, hlb, rfl, ht⟩; exact ⟨lb, hlb, t, ht, rfl, rfl⟩

theorem mem_known {L : Ledger} {t : Tx} {ob : Option BlockMeta} :
    (t, ob) ∈ known L ↔ (∃ bm, ob = some bm ∧ (t, bm) ∈ chainTxs L) ∨ (ob = none ∧ t ∈ L.pool) := by
  unfold known
  simp only [List.mem_append, List.mem_map, Prod.mk.injEq]
  constructor
  · rintro (⟨p, hp, rfl, rfl⟩ | ⟨t', ht', rfl, rfl⟩)
    · exact Or.inl ⟨p.2, rfl, hp⟩
    · exact Or.inr ⟨rfl, ht'⟩
  · rintro (⟨bm, rfl, h⟩ | ⟨rfl, h⟩)
    · exact Or.inl ⟨(t, bm), h, rfl, rfl⟩
    · exact Or.inr ⟨t, h, rfl, rfl⟩

theorem known_of_mined {L : Ledger} {t : Tx} {bm : BlockMeta} (h : (t, bm) ∈ chainTxs L) : (t, some bm) ∈ known L :=
  mem_known.mpr (Or.inl ⟨bm, rfl, h⟩)

theorem known_of_pool {L : Ledger} {t : Tx} (h : t ∈ L.pool) : (t, none) ∈ known L :=
  mem_known.mpr (Or.inr ⟨rfl, h⟩)

theorem isKnown_iff {L : Ledger} {h : Nat} : isKnown L h = true ↔ ∃ p ∈ known L, p.1.hash = h := by
  simp only [isKnown, List.any_eq_true, beq_iff_eq]

theorem isKnown_false_iff {L : Ledger} {h : Nat} : isKnown L h = false ↔ ∀ p ∈ known L, p.1.hash ≠ h := by
  simp only [isKnown, List.any_eq_false, beq_iff_eq, ne_eq]

theorem inPool_iff {L : Ledger} {h : Nat} : inPool L h = true ↔ ∃ t ∈ L.pool, t.hash = h := by
  simp only [inPool, List.any_eq_true, beq_iff_eq]

theorem inPool_false_iff {L : Ledger} {h : Nat} : inPool L h = false ↔ ∀ t ∈ L.pool, t.hash ≠ h := by
  simp only [inPool, List.any_eq_false, beq_iff_eq, ne_eq]

theorem inChain_iff {L : Ledger} {h : Nat} : inChain L h = true ↔ ∃ p ∈ chainTxs L, p.1.hash = h := by
  simp only [inChain, List.any_eq_true, beq_iff_eq]

theorem inChain_false_iff {L : Ledger} {h : Nat} : inChain L h = false ↔ ∀ p ∈ chainTxs L, p.1.hash ≠ h := by
  simp only [inChain, List.any_eq_false, beq_iff_eq, ne_eq]

theorem spentConfirmed_iff {L : Ledger} {op : OutPoint} :
    spentConfirmed L op = true ↔ ∃ p ∈ chainTxs L, op ∈ p.1.ins := by
  simp only [spentConfirmed, List.any_eq_true, List.contains_iff_mem]

theorem spentConfirmed_false_iff {L : Ledger} {op : OutPoint} :
    spentConfirmed L op = false ↔ ∀ p ∈ chainTxs L, op ∉ p.1.ins := by
  simp only [spentConfirmed, List.any_eq_false, List.contains_iff_mem]

theorem spent_iff {L : Ledger} {op : OutPoint} : Ledger.spent L op = true ↔ ∃ p ∈ known L, op ∈ p.1.ins := by
  simp only [Ledger.spent, List.any_eq_true, List.contains_iff_mem]

theorem lookup_eq_none_iff {α : Type} (l : List (OutPoint × α)) (op : OutPoint) :
    lookup l op = none ↔ ∀ p ∈ l, p.1 ≠ op := by
  rw [lookup_eq_find?, find?_eq_none_iff, keys, List.mem_map]
  exact ⟨fun h p hp e => h ⟨p, hp, e⟩, fun h ⟨p, hp, e⟩ => h p hp e⟩

theorem lookup_isSome_iff {α : Type} (l : List (OutPoint × α)) (op : OutPoint) :
    (lookup l op).isSome = true ↔ ∃ p ∈ l, p.1 = op := by
  rw [lookup_eq_find?, ← mem_keys_iff_find?, keys, List.mem_map]

theorem mem_of_lookup {α : Type} {l : List (OutPoint × α)} {op : OutPoint} {v : α} (h : lookup l op = some v) :
    (op, v) ∈ l := mem_of_find? l ((lookup_eq_find? l op).symm.trans h)

theorem lookup_eq_some_iff {α : Type} (l : List (OutPoint × α)) (hn : (l.map (·.1)).Nodup) (op : OutPoint) (v : α) :
    lookup l op = some v ↔ (op, v) ∈ l := by
  rw [lookup_eq_find?]; exact (mem_iff_find? l hn op v).symm

theorem lookup_filter_key {α : Type} (l : List (OutPoint × α)) (f : OutPoint → Bool) (op : OutPoint) :
    lookup (l.filter fun p => f p.1) op = if f op then lookup l op else none := by
  simp only [lookup_eq_find?]; exact find?_filter_key f l op

end TxStore
