import BtcwVerif.Lemmas.AddrInvOps
/-!
Lookup, `DeriveFromKeyPath`, the imports and `MarkUsed` are `Ok` moves.  `nextAddresses` / `extendAddresses` either are
one (refused) or issue a run of valid indices (`Issued`), which keeps `Inv` and `Nodups`.
-/
set_option linter.unusedSectionVars false
namespace AddrDerive
open AddrSym

variable {K P : Type} [DecidableEq K] [DecidableEq P]

section
variable {hd : HD K P} {s s' : State K P} {sc : Scope} {acct : Nat} {sm : ScopeMem K P}
  {sd : ScopeDisk K P} {ai : AcctInfo K P}

/-- common tail of `loadAndCacheAddress` (chained row) and `DeriveFromKeyPath` -/
theorem Inv.addChained (hlaw : hd.Lawful) {s1 : State K P} (h1 : Inv hd s1)
    (hc : cacheAt s1 sc acct = some ai) {sm1 : ScopeMem K P} (hsm : getSM s1 sc = some sm1)
    {priv : Bool} (hpriv : priv = (!s1.mem.locked && !s1.mem.watchOnly && ai.keyPriv.isSome))
    {b i : Nat} {typ : AddrType} {ac fp : Nat} {o : KeyObj K P}
    (hm : mkChained hd sc acct ai priv b i typ ac fp = some o) (addrs' : List (AddrId P × Nat)) :
    Inv hd (putSM (alloc s1 (.key o)).1 sc
      { sm1 with addrs := addrs', dou := if priv then sm1.dou else sm1.dou ++ [(s1.mem.heap.length, b, i)] }) := by
  have c := mkChained_ok hlaw h1 hc hm
  obtain ⟨row, hr, hcok⟩ := h1.cache sc acct ai hc
  have hb := c.branch
  have hi := c.index
  subst hb hi
  cases priv with
  | true => exact h1.addObj hsm o c.ok addrs' false nofun fun _ _ _ => .inl (c.priv rfl)
  | false =>
    obtain ⟨p, hp1, hp2⟩ := c.pub rfl
    refine h1.addObj hsm o c.ok addrs' true (fun _ => ⟨c.scope, c.notImp, by rw [c.acct, hc]; rfl, ai.keyPub, p, c.acctPub, hp1, hp2⟩)
      fun _ hpa hw => .inr ⟨?_, rfl⟩
    -- an unlocked manager would have used the account's private key
    cases hlk : s1.mem.locked with
    | true => rfl
    | false =>
      rw [c.hasPriv] at hpa
      have := hcok.unlocked hlk
      rw [hlk, hw, this] at hpriv
      simp [hpa] at hpriv

theorem opDerive_ok (hlaw : hd.Lawful) (h : Inv hd s) (sc : Scope) (acct ac b i hh : Nat) :
    Ok hd s (opDerive hd s sc acct ac b i hh).1 := by
  unfold opDerive
  split
  · exact .refl h
  · rename_i s1 ai hl
    obtain ⟨x1, hc, _, sm, sd, hsm, hsd⟩ := loadAcct_spec h hl
    simp only [hsm]
    split
    · exact x1
    · rename_i o hm
      simp only [getSM_alloc, hsm]
      exact ⟨(x1.inv.addChained hlaw hc hsm rfl hm sm.addrs).bindH _ _, x1.keeps.trans (Keeps.addObj s1 hsm ..)⟩

theorem impObj_ok (s : State K P) (sc : Scope) (k : Nat) (hasPriv comp : Bool) (typ : AddrType) :
    KeyObjOK hd s (KeyObj.mk sc importedAcct 0 0 0 0 (.imp k) (if hasPriv then some (.imp k) else none) typ true false
      comp none false : KeyObj K P) := by
  refine ⟨?_, by simp, fun _ => ⟨k, rfl⟩⟩
  intro k' hk'
  cases hasPriv <;> simp at hk'
  subst hk'; rfl

theorem Inv.addImp (h : Inv hd s) (hsm : getSM s sc = some sm) (k : Nat) (hasPriv comp : Bool)
    (typ : AddrType) (addrs' : List (AddrId P × Nat)) :
    Inv hd (putSM (alloc s (.key (KeyObj.mk sc importedAcct 0 0 0 0 (.imp k) (if hasPriv then some (.imp k) else none) typ true
      false comp none false))).1 sc { sm with addrs := addrs' }) :=
  h.addObj hsm _ (impObj_ok s sc k hasPriv comp typ) _ false nofun (fun hni => nomatch hni)

theorem opLookup_ok (hlaw : hd.Lawful) (h : Inv hd s) (sc : Scope) (id : AddrId P) (hh : Nat) :
    Ok hd s (opLookup hd s sc id hh).1 := by
  unfold opLookup
  split
  · rename_i sm sd hsm0 hsd0
    split
    · split
      · exact (Ok.refl h).bindH _ _
      · exact .refl h
    · split
      · exact .refl h
      · rename_i acct b i hrow
        split
        · exact .refl h
        · rename_i s1 ai hl
          obtain ⟨x1, hc, _, sm1, sd1, hsm, hsd⟩ := loadAcct_spec h hl
          dsimp only
          split
          · exact x1
          · rename_i o hm
            simp only [getSM_alloc, hsm]
            exact ⟨(x1.inv.addChained hlaw hc hsm rfl hm _).bindH _ _, x1.keeps.trans (Keeps.addObj s1 hsm ..)⟩
      · rename_i k comp hasPriv hrow
        simp only [getSM_alloc, hsm0]
        exact ⟨(h.addImp hsm0 ..).bindH _ _, Keeps.addObj s hsm0 _ _ sm.dou ..⟩
      · rename_i k kind secret encKey hrow
        simp only [getSM_alloc, hsm0]
        exact ⟨(h.addScr hsm0 _ _).bindH _ _, Keeps.addObj s hsm0 _ _ sm.dou ..⟩
  · exact .refl h

theorem Ok.putNonChain (h : Inv hd s)
    (hsd : getSD s sc = some sd) (id : AddrId P) (row : AddrRow) (hrow : ∀ a b i, row ≠ .chain a b i) :
    Ok hd s (putSD s sc { sd with addrs := aset sd.addrs id row }) := by
  refine ⟨h.diskUpd hsd _ rfl rfl (fun _ => rfl) fun id' a b i hr => ?_, .putSD hsd _ fun _ => rfl⟩
  rw [alookup_aset] at hr
  split at hr
  · exact absurd (Option.some.inj hr) (hrow a b i)
  · exact Or.inl hr

theorem importKey_ok (h : Inv hd s) (sc : Scope) (k : Nat) (comp wp : Bool) (hh : Nat) :
    Ok hd s (importKey s sc k comp wp hh).1 := by
  unfold importKey
  split
  · rename_i sm sd hsm hsd
    refine ite_fst (fun _ => .refl h) fun _ => ?_
    have x1 := Ok.putNonChain h hsd (.key (.imp k) (idClass sm.schema.ext) (comp || sm.schema.ext == .p2tr))
      (AddrRow.imp k comp wp) nofun
    simp only [getSM_alloc, getSM_putSD, hsm]
    exact ⟨(x1.inv.addImp (sc := sc) (sm := sm) hsm ..).bindH _ _, x1.keeps.trans (Keeps.addObj (putSD s sc _) hsm _ _ sm.dou ..)⟩
  · exact .refl h

theorem opImportPriv_ok (h : Inv hd s) (sc : Scope) (k : Nat) (comp : Bool) (hh : Nat) :
    Ok hd s (opImportPriv s sc k comp hh).1 := by
  unfold opImportPriv
  exact ite_fst (fun _ => .refl h) fun _ => importKey_ok h ..

theorem opImportScript_ok (cfg : Cfg) (h : Inv hd s) (sc : Scope) (k kind : Nat) (sec : Bool) (hh : Nat) :
    Ok hd s (opImportScript cfg s sc k kind sec hh).1 := by
  unfold opImportScript
  refine ite_fst (fun _ => .refl h) fun _ => ite_fst (fun _ => .refl h) fun _ => ?_
  split
  · rename_i sm sd hsm hsd
    refine ite_fst (fun _ => .refl h) fun _ => ?_
    have x1 := Ok.putNonChain h hsd (.scr k kind)
      (AddrRow.scr k kind sec (some (if sec then memScriptKey cfg else KeyClass.pub))) nofun
    simp only [getSM_alloc, getSM_putSD, hsm]
    exact ⟨(x1.inv.addScr (sc := sc) (sm := sm) hsm _ _).bindH _ _, x1.keeps.trans (Keeps.addObj (putSD s sc _) hsm _ _ sm.dou ..)⟩
  · exact .refl h

theorem opMarkUsed_ok (h : Inv hd s) (sc : Scope) (id : AddrId P) (d : String) :
    Ok hd s (opMarkUsed s sc id d).1 := by
  unfold opMarkUsed
  split
  · rename_i sm sd hsm hsd
    dsimp only
    have h1 : Inv hd (putSD s sc (if sd.used.contains id = true then sd else { sd with used := id :: sd.used })) := by
      refine h.diskUpd hsd _ ?_ ?_ (fun a => ?_) fun id' a b i hr => ?_
      · split <;> rfl
      · split <;> rfl
      · split <;> rfl
      · split at hr <;> exact Or.inl hr
    refine ⟨h1.setAddrs (sc := sc) (sm := sm) hsm _,
      (Keeps.putSD hsd _ fun a => ?_).trans (Keeps.putSM (s := putSD s sc _) hsm { sm with addrs := aerase sm.addrs id } rfl)⟩
    split <;> rfl
  · exact .refl h


/-- an object about to be issued by `nextAddresses` / `extendAddresses` in scope `sc` -/
structure Pend (hd : HD K P) (s : State K P) (sc : Scope) (toDou : Bool) (o : KeyObj K P) : Prop where
  ok : KeyObjOK hd s o
  scope : o.scope = sc
  notImp : o.imported = false
  cached : (cacheAt s sc o.acct).isSome
  pub : ∃ row p, acctRow s sc o.acct = some row ∧ o.acctPub = some (rowPub row) ∧
    derive2pub hd (rowPub row) o.branch o.index = some p ∧ o.pub = .hd p
  sign : o.hasPrivAcct = true → s.mem.watchOnly = false → o.privEnc.isSome ∨ (s.mem.locked = true ∧ toDou = true)

/-- what issuing one object leaves alone, so that the objects still to be issued stay `Pend` -/
structure KeyFrame (s s' : State K P) : Prop where
  locked : s'.mem.locked = s.mem.locked
  mwo : s'.mem.watchOnly = s.mem.watchOnly
  dwo : s'.disk.watchOnly = s.disk.watchOnly
  key : ∀ sc a, (acctRow s' sc a).map rowKey = (acctRow s sc a).map rowKey
  cmono : ∀ sc a, (cacheAt s sc a).isSome → (cacheAt s' sc a).isSome

theorem Pend.mono {hd : HD K P} {s s' : State K P} {sc : Scope} {t : Bool} {o : KeyObj K P} (f : KeyFrame s s')
    (p : Pend hd s sc t o) : Pend hd s' sc t o := by
  refine ⟨KeyObjOK.congr f.key f.dwo p.ok, p.scope, p.notImp, f.cmono _ _ p.cached, ?_, ?_⟩
  · obtain ⟨row, q, h1, h2, h3, h4⟩ := p.pub
    obtain ⟨row', hr', hk⟩ := acctRow_of_key (f.key sc o.acct) h1
    have hp := rowKey_pub _ _ hk
    exact ⟨row', q, hr', by rw [hp]; exact h2, by rw [hp]; exact h3, h4⟩
  · rw [f.mwo, f.locked]; exact p.sign

theorem rowKey_setNext (row : AcctRow K P) (int : Bool) (n : Nat) : rowKey (setNext row int n) = rowKey row := by
  cases row <;> cases int <;> simp [setNext, rowKey]

theorem bumpAcctRow_eq (sc : Scope) (sd : ScopeDisk K P) {a : Nat} (b i : Nat) {row : AcctRow K P}
    (h : alookup sd.accts a = some row) :
    (bumpAcctRow sc sd a b i).1 = { sd with accts := aset sd.accts a (setNext row (b == 1) (i + 1)) } := by
  unfold bumpAcctRow; simp only [h]

def issueOne (sc : Scope) (toDou : Bool) (o : KeyObj K P) (s : State K P) (sm : ScopeMem K P) (sd : ScopeDisk K P) : State K P :=
  putSM (putSD (alloc s (.key o)).1 sc
      (bumpAcctRow sc { sd with addrs := aset sd.addrs (chainId o) (AddrRow.chain o.acct o.branch o.index) } o.acct o.branch o.index).1) sc
    { sm with addrs := aset sm.addrs (chainId o) s.mem.heap.length,
              dou := if toDou then sm.dou ++ [(s.mem.heap.length, o.branch, o.index)] else sm.dou }

theorem issueAll_cons {sc : Scope} {toDou : Bool} {o : KeyObj K P} {rest : List (KeyObj K P)} {s : State K P} {rows : List Row}
    {idxs : List Nat} {sm : ScopeMem K P} {sd : ScopeDisk K P} (hsm : getSM s sc = some sm) (hsd : getSD s sc = some sd) :
    issueAll sc toDou (o :: rest) s rows idxs = issueAll sc toDou rest (issueOne sc toDou o s sm sd)
      (rows ++ addrRowPuts sc (chainId o) (AddrRow.chain o.acct o.branch o.index) ++
        (bumpAcctRow sc { sd with addrs := aset sd.addrs (chainId o) (AddrRow.chain o.acct o.branch o.index) } o.acct o.branch o.index).2)
      (idxs ++ [s.mem.heap.length]) := by
  simp only [issueAll, hsm, hsd]; rfl

theorem issueOne_views {sc : Scope} {toDou : Bool} {o : KeyObj K P} {s : State K P} {sm : ScopeMem K P} {sd : ScopeDisk K P}
    (hsm : getSM s sc = some sm) (hsd : getSD s sc = some sd) {row : AcctRow K P} (hrow : alookup sd.accts o.acct = some row) :
    (issueOne sc toDou o s sm sd).mem.heap = s.mem.heap ++ [.key o] ∧
    (∀ sc' a', acctRow (issueOne sc toDou o s sm sd) sc' a' =
      if sc = sc' ∧ o.acct = a' then some (setNext row (o.branch == 1) (o.index + 1)) else acctRow s sc' a') ∧
    (∀ sc' a', cacheAt (issueOne sc toDou o s sm sd) sc' a' = cacheAt s sc' a') ∧
    ∃ sm' sd', getSM (issueOne sc toDou o s sm sd) sc = some sm' ∧ getSD (issueOne sc toDou o s sm sd) sc = some sd' ∧
      alookup sd'.accts o.acct = some (setNext row (o.branch == 1) (o.index + 1)) := by
  have hb := bumpAcctRow_eq sc { sd with addrs := aset sd.addrs (chainId o) (AddrRow.chain o.acct o.branch o.index) }
    o.branch o.index hrow
  refine ⟨rfl, acctRow_putSD_upd (s := (alloc s (.key o)).1) hsd _ (fun _ => by rw [hb]; exact alookup_aset ..),
    cacheAt_putSM_same (s := putSD (alloc s (.key o)).1 sc _) hsm _ rfl, _, _, by rw [issueOne, getSM_putSM, if_pos rfl],
    by rw [issueOne, getSD_putSM, getSD_putSD, if_pos rfl], by rw [hb]; exact alookup_aset_self ..⟩

theorem issueOne_inv {hd : HD K P} {s : State K P} (h : Inv hd s) {sc : Scope} {sm : ScopeMem K P} {sd : ScopeDisk K P}
    (hsm : getSM s sc = some sm) (hsd : getSD s sc = some sd) {toDou : Bool} {o : KeyObj K P} (p : Pend hd s sc toDou o) :
    Inv hd (issueOne sc toDou o s sm sd) ∧ KeyFrame s (issueOne sc toDou o s sm sd) ∧
      (Nodups s → Nodups (issueOne sc toDou o s sm sd)) := by
  obtain ⟨row, q, hr, hap, hq, hpub⟩ := p.pub
  have hrow : alookup sd.accts o.acct = some row := by rw [← acctRow_of_getSD hsd]; exact hr
  obtain ⟨_, v2, v3, _⟩ := issueOne_views (toDou := toDou) hsm hsd hrow
  have hA := h.addObj hsm o p.ok (aset sm.addrs (chainId o) s.mem.heap.length) toDou
    (fun _ => ⟨p.scope, p.notImp, p.cached, rowPub row, q, hap, hq, hpub⟩) (fun _ => p.sign)
  have hB := hA.diskUpd (sc := sc) (sd := sd) hsd
    { sd with addrs := aset sd.addrs (chainId o) (AddrRow.chain o.acct o.branch o.index),
              accts := aset sd.accts o.acct (setNext row (o.branch == 1) (o.index + 1)) }
    rfl rfl (alookup_aset_map _ hrow (rowKey_setNext ..)) (by
      intro id a b i hlk
      rw [alookup_aset] at hlk
      split at hlk
      · rename_i hid
        cases hlk
        refine Or.inr ⟨_, q, idClass o.typ, alookup_aset_self .., by rw [← rowKey_pub _ _ (rowKey_setNext ..)] at hq; exact hq, ?_⟩
        rw [← hid, chainId, hpub]
      · exact Or.inl hlk)
  have hb := bumpAcctRow_eq sc { sd with addrs := aset sd.addrs (chainId o) (AddrRow.chain o.acct o.branch o.index) }
    o.branch o.index hrow
  refine ⟨by rw [issueOne, hb]; exact hB, ⟨rfl, rfl, rfl, fun sc' a => ?_, fun sc' a x => by rw [v3]; exact x⟩,
    fun hn => (Nodups.putSD (s := (alloc s (.key o)).1) ⟨hn.m, hn.d⟩ _ _).putSM _ _⟩
  rw [v2]
  split
  · rename_i e; rw [← e.1, ← e.2, hr, Option.map_some, Option.map_some, rowKey_setNext]
  · rfl

theorem KeyFrame.trans {s s' s'' : State K P} (f : KeyFrame s s') (g : KeyFrame s' s'') : KeyFrame s s'' :=
  ⟨g.locked.trans f.locked, g.mwo.trans f.mwo, g.dwo.trans f.dwo, fun sc a => (g.key sc a).trans (f.key sc a),
    fun _ _ x => g.cmono _ _ (f.cmono _ _ x)⟩

theorem KeyFrame.refl (s : State K P) : KeyFrame s s := ⟨rfl, rfl, rfl, fun _ _ => rfl, fun _ _ x => x⟩


theorem issueAll_inv (sc : Scope) (toDou : Bool) (objs : List (KeyObj K P)) :
    ∀ (s : State K P) (rows : List Row) (idxs : List Nat), Inv hd s → (∀ o ∈ objs, Pend hd s sc toDou o) →
      Inv hd (issueAll sc toDou objs s rows idxs).1 ∧ KeyFrame s (issueAll sc toDou objs s rows idxs).1 ∧
        (Nodups s → Nodups (issueAll sc toDou objs s rows idxs).1) := by
  induction objs with
  | nil =>
    intro s rows idxs h _
    exact ⟨h, KeyFrame.refl s, id⟩
  | cons o rest ih =>
    intro s rows idxs h hp
    unfold issueAll
    split
    · rename_i sm sd hsm hsd
      obtain ⟨h2, f2, n2⟩ := issueOne_inv h hsm hsd (hp o List.mem_cons_self)
      obtain ⟨h3, f3, n3⟩ := ih (issueOne sc toDou o s sm sd) _ _ h2 (fun o' ho' => (hp o' (List.mem_cons_of_mem _ ho')).mono f2)
      exact ⟨h3, f2.trans f3, n3 ∘ n2⟩
    · exact ⟨h, KeyFrame.refl s, id⟩

theorem commitIssue_inv (h : Inv hd s) (sc : Scope) (acct : Nat) (internal toDou : Bool)
    (objs : List (KeyObj K P)) (nn : Nat) (hp : ∀ o ∈ objs, Pend hd s sc toDou o) :
    Inv hd (commitIssue s sc acct internal toDou objs nn).1 ∧ (Nodups s → Nodups (commitIssue s sc acct internal toDou objs nn).1) := by
  obtain ⟨h1, _, n1⟩ := issueAll_inv sc toDou objs s [] [] h hp
  unfold commitIssue
  rcases hi : issueAll sc toDou objs s [] [] with ⟨s1, rows, idxs⟩
  rw [hi] at h1 n1
  simp only at h1 n1 ⊢
  split
  · rename_i sm hsm
    split
    · rename_i ai hai
      refine ⟨?_, fun hn => (n1 hn).putSM _ _⟩
      dsimp only
      cases internal
      · exact h1.setCache (ai' := { ai with nextExt := nn }) hsm hai rfl rfl rfl
      · exact h1.setCache (ai' := { ai with nextInt := nn }) hsm hai rfl rfl rfl
    · exact ⟨h1, n1⟩
  · exact ⟨h1, n1⟩

theorem mkAll_mem (hd : HD K P) (sc : Scope) (acct : Nat) (ai : AcctInfo K P) (usePriv : Bool) (b : Nat) (typ : AddrType)
    (ac fp : Nat) : ∀ (idxs : List Nat) (objs : List (KeyObj K P)), mkAll hd sc acct ai usePriv b typ ac fp idxs = some objs →
      ∀ o ∈ objs, ∃ i ∈ idxs, mkChained hd sc acct ai usePriv b i typ ac fp = some o := by
  intro idxs
  induction idxs with
  | nil => intro objs h; simp [mkAll] at h; subst h; intro o ho; cases ho
  | cons i t ih =>
    intro objs h
    unfold mkAll at h
    split at h
    · rename_i o os ho hos
      cases h
      intro o' ho'
      rcases List.mem_cons.mp ho' with rfl | ho'
      · exact ⟨i, List.mem_cons_self, ho⟩
      · obtain ⟨j, hj, hm⟩ := ih os hos o' ho'
        exact ⟨j, List.mem_cons_of_mem _ hj, hm⟩
    · cases h

theorem mkAll_pend (hlaw : hd.Lawful) (hn : hd.NoHardPub) {s1 : State K P} (h1 : Inv hd s1)
    (hc : cacheAt s1 sc acct = some ai) {usePriv toDou : Bool} {b : Nat} {typ : AddrType}
    {ac fp : Nat} {idxs : List Nat} {objs : List (KeyObj K P)}
    (hvalid : ∀ i ∈ idxs, (derive2pub hd ai.keyPub b i).isSome)
    (hm : mkAll hd sc acct ai usePriv b typ ac fp idxs = some objs)
    (hsign : ai.keyEnc.isSome → s1.mem.watchOnly = false → usePriv = true ∨ (s1.mem.locked = true ∧ toDou = true)) :
    ∀ o ∈ objs, Pend hd s1 sc toDou o := by
  intro o ho
  obtain ⟨i, hi, hmk⟩ := mkAll_mem hd sc acct ai usePriv b typ ac fp idxs objs hm o ho
  have c := mkChained_ok hlaw h1 hc hmk
  obtain ⟨row, hr, hcok⟩ := h1.cache sc acct ai hc
  have hv := hvalid i hi
  cases hq : derive2pub hd ai.keyPub b i with
  | none => simp [hq] at hv
  | some q =>
    obtain ⟨hb, hi'⟩ := derive2pub_nonhard hd hn _ _ _ _ hq
    obtain ⟨row', hr', _, _, hchild, _⟩ := c.ok.chained c.notImp
    rw [c.scope, c.acct, hr] at hr'
    cases hr'
    obtain ⟨p, hp1, hp2⟩ := hchild (by rw [c.branch]; exact hb) (by rw [c.index]; exact hi')
    refine ⟨c.ok, c.scope, c.notImp, by rw [c.acct, hc]; rfl, ⟨row, p, by rw [c.acct]; exact hr, by rw [c.acctPub, hcok.pub], hp1, hp2⟩, ?_⟩
    intro hpa hw
    rw [c.hasPriv] at hpa
    rcases hsign hpa hw with h2 | h2
    · exact Or.inl (c.priv h2)
    · exact Or.inr h2

theorem bindAll_eq : ∀ (l : List Nat) (hb : Nat) (s : State K P),
    ∃ hs, bindAll l hb s = { s with mem := { s.mem with handles := hs } }
  | [], _, s => ⟨s.mem.handles, rfl⟩
  | i :: t, hb, s => bindAll_eq t (hb + 1) (bindH s hb i)

/-- a successful `nextAddresses` / `extendAddresses`: account loaded, `objs` built for a run of valid indices from the cached
    next index on (with private keys iff unlocked and the account has one), committed; `nextAddresses` also binds handles -/
def Issued (hd : HD K P) (s : State K P) (sc : Scope) (acct : Nat) (internal : Bool) (s' : State K P)
    (objs : List (KeyObj K P)) : Prop :=
  ∃ s1 ai idxs typ ac fp l hb, loadAcct hd s sc acct = .ok (s1, ai) ∧
    mkAll hd sc acct ai (!s1.mem.locked && !(s1.mem.watchOnly || ai.keyEnc.isNone)) (branchOf internal) typ ac fp idxs = some objs ∧
    IsValidRun (branchValid hd ai (branchOf internal)) (if internal then ai.nextInt else ai.nextExt)
      (getLast idxs (if internal then ai.nextInt else ai.nextExt)) idxs ∧
    (if internal then ai.nextInt else ai.nextExt) ≤ getLast idxs (if internal then ai.nextInt else ai.nextExt) ∧
    s' = bindAll l hb (commitIssue s1 sc acct internal (s1.mem.locked && !(s1.mem.watchOnly || ai.keyEnc.isNone)) objs
      (getLast idxs (if internal then ai.nextInt else ai.nextExt))).1

def IssueOutcome (hd : HD K P) (s : State K P) (sc : Scope) (acct : Nat) (internal : Bool)
    (r : State K P × Res K × List Row) : Prop :=
  (Ok hd s r.1 ∧ r.1.mem.heap = s.mem.heap ∧ ∀ l, r.2.1 ≠ .addrs l) ∨
    ∃ objs, Issued hd s sc acct internal r.1 objs ∧ ∀ l, r.2.1 = .addrs l → l = objs.map infoOfKey

theorem opNext_outcome (h : Inv hd s) (sc : Scope) (acct n : Nat) (internal : Bool) (hbase : Nat) :
    IssueOutcome hd s sc acct internal (opNext hd s sc acct n internal hbase) := by
  unfold opNext
  refine ite_ind (fun _ => Or.inl ⟨.refl h, rfl, nofun⟩) fun _ => ?_
  cases hl : loadAcct hd s sc acct with
  | error e => exact Or.inl ⟨.refl h, rfl, nofun⟩
  | ok r =>
    obtain ⟨s1, ai⟩ := r
    obtain ⟨q, _, ⟨_, _, _, hh, _⟩, _⟩ := loadAcct_spec h hl
    dsimp only
    cases hsm : getSM s1 sc with
    | none => exact Or.inl ⟨q, hh, nofun⟩
    | some sm =>
      dsimp only
      -- kept folded, so that `split` finds the two `match`es and not these
      generalize hn0 : (if internal then ai.nextInt else ai.nextExt) = next0
      generalize hb : (if internal then 1 else 0) = b
      refine ite_ind (fun _ => Or.inl ⟨q, hh, nofun⟩) fun _ => ?_
      refine ite_ind (fun _ => Or.inl ⟨q, hh, nofun⟩) fun _ => ?_
      refine ite_ind (fun _ => Or.inl ⟨q, hh, nofun⟩) fun _ => ?_
      split
      · exact Or.inl ⟨q, hh, nofun⟩
      · rename_i idxs hidx
        split
        · exact Or.inl ⟨q, hh, nofun⟩
        · rename_i objs hm
          have hspec := nextIdxs_spec _ _ _ _ hidx
          subst hn0 hb
          exact Or.inr ⟨objs, ⟨s1, ai, idxs, _, _, _, _, _, hl, hm, hspec.2.2, hspec.2.1, rfl⟩, fun l e => by cases e; rfl⟩

theorem opExtend_outcome (cfg : Cfg) (hf3 : cfg.f3 = false) (h : Inv hd s) (sc : Scope) (acct last : Nat)
    (internal : Bool) : IssueOutcome hd s sc acct internal (opExtend cfg hd s sc acct last internal) := by
  unfold opExtend
  refine ite_ind (fun _ => Or.inl ⟨.refl h, rfl, nofun⟩) fun _ => ?_
  cases hl : loadAcct hd s sc acct with
  | error e => exact Or.inl ⟨.refl h, rfl, nofun⟩
  | ok r =>
    obtain ⟨s1, ai⟩ := r
    obtain ⟨q, _, ⟨_, _, _, hh, _⟩, _⟩ := loadAcct_spec h hl
    dsimp only
    cases hsm : getSM s1 sc with
    | none => exact Or.inl ⟨q, hh, nofun⟩
    | some sm =>
      dsimp only
      rw [hf3]
      generalize hn0 : (if internal then ai.nextInt else ai.nextExt) = next0
      generalize hb : (if internal then 1 else 0) = b
      generalize hwo : (s1.mem.watchOnly || if false = true then ai.keyPriv.isSome else ai.keyEnc.isNone) = wo
      refine ite_ind (fun _ => Or.inl ⟨q, hh, nofun⟩) fun _ => ?_
      refine ite_ind (fun _ => Or.inl ⟨q, hh, nofun⟩) fun _ => ?_
      refine ite_ind (fun _ => Or.inl ⟨⟨q.inv.poison, q.keeps.trans (.of_scopes rfl rfl)⟩, hh, nofun⟩) fun _ => ?_
      refine ite_ind (fun _ => Or.inl ⟨q, hh, nofun⟩) fun _ => ?_
      split
      · exact Or.inl ⟨q, hh, nofun⟩
      · rename_i idxs hidx
        split
        · exact Or.inl ⟨q, hh, nofun⟩
        · rename_i objs hm
          have hspec := extendIdxs_spec _ _ _ _ _ hidx
          subst hn0 hb hwo
          exact Or.inr ⟨objs, ⟨s1, ai, idxs, _, _, _, [], 0, hl, hm, hspec.2.2, hspec.1, rfl⟩, nofun⟩

theorem Issued.good (hlaw : hd.Lawful) (hn : hd.NoHardPub) (h : Inv hd s)
    {internal : Bool} {objs : List (KeyObj K P)} (x : Issued hd s sc acct internal s' objs) :
    Inv hd s' ∧ (Nodups s → Nodups s') := by
  obtain ⟨s1, ai, idxs, typ, ac, fp, l, hb, hl, hm, hrun, _, rfl⟩ := x
  obtain ⟨x1, hc, _⟩ := loadAcct_spec h hl
  obtain ⟨h2, n2⟩ := commitIssue_inv x1.inv sc acct internal (s1.mem.locked && !(s1.mem.watchOnly || ai.keyEnc.isNone)) objs
    (getLast idxs (if internal then ai.nextInt else ai.nextExt))
    (mkAll_pend hlaw hn x1.inv hc (fun i hi => (hrun.2.1 i hi).2.2) hm fun he hw => by cases hlk : s1.mem.locked <;> simp [hw, he])
  generalize (commitIssue s1 sc acct internal _ objs _).1 = s2 at h2 n2 ⊢
  obtain ⟨hs, e⟩ := bindAll_eq l hb s2
  rw [e]
  exact ⟨h2.of_scopes rfl rfl rfl rfl rfl rfl rfl rfl rfl, fun hnd => (n2 (x1.keeps.nodups hnd)).same rfl rfl⟩

theorem IssueOutcome.good (hlaw : hd.Lawful) (hn : hd.NoHardPub) (h : Inv hd s)
    {internal : Bool} {r : State K P × Res K × List Row} (x : IssueOutcome hd s sc acct internal r) :
    Inv hd r.1 ∧ (Nodups s → Nodups r.1) := by
  rcases x with ⟨q, _⟩ | ⟨objs, x, _⟩
  · exact ⟨q.inv, q.keeps.nodups⟩
  · exact x.good hlaw hn h

end
end AddrDerive
