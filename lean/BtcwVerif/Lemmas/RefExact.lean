import BtcwVerif.Lemmas.SortedStore
import BtcwVerif.Lemmas.RefFacts
import BtcwVerif.Lemmas.RefAll
/-!
# Observables of a good pair whose buckets are in key order: the answers as lists, order included

`details_refines`, `range_refines`, `utxos_refines` (Lemmas/RefDetails.lean, RefRange.lean, RefUtxos.lean) compare
the record lists up to order.  With `SortedS s` (every bucket ascending in bbolt key order, Lemmas/SortedStore.lean) the
order is determined:
* `TxDetails`: credit records in ascending output index, debit records in ascending input index = the ledger's
  `detailsOf` as lists (`details_refines_exact`: `txDetails s h = .ok (Ledger.details L h)`);
* `RangeTransactions`: block batches equal the ledger's (delivery order); the unconfirmed batch is the pool in ascending
  hash order (`range_refines_exact`);
* `UnspentOutputs`: the confirmed outputs in ascending outpoint order, then the unconfirmed ones in ascending outpoint
  order (`utxos_refines_exact`).
Throughout: a permutation of a list in strictly ascending order that is itself in strictly ascending order is that list.
-/
namespace TxStore
open KMap Ledger

theorem eq_of_perm_of_sorted {α : Type} (key : α → Nat) {l m : List α} (hp : l.Perm m)
    (hl : (l.map key).Pairwise (· < ·)) (hm : (m.map key).Pairwise (· < ·)) : l = m :=
  hp.eq_of_pairwise (le := fun a b => key a < key b) (fun _ _ _ _ h1 h2 => absurd h1 (Nat.lt_asymm h2))
    (List.pairwise_map.mp hl) (List.pairwise_map.mp hm)

theorem sorted_indices_of_same_txkey {ν : Type} (m : KMap CredKey ν) (hs : Sorted m) (k : TxKey) :
    ((m.filter fun p => decide (p.1.hash = k.hash ∧ p.1.block = k.block)).map (·.1.index)).Pairwise (· < ·) := by
  rw [List.pairwise_map]
  refine (hs.filter _).imp_of_mem ?_
  intro a b ha hb hab
  have h1 := of_decide_eq_true (List.mem_filter.mp ha).2
  have h2 := of_decide_eq_true (List.mem_filter.mp hb).2
  rw [CredKey.lt_iff] at hab
  have hirr := LawfulKOrd.irrefl b.1.block
  simp only [KOrd.lt] at hirr
  rcases hab with h | ⟨_, h | ⟨_, h⟩⟩
  · rw [h1.1, h2.1] at h; omega
  · rw [h1.2, ← h2.2, hirr] at h; cases h
  · exact h

theorem sorted_indices_of_same_hash {ν : Type} (m : KMap OutPoint ν) (hs : Sorted m) (h : Nat) :
    ((m.filter fun p => decide (p.1.hash = h)).map (·.1.index)).Pairwise (· < ·) := by
  rw [List.pairwise_map]
  refine (hs.filter _).imp_of_mem ?_
  intro a b ha hb hab
  have h1 := of_decide_eq_true (List.mem_filter.mp ha).2
  have h2 := of_decide_eq_true (List.mem_filter.mp hb).2
  simp only [KOrd.lt, decide_eq_true_eq] at hab
  omega

section
-- every theorem of the section takes `hg : Good s L` and `hs : SortedS s` as its first two explicit arguments
variable {s : Store} {L : Ledger} (hg : Good s L) (hs : SortedS s)
include hg hs

theorem details_mined_exact {t : Tx} {b : BlockMeta} (ht : (t, b) ∈ chainTxs L) :
    minedTxDetails s ⟨t.hash, b.block⟩ t = .ok (detailsOf L t (some b)) := by
  rw [minedTxDetails_good hg ht,
    eq_of_perm_of_sorted (·.index) (credits_perm hg ht)
      (by rw [List.map_map]; exact sorted_indices_of_same_txkey _ hs.credits _) (detailsOf_credits_sorted _ _ _),
    eq_of_perm_of_sorted (·.index) (debits_perm hg ht)
      (by rw [List.map_map]; exact sorted_indices_of_same_txkey _ hs.debits _) (detailsOf_debits_sorted _ _ _)]
  rfl

theorem details_unmined_exact (hn : NoConflict L) {t : Tx} (ht : t ∈ L.pool) :
    unminedTxDetails s t.hash t = .ok (detailsOf L t none) := by
  rw [unminedTxDetails_good hg hn ht,
    eq_of_perm_of_sorted (·.index) (ucredits_perm hg ht)
      (by rw [List.map_map]; exact sorted_indices_of_same_hash _ hs.unminedCredits _) (detailsOf_credits_sorted _ _ _)]
  rfl

theorem unmined_sorted : ((s.unmined.map (·.2)).map (·.hash)).Pairwise (· < ·) := by
  rw [List.map_map, List.pairwise_map]
  refine hs.unmined.imp_of_mem ?_
  intro a b ha hb hab
  have h1 := (mem_expUnmined.mp ((unmined_perm hg).mem_iff.mp (show (a.1, a.2) ∈ s.unmined from ha))).2
  have h2 := (mem_expUnmined.mp ((unmined_perm hg).mem_iff.mp (show (b.1, b.2) ∈ s.unmined from hb))).2
  rw [Function.comp, Function.comp, ← h1, ← h2]
  exact of_decide_eq_true hab

theorem unmined_order :
    (s.unmined.map (·.2)).Perm L.pool ∧ ((s.unmined.map (·.2)).map (·.hash)).Pairwise (· < ·) :=
  ⟨unmined_txs_perm hg, unmined_sorted hg hs⟩

theorem records_eq (hn : NoConflict L) : RecordsRel (· = ·) s L :=
  ⟨fun ht => ⟨_, details_mined_exact hg hs ht, rfl⟩, fun _ ht => ⟨_, details_unmined_exact hg hs hn ht, rfl⟩⟩

theorem rangeUnmined_exact (hn : NoConflict L) :
    rangeUnmined s = .ok (if (s.unmined.map (·.2)).isEmpty then []
      else [(s.unmined.map (·.2)).map fun t => detailsOf L t none]) := by
  obtain ⟨bs, h1, h2⟩ := rangeUnmined_rel hg (records_eq hg hs hn)
  rw [h1, h2.eq fun _ _ h => h.eq fun _ _ => id]

end

/-- **`TxDetails` answers the ledger's record**, order of the credit and debit records included: credits in ascending output
index, debits in ascending input index -/
theorem details_refines_exact {s : Store} {L : Ledger} (hg : Good s L) (hn : NoConflict L) (hs : SortedS s) (h : Nat) :
    txDetails s h = .ok (Ledger.details L h) := by
  rcases txDetails_rel hg (records_eq hg hs hn) h with ⟨d, d', h1, h2, rfl⟩ | ⟨h1, h2⟩
  · rw [h1, h2]
  · rw [h1, h2]

/-- bbolt order of two `canonicalOutPoint` keys: hash (as a big-endian number), then output index -/
def OutPoint.before (a b : OutPoint) : Prop := a.hash < b.hash ∨ (a.hash = b.hash ∧ a.index < b.index)

theorem sorted_keys_before {ν : Type} (m : KMap OutPoint ν) (hs : Sorted m) :
    (m.map (·.1)).Pairwise OutPoint.before := by
  rw [List.pairwise_map]
  exact hs.imp (fun h => of_decide_eq_true h)

theorem mem_chainCredits {L : Ledger} {il isp full : Bool} {c : Credit}
    (h : c ∈ (chainTxs L).flatMap fun p => (withIdx p.1.outs).filterMap (creditOf L il isp full p.1 (some p.2))) :
    ∃ p ∈ chainTxs L, c.op.hash = p.1.hash ∧ (full = true → c.block = some p.2) := by
  obtain ⟨p, hp, h⟩ := List.mem_flatMap.mp h
  obtain ⟨iv, _, h⟩ := List.mem_filterMap.mp h
  exact ⟨p, hp, by rw [(creditOf_some h).1], (creditOf_some h).2⟩

theorem mem_poolCredits {L : Ledger} {il isp full : Bool} {c : Credit}
    (h : c ∈ L.pool.flatMap fun t => (withIdx t.outs).filterMap (creditOf L il isp full t none)) :
    ∃ t ∈ L.pool, c.op.hash = t.hash ∧ (full = true → c.block = none) := by
  obtain ⟨t, ht, h⟩ := List.mem_flatMap.mp h
  obtain ⟨iv, _, h⟩ := List.mem_filterMap.mp h
  exact ⟨t, ht, by rw [(creditOf_some h).1], (creditOf_some h).2⟩

/-- **`UnspentOutputs` = the ledger's spendable outputs, in cursor order**: first the confirmed ones in ascending
outpoint order, then the unconfirmed ones in ascending outpoint order — which, with the permutation, determines the
list -/
theorem utxos_refines_exact {s : Store} {L : Ledger} (hg : Good s L) (hs : SortedS s) :
    ∃ a b, unspentOutputs s L.now = .ok (a ++ b) ∧ (a ++ b).Perm (utxos L) ∧
      (∀ c ∈ a, c.block.isSome = true) ∧ (∀ c ∈ b, c.block = none) ∧
      (a.map (·.op)).Pairwise OutPoint.before ∧ (b.map (·.op)).Pairwise OutPoint.before := by
  obtain ⟨a, b, h, pa, pb, pk, sa, sb⟩ := fetchCredits_good hg false false true
  refine ⟨a, b, h, ?_, ?_, ?_, (sorted_keys_before _ hs.unspent).sublist sa,
    (sorted_keys_before _ hs.unminedCredits).sublist sb⟩
  · exact pk
  · intro c hc
    obtain ⟨p, _, _, h2⟩ := mem_chainCredits (pa.mem_iff.mp hc)
    rw [h2 rfl]; rfl
  · intro c hc
    obtain ⟨p, _, _, h2⟩ := mem_poolCredits (pb.mem_iff.mp hc)
    exact h2 rfl

/-- **`OutputsToWatch` = the ledger's watch set, in cursor order** (only the outpoints are meaningful): first the
outputs of confirmed transactions in ascending outpoint order, then those of unconfirmed transactions in ascending
outpoint order -/
theorem watch_refines_exact {s : Store} {L : Ledger} (hg : Good s L) (hs : SortedS s) (now : Nat) :
    ∃ a b, outputsToWatch s now = .ok (a ++ b) ∧ ((a ++ b).map (·.op)).Perm (watchSet L) ∧
      (∀ c ∈ a, inChain L c.op.hash = true) ∧ (∀ c ∈ b, inPool L c.op.hash = true) ∧
      (a.map (·.op)).Pairwise OutPoint.before ∧ (b.map (·.op)).Pairwise OutPoint.before := by
  obtain ⟨a, b, h, pa, pb, pk, sa, sb⟩ := fetchCredits_good hg true true false
  refine ⟨a, b, (fetchCredits_inclLocked s now L.now true false).trans h, ?_, ?_, ?_,
    (sorted_keys_before _ hs.unspent).sublist sa, (sorted_keys_before _ hs.unminedCredits).sublist sb⟩
  · exact watchSet_eq L ▸ pk.map _
  · intro c hc
    obtain ⟨p, hp, h1, _⟩ := mem_chainCredits (pa.mem_iff.mp hc)
    exact inChain_iff.mpr ⟨p, hp, h1.symm⟩
  · intro c hc
    obtain ⟨t, ht, h1, _⟩ := mem_poolCredits (pb.mem_iff.mp hc)
    exact inPool_iff.mpr ⟨t, ht, h1.symm⟩

/-- **`RangeTransactions` answers `Ledger.range`** with the unconfirmed batch in the store's order: the same batches in the
same order; every block batch equals the ledger's (transactions in the order the wallet learned them, every record
equal to the ledger's, record order included); the unconfirmed batch lists the pool in ascending hash order -/
theorem range_refines_exact {s : Store} {L : Ledger} (hg : Good s L) (hn : NoConflict L) (hs : SortedS s) (b e : Int) :
    rangeTransactions s b e = .ok (rangeWith L (s.unmined.map (·.2)) b e) := by
  obtain ⟨bs, h1, h2⟩ := range_rel hg (records_eq hg hs hn) b e
  rw [h1, h2.eq fun _ _ h => h.eq fun _ _ => id]

/-- a list made of an ascending `p`-part followed by an ascending non-`p`-part is determined by its elements -/
theorem append_eq_of_perm_sorted {α : Type} (p : α → Bool) (r : α → α → Prop) (hasym : ∀ a b, r a b → r b a → False)
    {a1 b1 a2 b2 : List α} (hp : (a1 ++ b1).Perm (a2 ++ b2))
    (ha1 : ∀ c ∈ a1, p c = true) (hb1 : ∀ c ∈ b1, p c = false)
    (ha2 : ∀ c ∈ a2, p c = true) (hb2 : ∀ c ∈ b2, p c = false)
    (sa1 : a1.Pairwise r) (sb1 : b1.Pairwise r) (sa2 : a2.Pairwise r) (sb2 : b2.Pairwise r) :
    a1 ++ b1 = a2 ++ b2 := by
  have key : ∀ {a b : List α}, (∀ c ∈ a, p c = true) → (∀ c ∈ b, p c = false) → (a ++ b).filter p = a := fun ha hb => by
    rw [List.filter_append, List.filter_eq_self.mpr ha,
      List.filter_eq_nil_iff.mpr fun c hc => by rw [hb c hc]; exact Bool.false_ne_true, List.append_nil]
  have pa : a1.Perm a2 := by
    have := hp.filter p
    rwa [key ha1 hb1, key ha2 hb2] at this
  have pb : b1.Perm b2 := (List.perm_append_left_iff a2).mp ((pa.append_right b1).symm.trans hp)
  rw [pa.eq_of_pairwise (fun a b _ _ hab hba => (hasym a b hab hba).elim) sa1 sa2,
    pb.eq_of_pairwise (fun a b _ _ hab hba => (hasym a b hab hba).elim) sb1 sb2]

theorem OutPoint.before_asymm (a b : OutPoint) (h1 : OutPoint.before a b) (h2 : OutPoint.before b a) : False := by
  unfold OutPoint.before at h1 h2; omega

theorem utxos_order_unique {a1 b1 a2 b2 : List Credit} (hp : (a1 ++ b1).Perm (a2 ++ b2))
    (x1 : ∀ c ∈ a1, c.block.isSome = true) (y1 : ∀ c ∈ b1, c.block = none)
    (x2 : ∀ c ∈ a2, c.block.isSome = true) (y2 : ∀ c ∈ b2, c.block = none)
    (u1 : (a1.map (·.op)).Pairwise OutPoint.before) (v1 : (b1.map (·.op)).Pairwise OutPoint.before)
    (u2 : (a2.map (·.op)).Pairwise OutPoint.before) (v2 : (b2.map (·.op)).Pairwise OutPoint.before) :
    a1 ++ b1 = a2 ++ b2 :=
  append_eq_of_perm_sorted (fun c : Credit => c.block.isSome) (fun c c' : Credit => OutPoint.before c.op c'.op)
    (fun a b => OutPoint.before_asymm _ _) hp x1 (fun c hc => by rw [y1 c hc]; rfl) x2 (fun c hc => by rw [y2 c hc]; rfl)
    (List.pairwise_map.mp u1) (List.pairwise_map.mp v1) (List.pairwise_map.mp u2) (List.pairwise_map.mp v2)

/-- two good pairs with key-ordered stores and the same facts list the same spendable outputs in the same order -/
theorem utxos_path_independent {s1 s2 : Store} {L1 L2 : Ledger} (hg1 : Good s1 L1) (hg2 : Good s2 L2)
    (hs1 : SortedS s1) (hs2 : SortedS s2) (hf : SameFacts L1 L2) :
    unspentOutputs s1 L1.now = unspentOutputs s2 L2.now := by
  obtain ⟨a1, b1, e1, p1, x1, y1, u1, v1⟩ := utxos_refines_exact hg1 hs1
  obtain ⟨a2, b2, e2, p2, x2, y2, u2, v2⟩ := utxos_refines_exact hg2 hs2
  rw [e1, e2, utxos_order_unique (p1.trans (hf.utxos_perm.trans p2.symm)) x1 y1 x2 y2 u1 v1 u2 v2]

theorem rangeUnmined_path_independent {s1 s2 : Store} {L1 L2 : Ledger} (hg1 : Good s1 L1) (hg2 : Good s2 L2)
    (hn1 : NoConflict L1) (hn2 : NoConflict L2) (hs1 : SortedS s1) (hs2 : SortedS s2) (hf : SameFacts L1 L2) :
    rangeUnmined s1 = rangeUnmined s2 := by
  rw [rangeUnmined_exact hg1 hs1 hn1, rangeUnmined_exact hg2 hs2 hn2,
    eq_of_perm_of_sorted (·.hash) ((unmined_txs_perm hg1).trans (hf.pool.trans (unmined_txs_perm hg2).symm))
      (unmined_sorted hg1 hs1) (unmined_sorted hg2 hs2),
    funext fun t => hf.detailsOf_eq hg2.lwf t none]

theorem good_sorted_reachable (es : List Event) (hc : ConsistentHistory {} es) :
    ∃ s, storeAfter Store.empty {} es = .ok s ∧ Good s (ledgerAfter {} es) ∧ NoConflict (ledgerAfter {} es) ∧
      SortedS s := by
  obtain ⟨s, h1, hg, hn⟩ := good_reachable es hc
  exact ⟨s, h1, hg, hn, sortedS_storeAfter es _ _ s sortedS_empty h1⟩

end TxStore
