import BtcwVerif.Lemmas.Rollback
/-!
# Refinement, event *disconnected*, store side: what `rbTx` writes for one transaction of a detached block
The store alone, no ledger: lookup-level descriptions of its loops (`InSpec`, `OutSpec`) and of the whole step (`TxSpec`), for
the buckets `Refines` reads (the unspent index and the counter follow from `WF2`); `RefRollbackLoop` sets them against the ledger,
`WFRollback` reads off `TxSpec` which records are gone after the step.  A loop description holds of no step, of one
step, and composes over lists without a common index: that is all `foldl_spec` needs.
-/
namespace TxStore
open KMap

/-- for idempotent `f` ("the entry is gone", "the credit is unspent again") -/
theorem ite_idem_or {α : Type} {p q : Prop} [Decidable p] [Decidable q] (f : α → α) (hf : ∀ x, f (f x) = f x) (x : α) :
    (if q then f (if p then f x else x) else if p then f x else x) = if p ∨ q then f x else x := by
  by_cases hp : p <;> by_cases hq : q <;> simp only [hp, hq, hf, if_true, if_false, or_self, or_true, true_or]

/-- a step writes `y` where `c` holds and the bucket held nothing: its clause gains the disjunct `T` -/
theorem ite_eq_some_iff {α : Type} {c T : Prop} [Decidable c] {x y : Option α} {v : α}
    (hx : c → x ≠ some v) (hy : c → (y = some v ↔ T)) (hT : T → c) :
    (if c then y else x) = some v ↔ x = some v ∨ T := by
  split
  · next hc => rw [hy hc]; exact (or_iff_right (hx hc)).symm
  · next hc => exact (or_iff_left fun t => hc (hT t)).symm

theorem exists_mem_append {α : Type} {l₁ l₂ : List α} {P : α → Prop} :
    (∃ p ∈ l₁ ++ l₂, P p) ↔ (∃ p ∈ l₁, P p) ∨ ∃ p ∈ l₂, P p := by
  simp only [List.mem_append, or_and_right, exists_or]

theorem exists_mem_singleton {α : Type} {a : α} {P : α → Prop} : (∃ p ∈ [a], P p) ↔ P a := by
  simp only [List.mem_singleton, exists_eq_left]

theorem exists_withIdx {α : Type} (l : List α) (P : Nat → Prop) :
    (∃ p ∈ withIdx l, P p.1) ↔ ∃ j, j < l.length ∧ P j := by
  constructor
  · rintro ⟨⟨j, a⟩, hp, h⟩
    have := (mem_withIdx0 l j a).mp hp
    exact ⟨j, (List.getElem?_eq_some_iff.mp this).1, h⟩
  · rintro ⟨j, hj, h⟩
    exact ⟨(j, l[j]), (mem_withIdx0 l j _).mpr (List.getElem?_eq_getElem hj), h⟩

theorem exists_withIdx_snd {α : Type} (l : List α) (a : α) : (∃ p ∈ withIdx l, p.2 = a) ↔ a ∈ l := by
  constructor
  · rintro ⟨⟨j, b⟩, hp, rfl⟩
    exact List.mem_of_getElem? ((mem_withIdx0 _ _ _).mp hp)
  · intro hm
    obtain ⟨j, hj⟩ := List.getElem?_of_mem hm
    exact ⟨(j, a), (mem_withIdx0 _ _ _).mpr hj, rfl⟩

theorem foldl_spec {σ α : Type} (S : List α → σ → σ → Prop) (f : σ → α → σ) (idx : α → Nat)
    (refl : ∀ r, S [] r r) (one : ∀ r a, S [a] r (f r a))
    (trans : ∀ l₁ l₂ r r₁ r₂, S l₁ r r₁ → S l₂ r₁ r₂ → (∀ p ∈ l₂, ∀ q ∈ l₁, idx p ≠ idx q) → S (l₁ ++ l₂) r r₂) :
    ∀ (l : List α) (r : σ), (l.map idx).Nodup → S l r (l.foldl f r) := by
  intro l
  induction l with
  | nil => intro r _; exact refl r
  | cons a t ih =>
    intro r hn
    rw [List.map_cons, List.nodup_cons] at hn
    exact trans [a] t r _ _ (one r a) (ih _ hn.2) fun p hp q hq e => by
      rw [List.mem_singleton.mp hq] at e
      exact hn.1 (List.mem_map.mpr ⟨p, hp, e⟩)

def unspendVal (cv : CreditVal) : CreditVal := { cv with spent := false, spender := none }

theorem unspendVal_idem (cv : CreditVal) : unspendVal (unspendVal cv) = unspendVal cv := rfl

theorem map_unspendVal_idem : ∀ x : Option CreditVal, (x.map unspendVal).map unspendVal = x.map unspendVal
  | none => rfl
  | some v => congrArg some (unspendVal_idem v)

/-- `rbInput` over the indexed inputs `l`, from `r` to `r'`: each input becomes an unconfirmed spend, its debit
record goes and the credit it pointed at is unspent again -/
structure InSpec (rec : Tx) (blk : Block) (l : List (Nat × OutPoint)) (r r' : RB) : Prop where
  blocks : r'.s.blocks = r.s.blocks
  txrecs : r'.s.txrecs = r.s.txrecs
  unmined : r'.s.unmined = r.s.unmined
  uc : r'.s.unminedCredits = r.s.unminedCredits
  locked : r'.s.locked = r.s.locked
  cb : r'.cb = r.cb
  ui : ∀ op x, x ∈ spendHashes r'.s op ↔ x ∈ spendHashes r.s op ∨ (x = rec.hash ∧ ∃ p ∈ l, p.2 = op)
  ne : InputsNE r.s → InputsNE r'.s
  debits : ∀ dk, r'.s.debits.find? dk =
    if ∃ p ∈ l, dk = ⟨rec.hash, blk, p.1⟩ then none else r.s.debits.find? dk
  credits : ∀ k, r'.s.credits.find? k =
    if ∃ p ∈ l, ∃ d, r.s.debits.find? ⟨rec.hash, blk, p.1⟩ = some d ∧ d.credKey = k
    then (r.s.credits.find? k).map unspendVal else r.s.credits.find? k
  nodupDeb : NodupKeys r.s.debits → NodupKeys r'.s.debits

theorem inSpec_refl (rec : Tx) (blk : Block) (r : RB) : InSpec rec blk [] r r := by
  refine ⟨rfl, rfl, rfl, rfl, rfl, rfl, fun op x => ?_, id, fun dk => ?_, fun k => ?_, id⟩ <;>
    simp only [List.not_mem_nil, false_and, exists_false, and_false, or_false, if_false]

theorem mem_spendHashes_put (s : Store) (k op : OutPoint) (h x : Nat) :
    x ∈ spendHashes (putRawUnminedInput s k h) op ↔ x ∈ spendHashes s op ∨ (x = h ∧ k = op) := by
  rw [spendHashes_put]
  split
  · next e => simp only [List.mem_append, List.mem_singleton, e, and_true]
  · next e => simp only [e, and_false, or_false]

theorem rbInputCore_fields (rec : Tx) (blk : Block) (r : RB) (j : Nat) (inp : OutPoint) :
    ∃ c d u b, rbInputCore rec blk r j inp = ⟨{ r.s with credits := c, debits := d, unspent := u }, b, r.cb⟩ ∧
      (∀ dk, d.find? dk = if dk = ⟨rec.hash, blk, j⟩ then none else r.s.debits.find? dk) ∧
      (∀ k, c.find? k = if ∃ d', r.s.debits.find? ⟨rec.hash, blk, j⟩ = some d' ∧ d'.credKey = k
        then (r.s.credits.find? k).map unspendVal else r.s.credits.find? k) ∧
      (NodupKeys r.s.debits → NodupKeys d) := by
  unfold rbInputCore
  cases hd : r.s.debits.find? ⟨rec.hash, blk, j⟩ with
  | none =>
    refine ⟨_, _, _, _, rfl, fun dk => ?_, fun k => ?_, id⟩
    · by_cases e : dk = ⟨rec.hash, blk, j⟩
      · rw [if_pos e, e]; exact hd
      · rw [if_neg e]
    · rw [if_neg nofun]
  | some d =>
    have hcond : ∀ k, (∃ d', some d = some d' ∧ d'.credKey = k) ↔ d.credKey = k := fun k => by
      simp only [Option.some.injEq, exists_eq_left']
    simp only [hcond]
    cases hc : r.s.credits.find? d.credKey with
    | none =>
      refine ⟨_, _, _, _, rfl, find?_erase_eq _ _, fun k => ?_, nodupKeys_erase _ _⟩
      by_cases e : d.credKey = k
      · rw [if_pos e, ← e, hc]; rfl
      · rw [if_neg e]
    | some cv =>
      refine ⟨_, _, _, _, rfl, find?_erase_eq _ _, fun k => (find?_insert _ _ _ _).trans ?_, nodupKeys_erase _ _⟩
      by_cases e : d.credKey = k
      · rw [if_pos e, if_pos e, ← e, hc]; rfl
      · rw [if_neg e, if_neg e]

theorem inSpec_one (rec : Tx) (blk : Block) (r : RB) (a : Nat × OutPoint) :
    InSpec rec blk [a] r (rbInput rec blk r a) := by
  obtain ⟨j, inp⟩ := a
  obtain ⟨c, d, u, b, hs, hd, hc, hn⟩ := rbInputCore_fields rec blk { r with s := putRawUnminedInput r.s inp rec.hash } j inp
  rw [rbInput_eq, hs]
  refine ⟨rfl, rfl, rfl, rfl, rfl, rfl, fun op x => ?_, inputsNE_put r.s inp rec.hash, fun dk => ?_, fun k => ?_, hn⟩
  · rw [exists_mem_singleton]; exact mem_spendHashes_put _ _ _ _ _
  · simp only [exists_mem_singleton]; exact hd dk
  · simp only [exists_mem_singleton]; exact hc k

theorem inSpec_trans {rec : Tx} {blk : Block} {l₁ l₂ : List (Nat × OutPoint)} {r r₁ r₂ : RB}
    (h₁ : InSpec rec blk l₁ r r₁) (h₂ : InSpec rec blk l₂ r₁ r₂) (hd : ∀ p ∈ l₂, ∀ q ∈ l₁, p.1 ≠ q.1) :
    InSpec rec blk (l₁ ++ l₂) r r₂ := by
  refine ⟨h₂.blocks.trans h₁.blocks, h₂.txrecs.trans h₁.txrecs, h₂.unmined.trans h₁.unmined, h₂.uc.trans h₁.uc,
    h₂.locked.trans h₁.locked, h₂.cb.trans h₁.cb, fun op x => ?_, fun h => h₂.ne (h₁.ne h), fun dk => ?_, fun k => ?_,
    fun h => h₂.nodupDeb (h₁.nodupDeb h)⟩
  · rw [h₂.ui, h₁.ui, or_assoc, ← and_or_left, exists_mem_append]
  · rw [h₂.debits, h₁.debits]
    simp only [exists_mem_append]
    exact ite_idem_or (fun _ => none) (fun _ => rfl) _
  · -- the debits of the later inputs are still there after the earlier steps
    have hc : ∀ p, (p ∈ l₂ ∧ ∃ d, r₁.s.debits.find? ⟨rec.hash, blk, p.1⟩ = some d ∧ d.credKey = k) ↔
        (p ∈ l₂ ∧ ∃ d, r.s.debits.find? ⟨rec.hash, blk, p.1⟩ = some d ∧ d.credKey = k) := fun p =>
      and_congr_right fun hp => by
        rw [h₁.debits, if_neg]
        rintro ⟨q, hq, e⟩
        exact hd p hp q hq (CredKey.mk.inj e).2.2
    rw [h₂.credits, h₁.credits]
    simp only [exists_mem_append, hc]
    exact ite_idem_or (Option.map unspendVal) map_unspendVal_idem _

theorem inSpec_fold (rec : Tx) (blk : Block) : ∀ (l : List (Nat × OutPoint)) (r : RB), (l.map (·.1)).Nodup →
    InSpec rec blk l r (l.foldl (rbInput rec blk) r) :=
  foldl_spec (InSpec rec blk) _ (·.1) (inSpec_refl rec blk) (inSpec_one rec blk) fun _ _ _ _ _ => inSpec_trans

theorem foldl_cb_input (rec : Tx) (blk : Block) : ∀ (l : List (Nat × OutPoint)) (r : RB),
    (l.foldl (rbInput rec blk) r).cb = r.cb := fun l r =>
  loop_inv (fun r' : RB => r'.cb = r.cb) (fun r' a h => (inSpec_one rec blk r' a).cb.trans h) l rfl

/-- an output loop over the indexed outputs `l`, from `s` to `s'`: their credit records go and, iff `tu` ("to unmined":
`rbOutput`, not `rbCoinbaseOut`), come back as unconfirmed credits -/
structure OutSpec (rec : Tx) (blk : Block) (tu : Bool) (l : List (Nat × Int)) (s s' : Store) : Prop where
  blocks : s'.blocks = s.blocks
  txrecs : s'.txrecs = s.txrecs
  unmined : s'.unmined = s.unmined
  locked : s'.locked = s.locked
  ui : s'.unminedInputs = s.unminedInputs
  debits : s'.debits = s.debits
  credits : ∀ k, s'.credits.find? k = if ∃ p ∈ l, k = ⟨rec.hash, blk, p.1⟩ then none else s.credits.find? k
  uc : ∀ op, s'.unminedCredits.find? op =
    if tu = true ∧ ∃ p ∈ l, op = ⟨rec.hash, p.1⟩ ∧ (s.credits.find? ⟨rec.hash, blk, p.1⟩).isSome = true
    then (s.credits.find? ⟨rec.hash, blk, op.index⟩).map (fun v => (⟨v.amount, v.change⟩ : UCredit))
    else s.unminedCredits.find? op
  nodupUC : NodupKeys s.unminedCredits → NodupKeys s'.unminedCredits

theorem outSpec_refl (rec : Tx) (blk : Block) (tu : Bool) (s : Store) : OutSpec rec blk tu [] s s := by
  refine ⟨rfl, rfl, rfl, rfl, rfl, rfl, fun k => ?_, fun op => ?_, id⟩ <;>
    simp only [List.not_mem_nil, false_and, exists_false, and_false, if_false]

theorem rbEraseCore_fields (rec : Tx) (blk : Block) (r : RB) (i : Nat) (value : Int) (tu : Bool) :
    ∃ c uc u b, rbEraseCore rec blk r i value tu =
        ⟨{ r.s with credits := c, unminedCredits := uc, unspent := u }, b, r.cb⟩ ∧
      (∀ k, c.find? k = if k = ⟨rec.hash, blk, i⟩ then none else r.s.credits.find? k) ∧
      (∀ op, uc.find? op =
        if tu = true ∧ op = ⟨rec.hash, i⟩ ∧ (r.s.credits.find? ⟨rec.hash, blk, i⟩).isSome = true
        then (r.s.credits.find? ⟨rec.hash, blk, op.index⟩).map (fun v => (⟨v.amount, v.change⟩ : UCredit))
        else r.s.unminedCredits.find? op) ∧
      (NodupKeys r.s.unminedCredits → NodupKeys uc) := by
  unfold rbEraseCore
  cases hc : r.s.credits.find? ⟨rec.hash, blk, i⟩ with
  | none =>
    refine ⟨_, _, _, _, rfl, fun k => ?_, fun op => ?_, id⟩
    · by_cases e : k = ⟨rec.hash, blk, i⟩
      · rw [if_pos e, e]; exact hc
      · rw [if_neg e]
    · rw [if_neg fun e => Bool.noConfusion e.2.2]
  | some v =>
    have huc : ∀ op, (if tu = true then r.s.unminedCredits.insert ⟨rec.hash, i⟩ ⟨v.amount, v.change⟩
        else r.s.unminedCredits).find? op =
        if tu = true ∧ op = ⟨rec.hash, i⟩ ∧ (some v).isSome = true
        then (r.s.credits.find? ⟨rec.hash, blk, op.index⟩).map (fun v => (⟨v.amount, v.change⟩ : UCredit))
        else r.s.unminedCredits.find? op := fun op => by
      cases tu with
      | false => exact (if_neg fun e => Bool.noConfusion e.1).symm
      | true =>
        refine (find?_insert_eq _ _ _ _).trans ?_
        by_cases e : op = ⟨rec.hash, i⟩
        · rw [if_pos e, if_pos ⟨rfl, e, rfl⟩, e, hc]; rfl
        · rw [if_neg e, if_neg fun h => e h.2.1]
    have hnd : NodupKeys r.s.unminedCredits → NodupKeys (if tu = true then
        r.s.unminedCredits.insert ⟨rec.hash, i⟩ ⟨v.amount, v.change⟩ else r.s.unminedCredits) := fun h => by
      cases tu with
      | false => exact h
      | true => exact nodupKeys_insert _ _ _ h
    cases r.s.unspent.contains ⟨rec.hash, i⟩ <;> exact ⟨_, _, _, _, rfl, find?_erase_eq _ _, huc, hnd⟩

theorem rbErase_fields (rec : Tx) (blk : Block) (r : RB) (i : Nat) (value : Int) (tu : Bool) :
    OutSpec rec blk tu [(i, value)] r.s (rbEraseCore rec blk r i value tu).s := by
  obtain ⟨c, uc, u, b, hs, hc, huc, hn⟩ := rbEraseCore_fields rec blk r i value tu
  rw [hs]
  refine ⟨rfl, rfl, rfl, rfl, rfl, rfl, fun k => ?_, fun op => ?_, hn⟩
  · simp only [exists_mem_singleton]; exact hc k
  · simp only [exists_mem_singleton]; exact huc op

theorem outSpec_trans {rec : Tx} {blk : Block} {tu : Bool} {l₁ l₂ : List (Nat × Int)} {s s₁ s₂ : Store}
    (h₁ : OutSpec rec blk tu l₁ s s₁) (h₂ : OutSpec rec blk tu l₂ s₁ s₂) (hd : ∀ p ∈ l₂, ∀ q ∈ l₁, p.1 ≠ q.1) :
    OutSpec rec blk tu (l₁ ++ l₂) s s₂ := by
  -- the credits of the later outputs are still there after the earlier steps
  have hcr : ∀ p ∈ l₂, s₁.credits.find? ⟨rec.hash, blk, p.1⟩ = s.credits.find? ⟨rec.hash, blk, p.1⟩ := by
    intro p hp
    rw [h₁.credits, if_neg]
    rintro ⟨q, hq, e⟩
    exact hd p hp q hq (CredKey.mk.inj e).2.2
  refine ⟨h₂.blocks.trans h₁.blocks, h₂.txrecs.trans h₁.txrecs, h₂.unmined.trans h₁.unmined,
    h₂.locked.trans h₁.locked, h₂.ui.trans h₁.ui, h₂.debits.trans h₁.debits, fun k => ?_, fun op => ?_,
    fun h => h₂.nodupUC (h₁.nodupUC h)⟩
  · rw [h₂.credits, h₁.credits]
    simp only [exists_mem_append]
    exact ite_idem_or (fun _ => none) (fun _ => rfl) _
  · rw [h₂.uc, h₁.uc]
    refine (ite_congr (c := tu = true ∧ ∃ p ∈ l₂, op = ⟨rec.hash, p.1⟩ ∧
      (s.credits.find? ⟨rec.hash, blk, p.1⟩).isSome = true)
      (u := (s.credits.find? ⟨rec.hash, blk, op.index⟩).map (fun v => (⟨v.amount, v.change⟩ : UCredit)))
      (propext ?_) (fun hc => ?_) (fun _ => rfl)).trans ?_
    · exact and_congr_right fun _ => exists_congr fun p => and_congr_right fun hp => by rw [hcr p hp]
    · obtain ⟨_, p, hp, e, _⟩ := hc
      rw [e]; exact congrArg _ (hcr p hp)
    · simp only [exists_mem_append, and_or_left]
      exact ite_idem_or (fun _ => (s.credits.find? ⟨rec.hash, blk, op.index⟩).map _) (fun _ => rfl) _

theorem outSpec_fold (rec : Tx) (blk : Block) (tu : Bool) (f : RB → Nat × Int → RB)
    (hf : ∀ r p, (f r p).s = (rbEraseCore rec blk r p.1 p.2 tu).s) :
    ∀ (l : List (Nat × Int)) (r : RB), (l.map (·.1)).Nodup → OutSpec rec blk tu l r.s (l.foldl f r).s :=
  foldl_spec (fun l r r' => OutSpec rec blk tu l r.s r'.s) f (·.1) (fun r => outSpec_refl rec blk tu r.s)
    (fun r p => by rw [hf]; exact rbErase_fields rec blk r p.1 p.2 tu) fun _ _ _ _ _ => outSpec_trans

theorem rbCoinbaseOut_cb_fold (rec : Tx) (blk : Block) (l : List (Nat × Int)) (r : RB) :
    (l.foldl (rbCoinbaseOut rec blk) r).cb = r.cb ++ l.map fun p => (⟨rec.hash, p.1⟩ : OutPoint) := by
  induction l generalizing r with
  | nil => exact (List.append_nil _).symm
  | cons a t ih => rw [List.foldl_cons, ih, (rbCoinbaseOut_eq rec blk r a.1 a.2).2.2, List.append_assoc]; rfl

theorem foldl_cb_output (rec : Tx) (blk : Block) (l : List (Nat × Int)) (r : RB) :
    (l.foldl (rbOutput rec blk) r).cb = r.cb :=
  loop_inv (fun r' : RB => r'.cb = r.cb) (fun r' a h => by
    obtain ⟨_, _, _, _, hs, _⟩ := rbEraseCore_fields rec blk r' a.1 a.2 true
    rw [rbOutput_eq, hs]; exact h) l rfl

/-- all of `rbTx` for the record `rec` of block `blk`: the record goes; a coinbase loses its credits and remembers its
outputs in `cb`; any other transaction is unconfirmed again, its debits go, the credits it spent are unspent again and
its own credits become unconfirmed credits -/
structure TxSpec (rec : Tx) (blk : Block) (r r' : RB) : Prop where
  blocks : r'.s.blocks = r.s.blocks
  locked : r'.s.locked = r.s.locked
  txrecs : ∀ k, r'.s.txrecs.find? k = if k = ⟨rec.hash, blk⟩ then none else r.s.txrecs.find? k
  unmined : ∀ h, r'.s.unmined.find? h =
    if rec.isCoinBase = false ∧ h = rec.hash then some rec else r.s.unmined.find? h
  debits : ∀ dk, r'.s.debits.find? dk =
    if rec.isCoinBase = false ∧ ∃ j, j < rec.ins.length ∧ dk = ⟨rec.hash, blk, j⟩ then none else r.s.debits.find? dk
  credits : ∀ k, r'.s.credits.find? k =
    if ∃ i, i < rec.outs.length ∧ k = ⟨rec.hash, blk, i⟩ then none
    else if rec.isCoinBase = false ∧ ∃ j, j < rec.ins.length ∧ ∃ d, r.s.debits.find? ⟨rec.hash, blk, j⟩ = some d ∧ d.credKey = k
    then (r.s.credits.find? k).map unspendVal else r.s.credits.find? k
  uc : ∀ op, r'.s.unminedCredits.find? op =
    if rec.isCoinBase = false ∧ ∃ i, i < rec.outs.length ∧ op = ⟨rec.hash, i⟩ ∧
      (r.s.credits.find? ⟨rec.hash, blk, i⟩).isSome = true
    then (r.s.credits.find? ⟨rec.hash, blk, op.index⟩).map (fun v => (⟨v.amount, v.change⟩ : UCredit))
    else r.s.unminedCredits.find? op
  ui : ∀ op x, x ∈ spendHashes r'.s op ↔
    x ∈ spendHashes r.s op ∨ (rec.isCoinBase = false ∧ x = rec.hash ∧ op ∈ rec.ins)
  ne : InputsNE r.s → InputsNE r'.s
  cb : r'.cb = r.cb ++ (if rec.isCoinBase then (List.range rec.outs.length).map (fun i => (⟨rec.hash, i⟩ : OutPoint)) else [])
  nodupTx : NodupKeys r.s.txrecs → NodupKeys r'.s.txrecs
  nodupUnmined : NodupKeys r.s.unmined → NodupKeys r'.s.unmined
  nodupDeb : NodupKeys r.s.debits → NodupKeys r'.s.debits
  nodupUC : NodupKeys r.s.unminedCredits → NodupKeys r'.s.unminedCredits

/-- `InSpec` over the inputs (none for a coinbase), then `OutSpec` over the outputs, started from `rbStart`; each clause of `TxSpec`
is the two composed.  `hlin` turns `∃ p ∈ (if cb then [] else withIdx ins)` into `cb = false ∧ ∃ j < ins.length`, the form the
clauses are stated in. -/
theorem txSpec_pure (rec : Tx) (blk : Block) (r : RB) : TxSpec rec blk r (rbTxPure blk r rec) := by
  unfold rbTxPure
  have hlin : ∀ P : Nat → Prop, (∃ p ∈ (if rec.isCoinBase then [] else withIdx rec.ins), P p.1) ↔
      (rec.isCoinBase = false ∧ ∃ j, j < rec.ins.length ∧ P j) := fun P => by
    cases rec.isCoinBase
    · exact (exists_withIdx rec.ins P).trans (and_iff_right rfl).symm
    · exact iff_of_false (fun ⟨_, h, _⟩ => nomatch h) fun h => nomatch h.1
  have hin := inSpec_fold rec blk (if rec.isCoinBase then [] else withIdx rec.ins) (rbStart blk r rec) (by
    cases rec.isCoinBase
    · exact withIdx_fst_nodup _ _
    · exact List.nodup_nil)
  generalize (if rec.isCoinBase then [] else withIdx rec.ins).foldl (rbInput rec blk) (rbStart blk r rec) = r2 at hin
  have hout := outSpec_fold rec blk (!rec.isCoinBase) (if rec.isCoinBase then rbCoinbaseOut rec blk else rbOutput rec blk)
    (fun r p => by
      cases rec.isCoinBase
      · exact congrArg RB.s (rbOutput_eq rec blk r p.1 p.2)
      · exact (rbCoinbaseOut_eq rec blk r p.1 p.2).1) (withIdx rec.outs) r2 (withIdx_fst_nodup _ _)
  have hcb : ((withIdx rec.outs).foldl (if rec.isCoinBase then rbCoinbaseOut rec blk else rbOutput rec blk) r2).cb =
      r2.cb ++ if rec.isCoinBase then (List.range rec.outs.length).map (fun i => (⟨rec.hash, i⟩ : OutPoint)) else [] := by
    cases rec.isCoinBase
    · exact (foldl_cb_output rec blk _ r2).trans (List.append_nil _).symm
    · refine (rbCoinbaseOut_cb_fold rec blk _ r2).trans (congrArg _ ?_)
      have := congrArg (List.map fun i => (⟨rec.hash, i⟩ : OutPoint)) (withIdx_map_fst_eq rec.outs 0)
      rw [List.map_map, ← List.range_eq_range'] at this
      exact this
  generalize (withIdx rec.outs).foldl (if rec.isCoinBase then rbCoinbaseOut rec blk else rbOutput rec blk) r2 = r'
    at hout hcb
  have hcred : ∀ k, r2.s.credits.find? k =
      if rec.isCoinBase = false ∧ ∃ j, j < rec.ins.length ∧ ∃ d, r.s.debits.find? ⟨rec.hash, blk, j⟩ = some d ∧ d.credKey = k
      then (r.s.credits.find? k).map unspendVal else r.s.credits.find? k := fun k => by
    rw [hin.credits]
    simp only [hlin fun j => ∃ d, (rbStart blk r rec).s.debits.find? ⟨rec.hash, blk, j⟩ = some d ∧ d.credKey = k]
    rfl
  refine ⟨hout.blocks.trans hin.blocks, hout.locked.trans hin.locked, fun k => ?_, fun h => ?_, fun dk => ?_,
    fun k => ?_, fun op => ?_, fun op x => ?_, fun h op => ?_, ?_, fun h => ?_, fun h => ?_, fun h => ?_, fun h => ?_⟩
  · rw [hout.txrecs, hin.txrecs]; exact find?_erase_eq _ _ _
  · rw [hout.unmined, hin.unmined]
    show (if rec.isCoinBase then r.s.unmined else r.s.unmined.insert rec.hash rec).find? h = _
    cases rec.isCoinBase
    · simp only [true_and]; exact find?_insert_eq _ _ _ _
    · exact (if_neg fun e => nomatch e.1).symm
  · rw [hout.debits, hin.debits]
    simp only [hlin fun j => dk = ⟨rec.hash, blk, j⟩]; rfl
  · rw [hout.credits, hcred]
    simp only [exists_withIdx rec.outs (fun i => k = ⟨rec.hash, blk, i⟩)]
  · -- unspending a credit changes neither its presence nor its amount and change flag
    have hmap : ∀ k, (r2.s.credits.find? k).map (fun v => (⟨v.amount, v.change⟩ : UCredit)) =
        (r.s.credits.find? k).map (fun v => (⟨v.amount, v.change⟩ : UCredit)) := fun k => by
      rw [hcred, apply_ite (Option.map _), Option.map_map]; exact ite_self _
    have hsome : ∀ k, (r2.s.credits.find? k).isSome = (r.s.credits.find? k).isSome := fun k => by
      rw [← Option.isSome_map (f := fun v => (⟨v.amount, v.change⟩ : UCredit)), hmap, Option.isSome_map]
    rw [hout.uc, hmap, hin.uc]
    simp only [exists_withIdx rec.outs
      (fun i => op = ⟨rec.hash, i⟩ ∧ (r.s.credits.find? ⟨rec.hash, blk, i⟩).isSome = true), Bool.not_eq_true', hsome]
    rfl
  · have : spendHashes r'.s op = spendHashes r2.s op := congrArg (fun m => (m.find? op).getD []) hout.ui
    rw [this, hin.ui]
    refine or_congr Iff.rfl ?_
    cases rec.isCoinBase
    · exact (and_congr_right fun _ => exists_withIdx_snd rec.ins op).trans (and_iff_right rfl).symm
    · exact iff_of_false (fun ⟨_, _, h, _⟩ => nomatch h) fun h => nomatch h.1
  · rw [hout.ui]; exact hin.ne h op
  · rw [hcb, hin.cb]; rfl
  · rw [hout.txrecs, hin.txrecs]; exact nodupKeys_erase _ _ h
  · rw [hout.unmined, hin.unmined]
    show NodupKeys (if rec.isCoinBase then r.s.unmined else r.s.unmined.insert rec.hash rec)
    cases rec.isCoinBase
    · exact nodupKeys_insert _ _ _ h
    · exact h
  · rw [hout.debits]; exact hin.nodupDeb h
  · apply hout.nodupUC; rw [hin.uc]; exact h

end TxStore
