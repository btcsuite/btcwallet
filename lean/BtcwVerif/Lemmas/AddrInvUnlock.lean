import BtcwVerif.Lemmas.AddrInvOps
/-!
`Lock` / `Unlock` (with the derive-on-unlock pass) keep `Inv`, `Nodups` and `IdxInv`.  The pass is three nested loops
(`douStep`, `douAll`, `unlockScopes`) over one heap: `PrivUpd` relates the heaps and is transitive, and both what an entry
needs before it is processed (`EntryOK`) and what it has afterwards (`Processed`) survive a `PrivUpd`, so each loop hands
them through.
-/
set_option linter.unusedSectionVars false
namespace AddrDerive
open AddrSym

variable {K P : Type} [DecidableEq K] [DecidableEq P] {hd : HD K P} {s s' : State K P} {sc : Scope} {acct : Nat} {sm : ScopeMem K P}
  {sd : ScopeDisk K P} {ai : AcctInfo K P}

def PrivUpd (hd : HD K P) (heap heap' : List (Obj K P)) : Prop :=
  heap'.length = heap.length ∧ ∀ idx : Nat, heap'[idx]? = heap[idx]? ∨
    ∃ o k, heap[idx]? = some (.key o) ∧ heap'[idx]? = some (.key { o with privEnc := some (.hd k) }) ∧ o.pub = .hd (hd.neuter k)

theorem PrivUpd.refl (hd : HD K P) (heap : List (Obj K P)) : PrivUpd hd heap heap := ⟨rfl, fun _ => Or.inl rfl⟩

theorem PrivUpd.trans {h1 h2 h3 : List (Obj K P)} (a : PrivUpd hd h1 h2) (b : PrivUpd hd h2 h3) : PrivUpd hd h1 h3 := by
  refine ⟨b.1.trans a.1, fun idx => ?_⟩
  rcases b.2 idx with hb | ⟨o, k, hb1, hb2, hb3⟩
  · rw [hb]; exact a.2 idx
  · rcases a.2 idx with ha | ⟨o0, k0, ha1, ha2, ha3⟩
    · exact Or.inr ⟨o, k, by rw [← ha]; exact hb1, hb2, hb3⟩
    · rw [ha2] at hb1
      cases hb1
      exact Or.inr ⟨o0, k, ha1, hb2, hb3⟩

theorem PrivUpd.obj {h1 h2 : List (Obj K P)} (a : PrivUpd hd h1 h2) {idx : Nat} {o' : KeyObj K P}
    (h : h2[idx]? = some (.key o')) :
    ∃ o, h1[idx]? = some (.key o) ∧ (o' = o ∨ ∃ k, o' = { o with privEnc := some (.hd k) } ∧ o.pub = .hd (hd.neuter k)) := by
  rcases a.2 idx with ha | ⟨o, k, ha1, ha2, ha3⟩
  · exact ⟨o', by rw [← ha]; exact h, Or.inl rfl⟩
  · rw [ha2] at h; cases h
    exact ⟨o, ha1, Or.inr ⟨k, rfl, ha3⟩⟩

theorem PrivUpd.obj' {h1 h2 : List (Obj K P)} (a : PrivUpd hd h1 h2) {idx : Nat} {o : KeyObj K P}
    (h : h1[idx]? = some (.key o)) :
    ∃ o', h2[idx]? = some (.key o') ∧ (o' = o ∨ ∃ k, o' = { o with privEnc := some (.hd k) } ∧ o.pub = .hd (hd.neuter k)) := by
  rcases a.2 idx with ha | ⟨o0, k, ha1, ha2, ha3⟩
  · exact ⟨o, by rw [ha]; exact h, Or.inl rfl⟩
  · rw [h] at ha1; cases ha1
    exact ⟨_, ha2, Or.inr ⟨k, rfl, ha3⟩⟩

def EntryOK (hd : HD K P) (ais : List (Nat × AcctInfo K P)) (heap : List (Obj K P)) (e : Nat × Nat × Nat) : Prop :=
  ∀ o, heap[e.1]? = some (.key o) → ∀ ai ak, alookup ais o.acct = some ai → ai.keyPriv = some ak →
    ∀ k, derive2 hd ak e.2.1 e.2.2 = some k → o.pub = .hd (hd.neuter k)

def Processed (ais : List (Nat × AcctInfo K P)) (heap : List (Obj K P)) (e : Nat × Nat × Nat) : Prop :=
  ∀ o, heap[e.1]? = some (.key o) → (∃ ai ak, alookup ais o.acct = some ai ∧ ai.keyPriv = some ak) → o.privEnc.isSome

theorem EntryOK.mono {ais : List (Nat × AcctInfo K P)} {h1 h2 : List (Obj K P)} {e : Nat × Nat × Nat}
    (a : PrivUpd hd h1 h2) (x : EntryOK hd ais h1 e) : EntryOK hd ais h2 e := by
  intro o' ho' ai ak hai hak k hk
  obtain ⟨o, ho, hcase⟩ := a.obj ho'
  have e1 : o'.acct = o.acct ∧ o'.pub = o.pub := by
    rcases hcase with h | ⟨k0, h, _⟩ <;> rw [h] <;> exact ⟨rfl, rfl⟩
  rw [e1.1] at hai; rw [e1.2]
  exact x o ho ai ak hai hak k hk

theorem Processed.mono {ais : List (Nat × AcctInfo K P)} {h1 h2 : List (Obj K P)} {e : Nat × Nat × Nat}
    (a : PrivUpd hd h1 h2) (x : Processed ais h1 e) : Processed ais h2 e := by
  intro o' ho' hex
  obtain ⟨o, ho, hcase⟩ := a.obj ho'
  rcases hcase with h | ⟨k0, h, _⟩
  · rw [h] at hex ⊢; exact x o ho hex
  · rw [h]; rfl

theorem douStep_spec {ais : List (Nat × AcctInfo K P)} {heap heap' : List (Obj K P)} {e : Nat × Nat × Nat}
    (hok : EntryOK hd ais heap e) (h : douStep hd ais heap e = some heap') : PrivUpd hd heap heap' ∧ Processed ais heap' e := by
  unfold douStep at h
  split at h
  · rename_i o ho
    split at h
    · rename_i ai hai
      split at h
      · rename_i ak hak
        split at h
        · rename_i k hk
          cases h
          refine ⟨⟨length_setAt _ _ _, fun idx => ?_⟩, ?_⟩
          · rw [getElem?_setAt_of_some ho]
            by_cases hi : e.1 = idx
            · subst hi
              exact Or.inr ⟨o, k, ho, if_pos rfl, hok o ho ai ak hai hak k hk⟩
            · exact Or.inl (if_neg hi)
          · intro o' ho' _
            rw [getElem?_setAt_of_some ho, if_pos rfl] at ho'
            cases ho'
            rfl
        · cases h
      · rename_i hak
        cases h
        refine ⟨PrivUpd.refl _ _, ?_⟩
        intro o' ho' ⟨ai', ak', h1, h2⟩
        rw [ho] at ho'; cases ho'
        rw [hai] at h1; cases h1
        rw [hak] at h2; cases h2
    · rename_i hai
      cases h
      refine ⟨PrivUpd.refl _ _, ?_⟩
      intro o' ho' ⟨ai', ak', h1, h2⟩
      rw [ho] at ho'; cases ho'
      rw [hai] at h1; cases h1
  · rename_i hne
    cases h
    refine ⟨PrivUpd.refl _ _, ?_⟩
    intro o' ho' _
    exact absurd ho' (hne o')

theorem douAll_spec {ais : List (Nat × AcctInfo K P)} : ∀ (dou : List (Nat × Nat × Nat)) (heap heap' : List (Obj K P)),
    (∀ e ∈ dou, EntryOK hd ais heap e) → douAll hd ais dou heap = some heap' →
    PrivUpd hd heap heap' ∧ ∀ e ∈ dou, Processed ais heap' e := by
  intro dou
  induction dou with
  | nil => intro heap heap' _ h; simp [douAll] at h; subst h; exact ⟨PrivUpd.refl _ _, fun e he => by cases he⟩
  | cons e t ih =>
    intro heap heap' hok h
    unfold douAll at h
    split at h
    · rename_i h1 hs
      obtain ⟨u1, p1⟩ := douStep_spec (hok e List.mem_cons_self) hs
      obtain ⟨u2, p2⟩ := ih h1 heap' (fun e' he' => (hok e' (List.mem_cons_of_mem _ he')).mono u1) h
      refine ⟨u1.trans u2, fun e' he' => ?_⟩
      rcases List.mem_cons.mp he' with rfl | he'
      · exact p1.mono u2
      · exact p2 e' he'
    · cases h

def unlockScope (sm : ScopeMem K P) : ScopeMem K P :=
  { sm with acctInfo := sm.acctInfo.map fun a => (a.1, unlockAcct a.2), dou := [] }

theorem unlockScopes_eq_map : ∀ (scs : List (Scope × ScopeMem K P)) (heap : List (Obj K P))
    (scs' : List (Scope × ScopeMem K P)) (heap' : List (Obj K P)), unlockScopes hd scs heap = some (scs', heap') →
    scs' = scs.map (fun p => (p.1, unlockScope p.2)) := by
  intro scs
  induction scs with
  | nil => intro heap scs' heap' h; cases h; rfl
  | cons p t ih =>
    intro heap scs' heap' h
    obtain ⟨sc, sm⟩ := p
    unfold unlockScopes at h
    dsimp only at h
    split at h
    · cases h
    · split at h
      · cases h
      · rename_i t' h2 ht
        cases h
        rw [ih _ _ _ ht]; rfl

theorem unlockScopes_spec : ∀ (scs : List (Scope × ScopeMem K P)) (heap : List (Obj K P))
    (scs' : List (Scope × ScopeMem K P)) (heap' : List (Obj K P)),
    (∀ p ∈ scs, ∀ e ∈ p.2.dou, EntryOK hd (unlockScope p.2).acctInfo heap e) →
    unlockScopes hd scs heap = some (scs', heap') →
    PrivUpd hd heap heap' ∧ ∀ p ∈ scs, ∀ e ∈ p.2.dou, Processed (unlockScope p.2).acctInfo heap' e := by
  intro scs
  induction scs with
  | nil =>
    intro heap scs' heap' _ h
    cases h
    exact ⟨PrivUpd.refl _ _, fun p hp => nomatch hp⟩
  | cons p t ih =>
    intro heap scs' heap' hok h
    obtain ⟨sc, sm⟩ := p
    unfold unlockScopes at h
    dsimp only at h
    split at h
    · cases h
    · rename_i h1 hd1
      split at h
      · cases h
      · rename_i t' h2 ht
        cases h
        obtain ⟨u1, p1⟩ := douAll_spec sm.dou heap h1 (hok (sc, sm) List.mem_cons_self) hd1
        obtain ⟨u2, p2⟩ := ih h1 t' heap' (fun q hq e he => (hok q (List.mem_cons_of_mem _ hq) e he).mono u1) ht
        refine ⟨u1.trans u2, fun q hq e he => ?_⟩
        rcases List.mem_cons.mp hq with rfl | hq
        · exact (p1 e he).mono u2
        · exact p2 q hq e he

theorem getSM_doLock (s : State K P) (sc : Scope) : getSM (doLock s) sc = (getSM s sc).map lockScope := by
  simp only [getSM, doLock]
  exact alookup_map s.mem.scopes (fun _ sm => lockScope sm) sc

theorem cacheAt_doLock (s : State K P) (sc : Scope) (a : Nat) : cacheAt (doLock s) sc a = (cacheAt s sc a).map lockAcct := by
  unfold cacheAt
  rw [getSM_doLock]
  cases getSM s sc with
  | none => rfl
  | some sm => exact alookup_map sm.acctInfo (fun _ ai => lockAcct ai) a

theorem douAt_doLock (s : State K P) (sc : Scope) : douAt (doLock s) sc = douAt s sc := by
  unfold douAt
  rw [getSM_doLock]
  cases getSM s sc <;> rfl

theorem doLock_inv (h : Inv hd s) : Inv hd (doLock s) := by
  refine ⟨h.woEq, fun _ => rfl, h.disk.of_eq rfl rfl rfl, ?_, ?_, ?_, ?_⟩
  · intro sc a ai hc
    rw [cacheAt_doLock] at hc
    obtain ⟨ai0, hc0, rfl⟩ := Option.map_eq_some_iff.mp hc
    obtain ⟨row, hr, hok⟩ := h.cache sc a ai0 hc0
    exact ⟨row, hr, hok.pub, hok.enc, fun _ => rfl, fun hl => by cases hl⟩
  · intro o ho
    exact KeyObjOK.congr (s := s) (fun _ _ => rfl) rfl (h.heap o ho)
  · intro sc e he
    rw [douAt_doLock] at he
    obtain ⟨o, ho, hd0⟩ := h.dou sc e he
    exact ⟨o, ho, hd0.mono fun x => by rwa [cacheAt_doLock, Option.isSome_map]⟩
  · intro idx o ho hni hpa hw
    rcases h.sign idx o ho hni hpa hw with h1 | ⟨h1, e, he, hei⟩
    · exact Or.inl h1
    · exact Or.inr ⟨rfl, e, by rw [douAt_doLock]; exact he, hei⟩

theorem doLock_keeps (s : State K P) : Keeps hd s (doLock s) := by
  refine .same (·.same (keys_map_snd ..) rfl) (fun _ _ => rfl) fun sc a ai' hc => ?_
  rw [cacheAt_doLock] at hc
  obtain ⟨ai, h0, rfl⟩ := Option.map_eq_some_iff.mp hc
  exact ⟨ai, h0, rfl, rfl⟩

theorem opLock_ok (h : Inv hd s) : Ok hd s (opLock s).1 := by
  unfold opLock
  exact ite_fst (fun _ => .refl h) fun _ => ite_fst (fun _ => .refl h) fun _ => ⟨doLock_inv h, doLock_keeps s⟩

theorem unlockAcct_next (ai : AcctInfo K P) : (unlockAcct ai).nextExt = ai.nextExt ∧ (unlockAcct ai).nextInt = ai.nextInt := by
  unfold unlockAcct; split <;> exact ⟨rfl, rfl⟩

theorem unlockAcct_priv (ai : AcctInfo K P) (hl : ai.keyPriv = none) : (unlockAcct ai).keyPriv = ai.keyEnc ∧
    (unlockAcct ai).keyEnc = ai.keyEnc ∧ (unlockAcct ai).keyPub = ai.keyPub := by
  unfold unlockAcct
  cases h : ai.keyEnc with
  | none => simp [hl, h]
  | some k => simp

/-- what `Unlock` leaves in the account cache of a scope of a locked manager: every entry with its row's private key -/
theorem unlockScope_cache (h : Inv hd s) (hlk : s.mem.locked = true) (hsm : getSM s sc = some sm) (a : Nat) :
    alookup (unlockScope sm).acctInfo a = (cacheAt s sc a).map unlockAcct ∧
    ∀ ai0 row, cacheAt s sc a = some ai0 → acctRow s sc a = some row → (unlockAcct ai0).keyPriv = rowPriv row := by
  refine ⟨by rw [cacheAt_of_getSM hsm]; exact alookup_map sm.acctInfo (fun _ ai => unlockAcct ai) a, fun ai0 row hc0 hr => ?_⟩
  obtain ⟨row', hr', hok⟩ := h.cache sc a ai0 hc0
  cases hr.symm.trans hr'
  rw [(unlockAcct_priv ai0 (hok.locked hlk)).1, hok.enc]

/-- A queued object's public key is the public child `b/i` of its account's public key (`DouObj.pub`), the unlocked cache entry
    holds the row's private key (`unlockScope_cache`), which is the key of that public key (`RowKeyOK`): by `HD.Lawful` the
    private child derived for the entry is the key of the object's public key.  `Nodups` turns membership in the scope list,
    over which `Unlock` runs, into the lookup `Inv` speaks of. -/
theorem unlock_entries_ok (hlaw : hd.Lawful) (hn : hd.NoHardPub) (h : Inv hd s) (hnd : Nodups s)
    (hlk' : s.mem.locked = true) :
    ∀ p ∈ s.mem.scopes, ∀ e ∈ p.2.dou, EntryOK hd (unlockScope p.2).acctInfo s.mem.heap e := by
  intro p hp e he o ho ai ak hai hak k hk
  obtain ⟨sc, sm⟩ := p
  have hsm := alookup_of_mem_nodup _ hnd.m sc sm hp
  obtain ⟨o2, ho2, hdo⟩ := h.dou sc e (by rw [douAt_of_getSM hsm]; exact he)
  have ho2' : o2 = o := by
    rw [ho] at ho2; injection ho2 with x; injection x with y; exact y.symm
  rw [ho2'] at hdo
  have hmem : Obj.key o ∈ s.mem.heap := List.mem_of_getElem? ho
  obtain ⟨row, hr, hap, _, _, _⟩ := (h.heap o hmem).chained hdo.notImp
  rw [hdo.scope] at hr
  obtain ⟨hu1, hu2⟩ := unlockScope_cache h hlk' hsm o.acct
  rw [hu1] at hai
  obtain ⟨ai0, hc0, rfl⟩ := Option.map_eq_some_iff.mp hai
  rw [hu2 ai0 row hc0 hr] at hak
  have hneu := (h.disk.row sc o.acct row hr).neuter hak
  obtain ⟨ap, q, hq1, hq2, hq3⟩ := hdo.pub
  rw [hap] at hq1; cases hq1
  obtain ⟨hb, hi⟩ := derive2pub_nonhard hd hn _ _ _ _ hq2
  have := derive2_neuter hd hlaw ak o.branch o.index hb hi
  rw [hdo.branch, hdo.index, hk, hneu] at this
  rw [hdo.branch, hdo.index] at hq2
  rw [hq2] at this
  simp at this
  rw [hq3, this]

def afterUnlock (s : State K P) (heap' : List (Obj K P)) : State K P :=
  { s with mem := { s.mem with locked := false, scopes := s.mem.scopes.map (fun p => (p.1, unlockScope p.2)), heap := heap' } }

theorem getSM_afterUnlock (s : State K P) (heap' : List (Obj K P)) (sc : Scope) :
    getSM (afterUnlock s heap') sc = (getSM s sc).map unlockScope :=
  alookup_map s.mem.scopes (fun _ sm => unlockScope sm) sc

theorem cacheAt_afterUnlock (s : State K P) (heap' : List (Obj K P)) (sc : Scope) (a : Nat) :
    cacheAt (afterUnlock s heap') sc a = (cacheAt s sc a).map unlockAcct := by
  unfold cacheAt
  rw [getSM_afterUnlock]
  cases getSM s sc with
  | none => rfl
  | some sm => exact alookup_map sm.acctInfo (fun _ ai => unlockAcct ai) a

theorem douAt_afterUnlock (s : State K P) (heap' : List (Obj K P)) (sc : Scope) : douAt (afterUnlock s heap') sc = [] := by
  unfold douAt
  rw [getSM_afterUnlock]
  cases getSM s sc <;> rfl

def UnlockOutcome (hd : HD K P) (s : State K P) (r : State K P × Res K × List Row) : Prop :=
  (r.1 = s ∧ (r.2.1 = .ok → s.mem.locked = false ∧ s.mem.watchOnly = false)) ∨ (r.1 = doLock s ∧ r.2.1 ≠ .ok) ∨
  ∃ heap', s.mem.locked = true ∧ s.mem.watchOnly = false ∧
    unlockScopes hd s.mem.scopes s.mem.heap = some (s.mem.scopes.map (fun p => (p.1, unlockScope p.2)), heap') ∧
    r.1 = afterUnlock s heap'

theorem opUnlock_outcome (cfg : Cfg) (hf2 : cfg.f2 = false) (hu2 : cfg.u2 = false) (hd : HD K P) (s : State K P) (pass : Nat) :
    UnlockOutcome hd s (opUnlock cfg hd s pass) := by
  unfold opUnlock
  rw [hf2, hu2]
  refine ite_ind (fun _ => Or.inl ⟨rfl, nofun⟩) fun hw => ?_
  refine ite_ind (fun hl => ?_) fun hl => ?_
  · exact ite_ind (fun _ => Or.inl ⟨rfl, fun _ => ⟨by simpa using hl, by simpa using hw⟩⟩) fun _ => Or.inr (Or.inl ⟨rfl, nofun⟩)
  refine ite_ind (fun _ => Or.inr (Or.inl ⟨rfl, nofun⟩)) fun _ => ?_
  refine ite_ind (fun h => Bool.noConfusion h) fun _ => ?_
  refine ite_ind (fun h => Bool.noConfusion h) fun _ => ?_
  split
  · exact Or.inr (Or.inl ⟨rfl, nofun⟩)
  · rename_i scs heap' hu
    cases unlockScopes_eq_map _ _ _ _ hu
    exact Or.inr (Or.inr ⟨heap', by simpa using hl, by simpa using hw, hu, rfl⟩)

theorem opUnlock_privUpd (hlaw : hd.Lawful) (hn : hd.NoHardPub) (h : Inv hd s) (hnd : Nodups s)
    (pass : Nat) : PrivUpd hd s.mem.heap (opUnlock Cfg.fixed hd s pass).1.mem.heap := by
  rcases opUnlock_outcome Cfg.fixed rfl rfl hd s pass with ⟨e, _⟩ | ⟨e, _⟩ | ⟨heap', hlk, _, hu, e⟩ <;> rw [e]
  · exact PrivUpd.refl _ _
  · exact PrivUpd.refl _ _
  · exact (unlockScopes_spec _ _ _ _ (unlock_entries_ok hlaw hn h hnd hlk) hu).1

theorem opUnlock_ok_unlocked (s : State K P) (pass : Nat) (hok : (opUnlock Cfg.fixed hd s pass).2.1 = .ok) :
    (opUnlock Cfg.fixed hd s pass).1.mem.locked = false ∧ (opUnlock Cfg.fixed hd s pass).1.mem.watchOnly = false := by
  rcases opUnlock_outcome Cfg.fixed rfl rfl hd s pass with ⟨e, x⟩ | ⟨_, x⟩ | ⟨heap', _, hw, _, e⟩
  · rw [e]; exact x hok
  · exact absurd hok x
  · rw [e]; exact ⟨rfl, hw⟩

theorem opUnlock_acctRow (hd : HD K P) (s : State K P) (pass : Nat) (sc : Scope) (a : Nat) :
    acctRow (opUnlock Cfg.fixed hd s pass).1 sc a = acctRow s sc a := by
  rcases opUnlock_outcome Cfg.fixed rfl rfl hd s pass with ⟨e, _⟩ | ⟨e, _⟩ | ⟨_, _, _, _, e⟩ <;> rw [e] <;> rfl

theorem opUnlock_keeps (hd : HD K P) (s : State K P) (pass : Nat) : Keeps hd s (opUnlock Cfg.fixed hd s pass).1 := by
  rcases opUnlock_outcome Cfg.fixed rfl rfl hd s pass with ⟨e, _⟩ | ⟨e, _⟩ | ⟨heap', _, _, _, e⟩ <;> rw [e]
  · exact .refl s
  · exact doLock_keeps s
  refine .same (·.same (keys_map_snd ..) rfl) (fun _ _ => rfl) fun sc a ai' hc => ?_
  rw [cacheAt_afterUnlock] at hc
  obtain ⟨ai, h0, rfl⟩ := Option.map_eq_some_iff.mp hc
  exact ⟨ai, h0, unlockAcct_next ai⟩

theorem opUnlock_inv (hlaw : hd.Lawful) (hn : hd.NoHardPub) (h : Inv hd s) (hnd : Nodups s)
    (pass : Nat) : Inv hd (opUnlock Cfg.fixed hd s pass).1 := by
  rcases opUnlock_outcome Cfg.fixed rfl rfl hd s pass with ⟨e, _⟩ | ⟨e, _⟩ | ⟨heap', hlk', hwo', hu, e⟩ <;> rw [e]
  · exact h
  · exact doLock_inv h
  obtain ⟨hupd, hproc⟩ := unlockScopes_spec _ _ _ _ (unlock_entries_ok hlaw hn h hnd hlk') hu
  refine ⟨h.woEq, fun hw => (by rw [show (afterUnlock s heap').mem.watchOnly = s.mem.watchOnly from rfl, hwo'] at hw; cases hw),
    h.disk.of_eq rfl rfl rfl, ?_, ?_, ?_, ?_⟩
  · intro sc a ai hc
    rw [cacheAt_afterUnlock] at hc
    obtain ⟨ai0, hc0, rfl⟩ := Option.map_eq_some_iff.mp hc
    obtain ⟨row, hr, hok⟩ := h.cache sc a ai0 hc0
    have hup := unlockAcct_priv ai0 (hok.locked hlk')
    exact ⟨row, hr, (by rw [hup.2.2]; exact hok.pub), (by rw [hup.2.1]; exact hok.enc), fun hl => (by cases hl),
      fun _ => (by rw [hup.1, hup.2.1])⟩
  · intro o' ho'
    obtain ⟨idx, hidx⟩ := List.getElem?_of_mem ho'
    obtain ⟨o, ho, hcase⟩ := hupd.obj hidx
    have hko := h.heap o (List.mem_of_getElem? ho)
    rcases hcase with e | ⟨k, e, hpk⟩
    · rw [e]; exact KeyObjOK.congr (s := s) (fun _ _ => rfl) rfl hko
    · rw [e]
      refine ⟨?_, hko.chained, hko.imported⟩
      intro k' hk'
      simp at hk'
      subst hk'
      simp [pubOf, hpk]
  · intro sc e he
    rw [douAt_afterUnlock] at he; cases he
  · intro idx o' ho' hni hpa hw
    left
    obtain ⟨o, ho, hcase⟩ := hupd.obj (idx := idx) (o' := o') ho'
    rcases hcase with e | ⟨k, e, _⟩
    · subst e
      rcases h.sign idx o' ho hni hpa hwo' with h1 | ⟨_, en, hen, hidx⟩
      · exact h1
      · subst hidx
        cases hsm : getSM s o'.scope with
        | none => simp [douAt, hsm] at hen
        | some sm =>
          rw [douAt_of_getSM hsm] at hen
          have hp := hproc (o'.scope, sm) (alookup_mem _ _ _ hsm) en hen
          obtain ⟨o2, ho2, hdo⟩ := h.dou o'.scope en (by rw [douAt_of_getSM hsm]; exact hen)
          rw [ho] at ho2; cases ho2
          apply hp o' ho'
          -- the object's account is cached (`DouObj`), so unlocked it holds the row's private key, which is there (`hpa`)
          obtain ⟨row, hr, _, _, _, hpriv⟩ := (h.heap o' (List.mem_of_getElem? ho)).chained hni
          obtain ⟨hu1, hu2⟩ := unlockScope_cache h hlk' hsm o'.acct
          obtain ⟨ai0, hc0⟩ := Option.isSome_iff_exists.mp hdo.cached
          obtain ⟨ak, hrp⟩ := Option.isSome_iff_exists.mp
            (show (rowPriv row).isSome = true by rw [← hpriv (by rw [← h.woEq]; exact hwo')]; exact hpa)
          exact ⟨unlockAcct ai0, ak, by rw [hu1, hc0]; rfl, (hu2 ai0 row hc0 hr).trans hrp⟩
    · rw [e]; rfl

end AddrDerive
