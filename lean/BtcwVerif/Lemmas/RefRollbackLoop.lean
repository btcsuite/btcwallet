import BtcwVerif.Lemmas.RefRollbackTx
import BtcwVerif.Lemmas.RefRead
/-!
# Refinement, event *disconnected*: the loop invariant `RBInv` and the main loop
`RBInv s L done r` describes every bucket of the loop state `r` by the original store `s` and the list `done` of
transactions detached so far (the credits bucket through `CredInv`).  `rbInv_txSpec` carries it over one `TxSpec`
step, `rbInv_loop` is the induction over the transactions to detach.
-/
namespace TxStore
open KMap Ledger

def Remaining (L : Ledger) (done : List (Tx × BlockMeta)) (q : Tx × BlockMeta) : Prop := q ∈ chainTxs L ∧ q ∉ done

/-- the (spent, spender) fields of a credit record agree with the confirmed transactions in `C` -/
def SpenderIs (C : Tx × BlockMeta → Prop) (op : OutPoint) (v : CreditVal) : Prop :=
  (v.spent = false ∧ v.spender = none ∧ ∀ q, C q → op ∉ q.1.ins) ∨
  (v.spent = true ∧ ∃ q j, C q ∧ q.1.ins[j]? = some op ∧ v.spender = some ⟨q.1.hash, q.2.block, j⟩)

/-- the credits bucket holds the credited outputs of the confirmed transactions in `C` (those not yet detached), each marked
spent by the one of them that spends it -/
def CredInv (L : Ledger) (C : Tx × BlockMeta → Prop) (credits : KMap CredKey CreditVal) : Prop :=
  ∀ k v, credits.find? k = some v ↔
    ∃ p, C p ∧ k.hash = p.1.hash ∧ k.block = p.2.block ∧ p.1.outs[k.index]? = some v.amount ∧
      lookup L.credit k.outPoint = some v.change ∧ SpenderIs C k.outPoint v

theorem CredKey.eq_mk {k : CredKey} {h : Nat} {b : Block} (e₁ : k.hash = h) (e₂ : k.block = b) :
    k = ⟨h, b, k.index⟩ := by subst e₁ e₂; rfl

theorem LWF.chainTxs_inj {L : Ledger} (hl : LWF L) {p q : Tx × BlockMeta} (hp : p ∈ chainTxs L) (hq : q ∈ chainTxs L)
    (e : p.1.hash = q.1.hash) : p = q :=
  have := hl.mined_unique (t := p.1) (b := p.2) hp hq e
  Prod.ext this.1 this.2

theorem spenderIs_of_ledger {L : Ledger} (hn : ((chainTxs L).flatMap (·.1.ins)).Nodup) (op : OutPoint) (v : CreditVal) :
    SpenderIs (fun q => q ∈ chainTxs L) op v ↔ (v.spender = spenderOf L op ∧ v.spent = (spenderOf L op).isSome) := by
  unfold SpenderIs
  constructor
  · rintro (⟨h1, h2, h3⟩ | ⟨h1, q, j, hq, hj, h2⟩)
    · have : spenderOf L op = none := spenderOf_eq_none_iff.mpr h3
      rw [this, h1, h2]; exact ⟨rfl, rfl⟩
    · have : spenderOf L op = some ⟨q.1.hash, q.2.block, j⟩ := (spenderOf_eq_some_iff hn).mpr ⟨q, hq, j, hj, rfl⟩
      rw [this, h1, h2]; exact ⟨rfl, rfl⟩
  · rintro ⟨h1, h2⟩
    cases hs : spenderOf L op with
    | none =>
      rw [hs] at h1 h2
      exact Or.inl ⟨h2, h1, spenderOf_eq_none_iff.mp hs⟩
    | some dk =>
      rw [hs] at h1 h2
      obtain ⟨q, hq, j, hj, e⟩ := spenderOf_some_elim hs
      exact Or.inr ⟨h2, q, j, hq, hj, by rw [h1, e]⟩

theorem credInv_congr {L : Ledger} {C C' : Tx × BlockMeta → Prop} (h : ∀ q, C q ↔ C' q) (c : KMap CredKey CreditVal) :
    CredInv L C c ↔ CredInv L C' c := by
  rw [show C = C' from funext fun q => propext (h q)]

theorem credInv_chain {L : Ledger} (hn : ((chainTxs L).flatMap (·.1.ins)).Nodup) (c : KMap CredKey CreditVal) :
    CredInv L (fun q => q ∈ chainTxs L) c ↔ ∀ k v, c.find? k = some v ↔ (k, v) ∈ expCredits L := by
  unfold CredInv
  simp only [mem_expCredits, spenderIs_of_ledger hn, Prod.exists]

theorem exists_spenderIs (C : Tx × BlockMeta → Prop) (op : OutPoint) (a : Int) (ch : Bool) :
    ∃ v : CreditVal, v.amount = a ∧ v.change = ch ∧ SpenderIs C op v := by
  by_cases h : ∃ (q : Tx × BlockMeta) (j : Nat), C q ∧ q.1.ins[j]? = some op
  · obtain ⟨q, j, hq, hj⟩ := h
    exact ⟨⟨a, ch, true, some ⟨q.1.hash, q.2.block, j⟩⟩, rfl, rfl, Or.inr ⟨rfl, q, j, hq, hj, rfl⟩⟩
  · refine ⟨⟨a, ch, false, none⟩, rfl, rfl, Or.inl ⟨rfl, rfl, fun q hq hin => h ?_⟩⟩
    obtain ⟨j, hj⟩ := List.getElem?_of_mem hin
    exact ⟨q, j, hq, hj⟩

section remove
variable {C : Tx × BlockMeta → Prop} {a : Tx × BlockMeta} {op : OutPoint}

theorem spenderIs_remove_of_not_mem (hin : op ∉ a.1.ins) (v : CreditVal) :
    SpenderIs (fun q => C q ∧ q ≠ a) op v ↔ SpenderIs C op v := by
  refine or_congr (and_congr_right fun _ => and_congr_right fun _ => ⟨fun h q hq => ?_, fun h q hq => h q hq.1⟩)
    (and_congr_right fun _ => exists_congr fun q => exists_congr fun j => ⟨fun h => ⟨h.1.1, h.2⟩, fun h => ?_⟩)
  · by_cases e : q = a
    · rw [e]; exact hin
    · exact h q ⟨hq, e⟩
  · refine ⟨⟨h.1, ?_⟩, h.2⟩
    rintro rfl
    exact hin (List.mem_of_getElem? h.2.1)

theorem spenderIs_remove_of_mem (honly : ∀ q, C q → op ∈ q.1.ins → q = a) (v : CreditVal) :
    SpenderIs (fun q => C q ∧ q ≠ a) op v ↔ v.spent = false ∧ v.spender = none :=
  ⟨fun h => h.elim (fun h => ⟨h.1, h.2.1⟩) fun ⟨_, q, _, hq, hj, _⟩ =>
      absurd (honly q hq.1 (List.mem_of_getElem? hj)) hq.2,
    fun h => Or.inl ⟨h.1, h.2, fun q hq hin => hq.2 (honly q hq.1 hin)⟩⟩

end remove

theorem credInv_step {L : Ledger} (hl : LWF L) {done : List (Tx × BlockMeta)} {t : Tx} {bm : BlockMeta}
    (ha : (t, bm) ∈ chainTxs L) (hnd : (t, bm) ∉ done)
    {c c' : KMap CredKey CreditVal} (hI : CredInv L (Remaining L done) c)
    (hstep : ∀ k, c'.find? k =
      if ∃ i, i < t.outs.length ∧ k = ⟨t.hash, bm.block, i⟩ then none
      else if k.outPoint ∈ t.ins then (c.find? k).map unspendVal else c.find? k) :
    CredInv L (Remaining L (done ++ [(t, bm)])) c' := by
  refine (credInv_congr (C' := fun q => Remaining L done q ∧ q ≠ (t, bm)) (fun q => ?_) c').mpr fun k v => ?_
  · simp only [Remaining, List.mem_append, List.mem_singleton, not_or, and_assoc]
  -- only t spends the inputs of t
  have honly : ∀ op, op ∈ t.ins → ∀ q, Remaining L done q → op ∈ q.1.ins → q = (t, bm) :=
    fun op h2 q hq h1 => nodup_flatMap_unique _ _ hl.noDouble q hq.1 (t, bm) ha op h1 h2
  rw [hstep]
  by_cases hEk : ∃ i, i < t.outs.length ∧ k = ⟨t.hash, bm.block, i⟩
  · -- the records of the outputs of t are filed under t
    rw [if_pos hEk]
    refine iff_of_false nofun ?_
    obtain ⟨i, _, rfl⟩ := hEk
    rintro ⟨p, hp, e1, _⟩
    exact hp.2 (hl.chainTxs_inj hp.1.1 ha e1.symm)
  · -- and only they
    have hother : ∀ (p : Tx × BlockMeta) {x : Int},
        k.hash = p.1.hash → k.block = p.2.block → p.1.outs[k.index]? = some x → p ≠ (t, bm) := by
      rintro _ _ e1 e2 e3 rfl
      exact hEk ⟨k.index, (List.getElem?_eq_some_iff.mp e3).1, CredKey.eq_mk e1 e2⟩
    rw [if_neg hEk]
    by_cases hin : k.outPoint ∈ t.ins
    · rw [if_pos hin]
      simp only [spenderIs_remove_of_mem (a := (t, bm)) (honly _ hin)]
      constructor
      · intro hf
        cases hc : c.find? k with
        | none => rw [hc] at hf; cases hf
        | some v0 =>
          rw [hc] at hf
          cases hf
          obtain ⟨p, hp, e1, e2, e3, e4, _⟩ := (hI k v0).mp hc
          exact ⟨p, ⟨hp, hother p e1 e2 e3⟩, e1, e2, e3, e4, rfl, rfl⟩
      · rintro ⟨p, hp, e1, e2, e3, e4, h1, h2⟩
        obtain ⟨j, hj⟩ := List.getElem?_of_mem hin
        rw [(hI k { v with spent := true, spender := some ⟨t.hash, bm.block, j⟩ }).mpr
          ⟨p, hp.1, e1, e2, e3, e4, Or.inr ⟨rfl, (t, bm), j, ⟨ha, hnd⟩, hj, rfl⟩⟩]
        obtain ⟨_, _, _, _⟩ := v
        cases h1; cases h2; rfl
    · rw [if_neg hin, hI k v]
      simp only [spenderIs_remove_of_not_mem (a := (t, bm)) hin]
      exact exists_congr fun p => ⟨fun ⟨hp, e1, e2, e3, h⟩ => ⟨⟨hp, hother p e1 e2 e3⟩, e1, e2, e3, h⟩,
        fun ⟨hp, h⟩ => ⟨hp.1, h⟩⟩

theorem credInv_ucredit {L : Ledger} {C : Tx × BlockMeta → Prop} {c : KMap CredKey CreditVal} (hI : CredInv L C c)
    {t : Tx} {bm : BlockMeta} (ha : C (t, bm)) (huniq : ∀ p, C p → p.1.hash = t.hash → p = (t, bm)) (i : Nat)
    (u : UCredit) :
    (c.find? ⟨t.hash, bm.block, i⟩).map (fun v => (⟨v.amount, v.change⟩ : UCredit)) = some u ↔
      t.outs[i]? = some u.amount ∧ lookup L.credit ⟨t.hash, i⟩ = some u.change := by
  constructor
  · intro h
    cases hc : c.find? ⟨t.hash, bm.block, i⟩ with
    | none => rw [hc] at h; cases h
    | some v =>
      rw [hc] at h
      cases h
      obtain ⟨p, hp, e1, _, e3, e4, _⟩ := (hI _ v).mp hc
      rw [huniq p hp e1.symm] at e3
      exact ⟨e3, e4⟩
  · rintro ⟨h3, h4⟩
    obtain ⟨v, hva, hvc, hs⟩ := exists_spenderIs C ⟨t.hash, i⟩ u.amount u.change
    rw [(hI ⟨t.hash, bm.block, i⟩ v).mpr ⟨(t, bm), ha, rfl, rfl, hva ▸ h3, hvc ▸ h4, hs⟩, Option.map_some, hva, hvc]

structure RBInv (s : Store) (L : Ledger) (done : List (Tx × BlockMeta)) (r : RB) : Prop where
  blocks : r.s.blocks = s.blocks
  locked : r.s.locked = s.locked
  txrecs : ∀ k, r.s.txrecs.find? k = if ∃ p ∈ done, k = ⟨p.1.hash, p.2.block⟩ then none else s.txrecs.find? k
  debits : ∀ dk, r.s.debits.find? dk =
    if ∃ p ∈ done, dk.hash = p.1.hash ∧ dk.block = p.2.block then none else s.debits.find? dk
  credits : CredInv L (Remaining L done) r.s.credits
  unmined : ∀ h v, r.s.unmined.find? h = some v ↔
    s.unmined.find? h = some v ∨ ∃ p ∈ done, p.1.isCoinBase = false ∧ p.1 = v ∧ h = v.hash
  uc : ∀ op u, r.s.unminedCredits.find? op = some u ↔
    s.unminedCredits.find? op = some u ∨ ∃ p ∈ done, p.1.isCoinBase = false ∧ op.hash = p.1.hash ∧
      p.1.outs[op.index]? = some u.amount ∧ lookup L.credit op = some u.change
  ui : ∀ op x, x ∈ spendHashes r.s op ↔
    x ∈ spendHashes s op ∨ ∃ p ∈ done, p.1.isCoinBase = false ∧ x = p.1.hash ∧ op ∈ p.1.ins
  ne : InputsNE r.s
  cb : ∀ op, op ∈ r.cb ↔ ∃ p ∈ done, p.1.isCoinBase = true ∧ op.hash = p.1.hash ∧ op.index < p.1.outs.length
  nodupTx : NodupKeys r.s.txrecs
  nodupUnmined : NodupKeys r.s.unmined
  nodupDeb : NodupKeys r.s.debits
  nodupUC : NodupKeys r.s.unminedCredits

theorem rbInv_init {s : Store} {L : Ledger} (hg : Good s L) : RBInv s L [] ⟨s, s.minedBalance, []⟩ := by
  -- with nothing detached, `CredInv` is the credits clause of `Refines`
  have hc : CredInv L (Remaining L []) s.credits :=
    (credInv_congr (fun _ => and_iff_left List.not_mem_nil) _).mpr ((credInv_chain hg.lwf.noDouble _).mpr hg.ref.credits)
  refine ⟨rfl, rfl, fun k => ?_, fun dk => ?_, hc, fun h v => ?_, fun op u => ?_, fun op x => ?_,
    hg.ref.uinputsNE, fun op => ?_, hg.ref.nodupTxrecs, hg.ref.nodupUnmined, hg.ref.nodupDebits, hg.wf2.wf.nodupUC⟩ <;>
    simp only [List.not_mem_nil, false_and, exists_false, if_false, or_false]

section mined
variable {s : Store} {L : Ledger} (hg : Good s L) {t : Tx} {bm : BlockMeta} (ha : (t, bm) ∈ chainTxs L)
-- every theorem of this section takes `hg` then `ha` first
include hg ha

theorem debit_mined {dk : CredKey} {d : DebitVal} (hd : s.debits.find? dk = some d) (e1 : dk.hash = t.hash)
    (e2 : dk.block = bm.block) : t.isCoinBase = false ∧ t.ins[dk.index]? = some d.credKey.outPoint := by
  obtain ⟨⟨⟨rec, hrec, hin⟩, _, hlt, _⟩, _⟩ := hg.wf2.deb dk d hd
  rw [show dk.txKey = ⟨t.hash, bm.block⟩ by rw [CredKey.eq_mk e1 e2]; rfl,
    (hg.ref.txrecs_iff _ _).mpr ⟨bm, ha, rfl⟩] at hrec
  cases hrec
  exact ⟨Bool.not_eq_true _ ▸ fun hcb => no_coinbase_debit hcb hin hlt, hin⟩

theorem debit_iff_input {k : CredKey} {cv : CreditVal} (hk : s.credits.find? k = some cv) :
    (∃ j, j < t.ins.length ∧ ∃ d, s.debits.find? ⟨t.hash, bm.block, j⟩ = some d ∧ d.credKey = k) ↔
      k.outPoint ∈ t.ins := by
  constructor
  · rintro ⟨j, _, d, hd, rfl⟩
    exact List.mem_of_getElem? (debit_mined hg ha hd rfl rfl).2
  · intro hin
    obtain ⟨j, hj⟩ := List.getElem?_of_mem hin
    obtain ⟨_, _, _, _, _, _, _, hsp, _⟩ := (hg.ref.credits_iff _ _).mp hk
    rw [(spenderOf_eq_some_iff hg.lwf.noDouble).mpr ⟨(t, bm), ha, j, hj, rfl⟩] at hsp
    exact ⟨j, (List.getElem?_eq_some_iff.mp hj).1, ⟨cv.amount, k⟩, (hg.ref.debits _ _).mpr ⟨cv, hk, hsp, rfl⟩, rfl⟩

end mined

theorem rbInv_txSpec {s : Store} {L : Ledger} {done : List (Tx × BlockMeta)} {t : Tx} {bm : BlockMeta} {r r' : RB}
    (hg : Good s L) (ha : (t, bm) ∈ chainTxs L) (hfresh : ∀ p ∈ done, p.1.hash ≠ t.hash)
    (hI : RBInv s L done r) (hsp : TxSpec t bm.block r r') : RBInv s L (done ++ [(t, bm)]) r' where
  blocks := hsp.blocks.trans hI.blocks
  locked := hsp.locked.trans hI.locked
  ne := hsp.ne hI.ne
  nodupTx := hsp.nodupTx hI.nodupTx
  nodupUnmined := hsp.nodupUnmined hI.nodupUnmined
  nodupDeb := hsp.nodupDeb hI.nodupDeb
  nodupUC := hsp.nodupUC hI.nodupUC
  txrecs k := by
    rw [hsp.txrecs, hI.txrecs]
    simp only [exists_mem_append, exists_mem_singleton]
    exact ite_idem_or (fun _ => none) (fun _ => rfl) _
  debits dk := by
    rw [hsp.debits, hI.debits]
    simp only [exists_mem_append, exists_mem_singleton]
    rw [← ite_idem_or (fun _ => none) (fun _ => rfl)]
    -- the debits filed under t are those `TxSpec` says go
    by_cases e : dk.hash = t.hash ∧ dk.block = bm.block
    · rw [if_pos e]
      cases hd : s.debits.find? dk with
      | none => simp only [ite_self]
      | some d =>
        obtain ⟨h1, h2⟩ := debit_mined hg ha hd e.1 e.2
        exact if_pos ⟨h1, dk.index, (List.getElem?_eq_some_iff.mp h2).1, CredKey.eq_mk e.1 e.2⟩
    · rw [if_neg e, if_neg]
      rintro ⟨_, j, _, rfl⟩
      exact e ⟨rfl, rfl⟩
  credits := by
    refine credInv_step hg.lwf ha (fun h => hfresh _ h rfl) hI.credits fun k => ?_
    rw [hsp.credits]
    refine ite_congr rfl (fun _ => rfl) fun _ => ?_
    cases hc : r.s.credits.find? k with
    | none => simp only [Option.map_none, ite_self]
    | some v0 =>
      -- the record is a credit record of the original store, and the debits under t are the original ones
      obtain ⟨p, hp, e1, e2, e3, e4, _⟩ := (hI.credits k v0).mp hc
      have hks := (hg.ref.credits_iff k ⟨v0.amount, v0.change, (spenderOf L k.outPoint).isSome, spenderOf L k.outPoint⟩).mpr
        ⟨p.1, p.2, hp.1, e1, e2, e3, e4, rfl, rfl⟩
      have hdeb : ∀ j, r.s.debits.find? ⟨t.hash, bm.block, j⟩ = s.debits.find? ⟨t.hash, bm.block, j⟩ := fun j => by
        rw [hI.debits, if_neg]
        rintro ⟨p, hp, e, _⟩
        exact hfresh p hp e.symm
      simp only [hdeb]
      refine ite_congr (propext ?_) (fun _ => rfl) (fun _ => rfl)
      rw [debit_iff_input hg ha hks]
      exact and_iff_right_of_imp fun hin => by
        obtain ⟨j, _, d, hd, _⟩ := (debit_iff_input hg ha hks).mpr hin
        exact (debit_mined hg ha hd rfl rfl).1
  unmined h v := by
    rw [hsp.unmined, exists_mem_append, exists_mem_singleton, ← or_assoc, ← hI.unmined]
    refine ite_eq_some_iff (fun hc => ?_) (fun hc => ?_) fun e => ⟨e.1, e.2.2.trans (congrArg Tx.hash e.2.1.symm)⟩
    · -- t is still confirmed: the loop state holds no unconfirmed record of it
      rw [hc.2, Ne, hI.unmined]
      rintro (h | ⟨p, hp, _, rfl, e⟩)
      · obtain ⟨h1, h2⟩ := (hg.ref.unmined_iff _ _).mp h
        exact hg.lwf.pool_not_mined h1 ha h2
      · exact hfresh p hp e.symm
    · exact ⟨fun e => ⟨hc.1, Option.some.inj e, Option.some.inj e ▸ hc.2⟩, fun e => congrArg some e.2.1⟩
  uc op u := by
    rw [hsp.uc, exists_mem_append, exists_mem_singleton, ← or_assoc, ← hI.uc]
    -- the credit records of t become its unconfirmed credits
    have hT : ∀ i, (r.s.credits.find? ⟨t.hash, bm.block, i⟩).map (fun v => (⟨v.amount, v.change⟩ : UCredit)) = some u ↔
        t.outs[i]? = some u.amount ∧ lookup L.credit ⟨t.hash, i⟩ = some u.change :=
      fun i => credInv_ucredit hI.credits ⟨ha, fun h => hfresh _ h rfl⟩ (fun p hp e => hg.lwf.chainTxs_inj hp.1 ha e) i u
    refine ite_eq_some_iff (fun hc => ?_) (fun hc => ?_) fun e => ?_
    · obtain ⟨_, i, _, rfl, _⟩ := hc
      rw [Ne, hI.uc]
      rintro (h | ⟨p, hp, _, h2, _⟩)
      · obtain ⟨w, hw, h1, _⟩ := (hg.ref.ucredits_iff _ _).mp h
        exact hg.lwf.pool_not_mined hw ha h1
      · exact hfresh p hp h2.symm
    · obtain ⟨hcb, i, _, rfl, _⟩ := hc
      rw [hT]
      exact ⟨fun e => ⟨hcb, rfl, e⟩, fun e => e.2.2⟩
    · obtain ⟨hcb, e1, e3⟩ := e
      have hop := OutPoint.eq_of_fields e1 rfl
      rw [hop] at e3
      refine ⟨hcb, op.index, (List.getElem?_eq_some_iff.mp e3.1).1, hop, ?_⟩
      cases hc : r.s.credits.find? ⟨t.hash, bm.block, op.index⟩ with
      | none => have := (hT op.index).mpr e3; rw [hc] at this; cases this
      | some v => rfl
  ui op x := by rw [hsp.ui, hI.ui, exists_mem_append, exists_mem_singleton, or_assoc]
  cb op := by
    rw [hsp.cb, List.mem_append, hI.cb, exists_mem_append, exists_mem_singleton]
    refine or_congr Iff.rfl ?_
    split
    · next hcb =>
      simp only [List.mem_map, List.mem_range]
      exact ⟨fun ⟨i, hi, e⟩ => e ▸ ⟨hcb, rfl, hi⟩, fun ⟨_, e, hi⟩ => ⟨op.index, hi, (OutPoint.eq_of_fields e rfl).symm⟩⟩
    · next hcb => exact iff_of_false List.not_mem_nil fun e => hcb e.1

theorem rbInv_step {s : Store} {L : Ledger} (hg : Good s L) {done : List (Tx × BlockMeta)} {t : Tx} {bm : BlockMeta}
    (hsub : ∀ p ∈ done, p ∈ chainTxs L) (ha : (t, bm) ∈ chainTxs L) (hnd : (t, bm) ∉ done) {r : RB}
    (hI : RBInv s L done r) :
    rbTx bm.block r t.hash = .ok (rbTxPure bm.block r t) ∧ RBInv s L (done ++ [(t, bm)]) (rbTxPure bm.block r t) := by
  have hfresh : ∀ p ∈ done, p.1.hash ≠ t.hash := fun p hp e => hnd (hg.lwf.chainTxs_inj (hsub p hp) ha e ▸ hp)
  refine ⟨rbTx_ok ?_, rbInv_txSpec hg ha hfresh hI (txSpec_pure t bm.block r)⟩
  rw [hI.txrecs, if_neg]
  · exact hg.ref.txrec_of_mined ha
  · rintro ⟨p, hp, e⟩
    exact hfresh p hp (TxKey.mk.inj e).1.symm

theorem rbInv_loop {s : Store} {L : Ledger} (hg : Good s L) : ∀ (todo done : List (Tx × BlockMeta)) (r : RB),
    RBInv s L done r → (∀ p ∈ done ++ todo, p ∈ chainTxs L) → (done ++ todo).Nodup →
    ∃ r', todo.foldlM (fun r p => rbTx p.2.block r p.1.hash) r = .ok r' ∧ RBInv s L (done ++ todo) r' := by
  intro todo
  induction todo with
  | nil => intro done r hI _ _; exact ⟨r, rfl, (List.append_nil done).symm ▸ hI⟩
  | cons a rest ih =>
    intro done r hI hsub hn
    obtain ⟨h1, h2⟩ := rbInv_step hg (fun p hp => hsub p (List.mem_append_left _ hp))
      (hsub a (List.mem_append_right _ List.mem_cons_self))
      (fun hmem => (List.nodup_append.mp hn).2.2 _ hmem _ List.mem_cons_self rfl) hI
    rw [List.append_cons] at hsub hn ⊢
    obtain ⟨r', h3, h4⟩ := ih _ _ h2 hsub hn
    exact ⟨r', by rw [List.foldlM_cons, h1]; exact h3, h4⟩

end TxStore
