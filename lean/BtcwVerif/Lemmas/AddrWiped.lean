/-
C05 support: "stays wiped while locked".  `KeyClear m` (every clear-text key buffer reachable from the manager is
nil / zero) is established by `lockMem` and kept by every operation that runs on a LOCKED manager; with the F13 fix the
OnCommit closures of `nextAddresses` keep it too.  Every operation other than Unlock / Lock / ChangePassphrase /
ConvertToWatchingOnly is shown to be a `PExt` by going through it once.

The relations `…Ext m m'` ("`m'` extends `m`") and where they are defined:
  `DouExt`  Derive-On-Unlock queue and account cache: cached accounts stay cached            Lemmas/AddrKind.lean
  `WExt`    heap gro(W)s: no id re-allocated, kinds kept, last-address slots live            Lemmas/AddrKind.lean
  `CExt`    (C)aches and heap: `DouExt` and `WExt`; every operation                          Lemmas/AddrKind.lean
  `HClr`    on (H)eaps: no object loses its "clear" status (`Clr`, `MClr`)                   here
  `LExt`    from a (L)ocked manager: stays locked, `HClr`, the caches stay clear (`MemClr`)  here
  `GExt g`  (G)uarded: `CExt`, `Scal` unchanged, and `LExt` if `g`                           here
  `PExt`    (P)lain operation: `GExt (m.locked = true)`                                      here
  `OpExt`   every (Op)eration: `CExt`, `ScalTr`, a locked manager stays clear                Lemmas/AddrWipedStep.lean
-/
import BtcwVerif.Lemmas.AddrKind
namespace AddrLock

/-- the object holds no clear-text private key / P2SH script -/
def Clr (o : Obj) : Prop := (o.kind = .managed ∨ o.kind = .script) → o.ct = false
/-- … as far as `*managedAddress` objects are concerned (what `lock()` wipes in the last-address slots) -/
def MClr (o : Obj) : Prop := o.kind = .managed → o.ct = false

theorem Clr.m {o : Obj} (h : Clr o) : MClr o := fun hk => h (Or.inl hk)

theorem clr_of_ct {o : Obj} (h : o.ct = false) : Clr o := fun _ => h

def InfoClr (h : Nat → Obj) (ai : AcctInfo) : Prop := ai.keyPriv = false ∧ MClr (h ai.lastExt) ∧ MClr (h ai.lastInt)

structure ScopeClr (h : Nat → Obj) (s : ScopeMem) : Prop where
  acct  : ∀ p ∈ s.acctInfo, InfoClr h p.2
  addrs : ∀ p ∈ s.addrs, Clr (h p.2)
  pkc   : s.pkc = []

def MemClr (m : Mem) : Prop := ∀ sc, sc < nScopes → ScopeClr m.heap (m.scopes sc)

def HClr (h h' : Nat → Obj) : Prop := ∀ id, (Clr (h id) → Clr (h' id)) ∧ (MClr (h id) → MClr (h' id))

theorem HClr.refl (h : Nat → Obj) : HClr h h := fun _ => ⟨id, id⟩
theorem HClr.trans {a b c : Nat → Obj} (h1 : HClr a b) (h2 : HClr b c) : HClr a c :=
  fun id => ⟨fun h => (h2 id).1 ((h1 id).1 h), fun h => (h2 id).2 ((h1 id).2 h)⟩

theorem hClr_of_eq {h h' : Nat → Obj} (he : ∀ id, (h' id).kind = (h id).kind ∧ (h' id).ct = (h id).ct) : HClr h h' :=
  fun i => by unfold Clr MClr; rw [(he i).1, (he i).2]; exact ⟨id, id⟩

theorem scopeClr_heap {h h' : Nat → Obj} (hh : HClr h h') {s : ScopeMem} (hs : ScopeClr h s) : ScopeClr h' s :=
  ⟨fun p hp => ⟨(hs.acct p hp).1, (hh _).2 (hs.acct p hp).2.1, (hh _).2 (hs.acct p hp).2.2⟩,
   fun p hp => (hh _).1 (hs.addrs p hp), hs.pkc⟩

/-- every in-memory clear-text copy of master, crypto, account and address private keys (and the cached derived
keys) is nil / zero.  Script clear text: the P2SH script buffers are included; secret witness / taproot script
clear text is NOT (observation O1: `lock()` has no case for those types; scripts are not private keys).
This is the form the C05 statements use; `ScalClr` with `MemClr` (per scope, relative to a heap) is the form the frame
relations work with, and `keyClear_iff` is the glue. -/
structure KeyClear (m : Mem) : Prop where
  master  : m.masterPriv ≠ .nonzero
  cpriv   : m.cryptoPriv ≠ .nonzero
  cscript : m.cryptoScript ≠ .nonzero
  hashed  : m.hashed = none
  acct    : ∀ sc, sc < nScopes → ∀ p ∈ (m.scopes sc).acctInfo, p.2.keyPriv = false
  pkc     : ∀ sc, sc < nScopes → (m.scopes sc).pkc = []
  addrs   : ∀ sc, sc < nScopes → ∀ p ∈ (m.scopes sc).addrs,
              ((m.heap p.2).kind = .managed ∨ (m.heap p.2).kind = .script) → (m.heap p.2).ct = false
  last    : ∀ sc, sc < nScopes → ∀ p ∈ (m.scopes sc).acctInfo,
              ((m.heap p.2.lastExt).kind = .managed → (m.heap p.2.lastExt).ct = false) ∧
              ((m.heap p.2.lastInt).kind = .managed → (m.heap p.2.lastInt).ct = false)

def ScalClr (m : Mem) : Prop :=
  m.masterPriv ≠ .nonzero ∧ m.cryptoPriv ≠ .nonzero ∧ m.cryptoScript ≠ .nonzero ∧ m.hashed = none

theorem scalClr_of_scal {m m' : Mem} (h : Scal m' = Scal m) (hc : ScalClr m) : ScalClr m' := by
  unfold ScalClr; rw [scal_masterPriv h, scal_cryptoPriv h, scal_cryptoScript h, scal_hashed h]; exact hc

theorem keyClear_iff (m : Mem) : KeyClear m ↔ ScalClr m ∧ MemClr m := by
  constructor
  · intro h
    exact ⟨⟨h.master, h.cpriv, h.cscript, h.hashed⟩, fun sc hsc =>
      ⟨fun p hp => ⟨h.acct sc hsc p hp, (h.last sc hsc p hp).1, (h.last sc hsc p hp).2⟩,
       fun p hp => h.addrs sc hsc p hp, h.pkc sc hsc⟩⟩
  · rintro ⟨⟨h1, h2, h3, h4⟩, h⟩
    exact ⟨h1, h2, h3, h4, fun sc hsc p hp => ((h sc hsc).acct p hp).1, fun sc hsc => (h sc hsc).pkc,
      fun sc hsc p hp => (h sc hsc).addrs p hp,
      fun sc hsc p hp => ⟨((h sc hsc).acct p hp).2.1, ((h sc hsc).acct p hp).2.2⟩⟩

theorem zeroed_ne (b : Buf) : b.zeroed ≠ .nonzero := by cases b <;> simp [Buf.zeroed]

theorem shouldWipe_iff (cfg : Cfg) (m : Mem) (id : Nat) : shouldWipe cfg m id = true ↔ ∃ sc, sc < nScopes ∧
    ((((m.heap id).kind = .managed ∨ (m.heap id).kind = .script) ∧ ∃ p ∈ (m.scopes sc).addrs, p.2 = id) ∨
      (cfg.f11 = true ∧ (m.heap id).kind = .managed) ∧
        ∃ p ∈ (m.scopes sc).acctInfo, p.2.lastExt = id ∨ p.2.lastInt = id) := by
  simp only [shouldWipe, List.any_eq_true, Bool.or_eq_true, Bool.and_eq_true, beq_iff_eq, List.mem_range]

theorem lockMem_heap (cfg : Cfg) (m : Mem) (id : Nat) :
    ((lockMem cfg m).heap id).kind = (m.heap id).kind ∧
    (shouldWipe cfg m id = true → ((lockMem cfg m).heap id).ct = false) := by
  simp only [lockMem]; split
  · exact ⟨rfl, fun _ => rfl⟩
  · rename_i h; exact ⟨rfl, fun h' => absurd h' h⟩

theorem keyClear_lockMem (cfg : Cfg) (hf1 : cfg.f1 = true) (hf11 : cfg.f11 = true) (m : Mem) :
    KeyClear (lockMem cfg m) := by
  refine ⟨zeroed_ne _, zeroed_ne _, zeroed_ne _, rfl, ?_, ?_, ?_, ?_⟩
  · intro sc _ p hp
    simp only [lockMem, lockScope, List.mem_map] at hp
    obtain ⟨q, _, rfl⟩ := hp
    rfl
  · intro sc _; simp [lockMem, lockScope, hf1]
  · intro sc hsc p hp hk
    rw [(lockMem_heap cfg m p.2).1] at hk
    exact (lockMem_heap cfg m p.2).2 ((shouldWipe_iff ..).mpr ⟨sc, hsc, Or.inl ⟨hk, p, hp, rfl⟩⟩)
  · intro sc hsc p hp
    simp only [lockMem, lockScope, List.mem_map] at hp
    obtain ⟨q, hq, rfl⟩ := hp
    have key : ∀ id, (q.2.lastExt = id ∨ q.2.lastInt = id) → ((lockMem cfg m).heap id).kind = .managed →
        ((lockMem cfg m).heap id).ct = false := fun id hid hk =>
      (lockMem_heap cfg m id).2
        ((shouldWipe_iff ..).mpr ⟨sc, hsc, Or.inr ⟨⟨hf11, (lockMem_heap cfg m id).1 ▸ hk⟩, q, hq, hid⟩⟩)
    exact ⟨key _ (Or.inl rfl), key _ (Or.inr rfl)⟩

structure LExt (m m' : Mem) : Prop where
  locked : m'.locked = m.locked
  heap   : HClr m.heap m'.heap
  clr    : MemClr m → MemClr m'

theorem LExt.refl (m : Mem) : LExt m m := ⟨rfl, HClr.refl _, id⟩

theorem LExt.trans {a b c : Mem} (h1 : LExt a b) (h2 : LExt b c) : LExt a c :=
  ⟨by rw [h2.locked, h1.locked], h1.heap.trans h2.heap, fun h => h2.clr (h1.clr h)⟩

theorem lExt_heapMap {m m' : Mem} (hs : m'.scopes = m.scopes) (hl : m'.locked = m.locked) (hh : HClr m.heap m'.heap) :
    LExt m m' :=
  ⟨hl, hh, fun h sc hsc => by rw [hs]; exact scopeClr_heap hh (h sc hsc)⟩

theorem hClr_update (h : Nat → Obj) (i : Nat) (g : Obj → Obj) (hc : Clr (h i) → Clr (g (h i)))
    (hm : MClr (h i) → MClr (g (h i))) : HClr h (fun j => if j = i then g (h j) else h j) := by
  intro j; dsimp only; split
  · rename_i hi; subst hi; exact ⟨hc, hm⟩
  · exact ⟨id, id⟩

theorem lExt_alloc (m : Mem) (o : Obj) (ho : Clr o) : LExt m (m.alloc o).1 :=
  lExt_heapMap rfl rfl (hClr_update _ _ (fun _ => o) (fun _ => ho) (fun _ => ho.m))

theorem lExt_updScope (m : Mem) (sc : Nat) (f : ScopeMem → ScopeMem)
    (hf : ScopeClr m.heap (m.scopes sc) → ScopeClr m.heap (f (m.scopes sc))) : LExt m (m.updScope sc f) :=
  ⟨rfl, HClr.refl _, fun h sc' hsc' =>
    updScope_rel (R := fun _ s s' => ScopeClr m.heap s → ScopeClr m.heap s') m sc f (fun _ _ => id) hf sc' (h sc' hsc')⟩

structure GExt (g : Prop) (m m' : Mem) : Prop extends CExt m m' where
  scal : Scal m' = Scal m
  clr  : g → LExt m m'

theorem GExt.refl {g : Prop} (m : Mem) : GExt g m m := ⟨.refl m, rfl, fun _ => .refl m⟩

theorem GExt.trans {g g' : Prop} {a b c : Mem} (h1 : GExt g a b) (h2 : GExt g' b c) (hg : g → g') : GExt g a c :=
  ⟨h1.toCExt.trans h2.toCExt, h2.scal.trans h1.scal, fun h => (h1.clr h).trans (h2.clr (hg h))⟩

theorem GExt.mono {g g' : Prop} {m m' : Mem} (h : GExt g m m') (hg : g' → g) : GExt g' m m' :=
  ⟨h.toCExt, h.scal, fun h' => h.clr (hg h')⟩

abbrev PExt (m m' : Mem) : Prop := GExt (m.locked = true) m m'

theorem PExt.locked {m m' : Mem} (h : PExt m m') : m'.locked = m.locked := scal_locked h.scal

theorem PExt.trans {a b c : Mem} (h1 : PExt a b) (h2 : PExt b c) : PExt a c :=
  GExt.trans h1 h2 fun hl => h1.locked ▸ hl

theorem pExt_ite2 {m : Mem} {α β} {c : Prop} [Decidable c] {a b : β × Mem × α} (ha : c → PExt m a.2.1)
    (hb : ¬c → PExt m b.2.1) : PExt m (if c then a else b).2.1 := ite_ind (P := fun x : β × Mem × α => PExt m x.2.1) ha hb

def NewObj (m : Mem) (id : Nat) : Prop := LiveM m id ∧ (m.locked = true → (m.heap id).ct = false)

theorem NewObj.clr {m : Mem} {id : Nat} (h : NewObj m id) (hl : m.locked = true) : Clr (m.heap id) := clr_of_ct (h.2 hl)

theorem NewObj.ext {m m' : Mem} {id : Nat} (h : NewObj m id) (he : PExt m m') : NewObj m' id :=
  ⟨h.1.ext he.kind, fun hl =>
    have hl : m.locked = true := he.locked ▸ hl
    ((he.clr hl).heap id).1 (h.clr hl) (Or.inl (h.1.ext he.kind).2)⟩

theorem pExt_alloc (m : Mem) (o : Obj) (ho : m.locked = true → Clr o) : PExt m (m.alloc o).1 :=
  ⟨⟨douExt_scopes rfl, wExt_alloc m o⟩, rfl, fun hl => lExt_alloc m o (ho hl)⟩

theorem pExt_updScope (m : Mem) (sc : Nat) (f : ScopeMem → ScopeMem)
    (hi : (f (m.scopes sc)).acctInfo = (m.scopes sc).acctInfo) (hd : ∀ e ∈ (f (m.scopes sc)).dou, e ∈ (m.scopes sc).dou)
    (hc : m.locked = true → ScopeClr m.heap (m.scopes sc) → ScopeClr m.heap (f (m.scopes sc))) :
    PExt m (m.updScope sc f) :=
  ⟨cExt_updScope m sc f hi hd, rfl, fun hl => lExt_updScope m sc f (hc hl)⟩

theorem pExt_addAddr (m : Mem) (sc : Nat) (k : AKey) (id : Nat) (hc : m.locked = true → Clr (m.heap id)) :
    PExt m (m.cacheAddr sc k id) :=
  pExt_updScope m sc _ rfl (fun _ h => h) fun hl h =>
    ⟨h.acct, fun p hp => (mem_aset hp).elim (fun h1 => h1 ▸ hc hl) (h.addrs p), h.pkc⟩

theorem pExt_allocCache (m : Mem) (sc : Nat) (k : AKey) (o : Obj) (ho : m.locked = true → Clr o) :
    PExt m ((m.alloc o).1.cacheAddr sc k (m.alloc o).2) :=
  (pExt_alloc m o ho).trans (pExt_addAddr _ _ _ _ fun hl => by simpa [Mem.alloc] using ho hl)

theorem gExt_setInfo (m : Mem) (sc a : Nat) (ai : AcctInfo) (hw : LastKind m → LastOK m ai) :
    GExt (ScopeClr m.heap (m.scopes sc) → InfoClr m.heap ai) m (m.setAcct sc a ai) :=
  ⟨⟨douExt_updScope m sc _ (fun _ => aget_aset_isSome _ _ _ _) (fun _ he => Or.inl he),
    wExt_updScope m sc _ fun p hp => (mem_aset hp).elim (fun h1 => Or.inr (h1 ▸ hw)) fun h1 => Or.inl ⟨p, h1, rfl, rfl⟩⟩,
   rfl, fun hc => lExt_updScope m sc _ fun h =>
    ⟨fun p hp => (mem_aset hp).elim (fun h1 => h1 ▸ hc h) (h.acct p), h.addrs, h.pkc⟩⟩

theorem ct_keyToManaged (m : Mem) (sc a b i : Nat) (p : Bool) :
    ((keyToManaged m sc a b i p).1.heap (keyToManaged m sc a b i p).2).ct = p := by
  rw [ktm_heap, ktm_snd, if_pos rfl]

theorem lExt_keyToManaged (m : Mem) (sc a b i : Nat) : LExt m (keyToManaged m sc a b i false).1 := by
  simp only [keyToManaged, Bool.false_eq_true, if_false]
  exact (lExt_alloc m _ (clr_of_ct rfl)).trans (lExt_updScope _ _ _ fun h => ⟨h.acct, h.addrs, h.pkc⟩)

theorem pExt_keyToManaged (m : Mem) (sc a b i : Nat) (p : Bool) (hc : cachedA m sc a = true)
    (hp : m.locked = true → p = false) :
    PExt m (keyToManaged m sc a b i p).1 ∧ NewObj (keyToManaged m sc a b i p).1 (keyToManaged m sc a b i p).2 :=
  ⟨⟨⟨(queuedFor_keyToManaged m sc a b i p).douExt hc, wExt_keyToManaged ..⟩, scal_keyToManaged ..,
    fun hl => by rw [hp hl]; exact lExt_keyToManaged ..⟩,
   liveM_keyToManaged .., fun hl => by
    rw [ct_keyToManaged]; exact hp (by rw [← scal_locked (scal_keyToManaged m sc a b i p)]; exact hl)⟩

theorem pExt_loadAcctRow (m : Mem) (sc acct : Nat) (row : AcctRow) : PExt m (loadAcctRow m sc acct row) := by
  refine ⟨cExt_loadAcctRow .., by simp only [loadAcctRow, scal_updScope, scal_keyToManaged], fun hl => ?_⟩
  unfold loadAcctRow
  have hp : (!m.locked && !m.watchOnly && !row.wo) = false := by simp [hl]
  simp only [hp]
  have h1 := lExt_keyToManaged m sc acct 0 (row.nextExt - 1)
  have h2 := lExt_keyToManaged (keyToManaged m sc acct 0 (row.nextExt - 1) false).1 sc acct 1 (row.nextInt - 1)
  refine (h1.trans h2).trans (lExt_updScope _ _ _ fun h =>
    ⟨fun p hp => (mem_aset hp).elim (fun h1 => h1 ▸ ⟨rfl, ?_, ?_⟩) (h.acct p), h.addrs, h.pkc⟩)
  · exact ((h2.heap _).1 (clr_of_ct (ct_keyToManaged ..))).m
  · exact (clr_of_ct (ct_keyToManaged ..)).m

theorem pExt_loadAcct {d : Disk} {m m1 : Mem} {sc a : Nat} (h : loadAcct d m sc a = .ok m1) :
    PExt m m1 ∧ cachedA m1 sc a = true := by
  rcases loadAcct_ok h with ⟨hc, rfl⟩ | ⟨row, rfl⟩
  · exact ⟨.refl _, hc⟩
  · exact ⟨pExt_loadAcctRow .., (douExt_loadAcctRow ..).2⟩

theorem pExt_chainRow {d m sc a b i r} (h : chainRowToManaged d m sc a b i = .ok r) : PExt m r.1 ∧ NewObj r.1 r.2 := by
  unfold chainRowToManaged at h
  split at h
  · cases h
  · rename_i m1 hl
    obtain ⟨h1, hc⟩ := pExt_loadAcct hl
    split at h
    · cases h
    · rename_i info _
      cases h
      have hp : m1.locked = true → (!m1.locked && !m1.watchOnly && info.keyPriv) = false := fun hl => by simp [hl]
      have h2 := pExt_keyToManaged _ sc a b i _ hc hp
      exact ⟨h1.trans h2.1, h2.2⟩

theorem pExt_loadAndCache {d m sc k r} (h : loadAndCache d m sc k = .ok r) : PExt m r.1 := by
  unfold loadAndCache at h
  split at h
  · cases h
  · dsimp only at h
    split at h
    · split at h
      · cases h
      · rename_i r' hc; cases h
        exact (pExt_chainRow hc).1.trans (pExt_addAddr _ _ _ _ (pExt_chainRow hc).2.clr)
    · cases h
    all_goals cases h; exact pExt_allocCache _ _ _ _ fun _ => clr_of_ct rfl

theorem pExt_addressOf {d m sc k r} (h : addressOf d m sc k = .ok r) : PExt m r.1 := by
  unfold addressOf at h
  split at h
  · cases h; exact .refl _
  · exact pExt_loadAndCache h

theorem pExt_mkAddrs (m : Mem) (a b : Nat) (p : Bool) (start n : Nat) (hp : m.locked = true → p = false) :
    PExt m (mkAddrs m a b p start n).1 ∧
    ∀ e ∈ (mkAddrs m a b p start n).2, e.acct = a ∧ NewObj (mkAddrs m a b p start n).1 e.obj := by
  induction n generalizing m start with
  | zero => exact ⟨.refl _, fun _ he => nomatch he⟩
  | succ n ih =>
    simp only [mkAddrs]
    generalize ho : ({ key := .chain a b start, kind := .managed, hasEnc := p, ct := p, acct := a } : Obj) = o
    have hk : o.kind = .managed := by rw [← ho]
    have hc : m.locked = true → o.ct = false := fun hl => by rw [← ho]; exact hp hl
    have h2 := ih (m.alloc o).1 (start + 1) hp
    refine ⟨(pExt_alloc m o fun hl => clr_of_ct (hc hl)).trans h2.1, fun e he => ?_⟩
    rcases List.mem_cons.mp he with rfl | he
    · exact ⟨rfl, NewObj.ext ⟨⟨Nat.lt_succ_self _, by simp [Mem.alloc, hk]⟩, fun hl => by simpa [Mem.alloc] using hc hl⟩ h2.1⟩
    · exact h2.2 e he

theorem pExt_putAndLoad (sc : Nat) (es : List Dou) (d : Disk) (m : Mem) : PExt m (putAndLoad sc es d m).2.1 := by
  induction es generalizing d m with
  | nil => exact .refl _
  | cons e es ih =>
    simp only [putAndLoad]
    split
    · exact .refl _
    · split
      · exact .refl _
      · rename_i r hr; exact (pExt_loadAndCache hr).trans (ih _ _)

def NextOK (m : Mem) (x : NextOut) : Prop := PExt m x.mem ∧ ∀ p, x.pend = some p → PendGood x.mem p

theorem nextOK_nextAddresses (d : Disk) (m : Mem) (sc a n : Nat) (int : Bool) : NextOK m (nextAddresses d m sc a n int) := by
  unfold nextAddresses
  cases hl : loadAcct d m sc a with
  | error e => exact ⟨.refl _, fun _ hp => nomatch hp⟩
  | ok m1 =>
    obtain ⟨h1, hc⟩ := pExt_loadAcct hl
    dsimp only
    cases acctInfoOf m1 sc a with
    | none => exact ⟨h1, fun _ hp => nomatch hp⟩
    | some info =>
      refine ite_ind (fun _ => ⟨h1, fun _ hp => nomatch hp⟩) fun _ => ite_ind (fun _ => ⟨h1, fun _ hp => nomatch hp⟩) fun _ => ?_
      generalize hmk : mkAddrs m1 a _ _ _ n = mk
      obtain ⟨hm, hes⟩ := hmk ▸ pExt_mkAddrs m1 a _ _ _ n fun hl => by simp [hl]
      have key := pExt_putAndLoad sc mk.2 d mk.1
      rcases hq : putAndLoad sc mk.2 d mk.1 with ⟨d2, m2, _ | e⟩ <;> rw [hq] at key
      · refine ⟨h1.trans (hm.trans key), fun p hp => ?_⟩
        cases hp
        exact ⟨⟨key.dou.keys _ _ (hm.dou.keys _ _ hc), fun e he => (hes e he).1⟩, fun e he => ((hes e he).2.ext key).1⟩
      · exact ⟨h1.trans (hm.trans key), fun _ hp => nomatch hp⟩

theorem gExt_cacheNew (sc : Nat) (w : Bool) (m : Mem) (e : Dou) (hc : cachedA m sc e.acct = true) :
    GExt (Clr (m.heap e.obj)) m (cacheNew sc w m e) :=
  ⟨⟨douExt_updScope m sc _ (fun _ h => h) (fun e' he => by
      dsimp only at he
      split at he
      · exact (List.mem_append.mp he).imp_right fun h => by rw [List.mem_singleton.mp h]; exact hc
      · exact Or.inl he),
    wExt_updScope m sc _ fun p hp => Or.inl ⟨p, hp, rfl, rfl⟩⟩, rfl,
   fun ho => lExt_updScope m sc _ fun h =>
    ⟨h.acct, fun p hp => (mem_aset hp).elim (fun h1 => h1 ▸ ho) (h.addrs p), h.pkc⟩⟩

theorem gExt_foldl_cacheNew (sc : Nat) (w : Bool) (a : Nat) (es : List Dou) (m : Mem)
    (hes : ∀ e ∈ es, e.acct = a) (hc : cachedA m sc a = true) :
    GExt (∀ e ∈ es, Clr (m.heap e.obj)) m (es.foldl (cacheNew sc w) m) := by
  induction es generalizing m with
  | nil => exact .refl _
  | cons e es ih =>
    have h1 := gExt_cacheNew sc w m e (by rw [hes e List.mem_cons_self]; exact hc)
    exact (h1.mono fun h => h e List.mem_cons_self).trans
      (ih _ (fun e' he' => hes e' (List.mem_cons_of_mem _ he')) (h1.dou.keys _ _ hc))
      fun h e' he' => ((h1.clr (h e List.mem_cons_self)).heap _).1 (h e' (List.mem_cons_of_mem _ he'))

theorem gExt_setNext (m : Mem) (sc a : Nat) (ai : AcctInfo) (hai : acctInfoOf m sc a = some ai) (int : Bool) (idx obj : Nat)
    (ho : LiveM m obj) :
    GExt (Clr (m.heap obj)) m (m.setAcct sc a (setNext ai int idx obj)) := by
  have hmem := aget_of_mem_some hai
  refine (gExt_setInfo m sc a _ fun hl => ?_).mono fun hc h => ?_
  · have h := hl sc (a, ai) hmem
    unfold setNext; split
    · exact ⟨h.1, ho⟩
    · exact ⟨ho, h.2⟩
  · have hi := h.acct (a, ai) hmem
    unfold setNext; split
    · exact ⟨hi.1, hi.2.1, hc.m⟩
    · exact ⟨hi.1, hc.m, hi.2.2⟩

theorem pExt_extend (cfg : Cfg) (d : Disk) (m : Mem) (sc a li : Nat) (int : Bool) :
    PExt m (extendAddresses cfg d m sc a li int).2.1 := by
  unfold extendAddresses
  cases hl : loadAcct d m sc a with
  | error e => exact .refl _
  | ok m1 =>
    obtain ⟨h1, hc⟩ := pExt_loadAcct hl
    dsimp only
    cases hinfo : acctInfoOf m1 sc a with
    | none => exact h1
    | some info =>
      refine pExt_ite2 (fun _ => h1) fun _ => pExt_ite2 (fun _ => h1) fun _ => pExt_ite2 (fun _ => h1) fun _ => ?_
      generalize hmk : mkAddrs m1 a _ _ _ _ = mk
      obtain ⟨hm, hes⟩ := hmk ▸ pExt_mkAddrs m1 a _ _ _ _ fun hl => by simp [hl]
      have hsc := hmk ▸ mkAddrs_scopes m1 a _ _ _ _
      have hf : PExt mk.1 (mk.2.foldl (cacheNew sc (extWatch cfg m1 info)) mk.1) :=
        (gExt_foldl_cacheNew sc _ a mk.2 mk.1 (fun e he => (hes e he).1) (hm.dou.keys _ _ hc)).mono
          fun hl e he => (hes e he).2.clr hl
      cases putAll sc mk.2 d with
      | none => exact h1.trans hm
      | some d2 =>
        dsimp only
        cases hlast : mk.2.getLast? with
        | none => exact h1.trans (hm.trans hf)
        | some last =>
          have ho := (hes last (List.mem_of_getLast? hlast)).2.ext hf
          have hai : acctInfoOf (mk.2.foldl (cacheNew sc (extWatch cfg m1 info)) mk.1) sc a = some info := by
            unfold acctInfoOf; rw [foldl_cacheNew_acctInfo, hsc]; exact hinfo
          exact h1.trans (hm.trans (hf.trans ((gExt_setNext _ _ _ _ hai _ _ _ ho.1).mono ho.clr)))

theorem scal_foldl {α} (l : List α) (m : Mem) (f : Mem → α → Mem)
    (hf : ∀ m a, Scal (f m a) = Scal m) : Scal (l.foldl f m) = Scal m := by
  induction l generalizing m with
  | nil => rfl
  | cons a t ih => rw [List.foldl, ih, hf]

theorem scal_runPend (cfg : Cfg) (m : Mem) (p : Pend) : Scal (runPend cfg m p) = Scal m := by
  unfold runPend
  dsimp only
  have h1 : ∀ m0 : Mem, Scal (p.infos.foldl (cacheNew p.scope p.watchOnly) m0) = Scal m0 :=
    fun m0 => scal_foldl _ _ _ fun _ _ => rfl
  split
  · rw [scal_updScope, h1]; split <;> rfl
  · rw [h1]; split <;> rfl

/-- the OnCommit closure of `nextAddresses`; with the F13 fix it keeps a locked manager wiped -/
theorem gExt_runPend (cfg : Cfg) (m : Mem) (p : Pend) (hp : PendGood m p) :
    GExt (cfg.f13 = true ∧ m.locked = true) m (runPend cfg m p) := by
  unfold runPend
  dsimp only
  generalize hm0 : (if (cfg.f13 && m.locked) = true then _ else m) = m0
  -- the wipe: kinds stay, and every object of the closure is clear afterwards
  have h0 : GExt True m m0 := by
    subst hm0; split
    · exact ⟨⟨douExt_scopes rfl, wExt_heapMap _ _ (fun id => by dsimp only; split <;> rfl) rfl (same_lasts rfl)⟩, rfl,
        fun _ => lExt_heapMap rfl rfl fun i => by
          dsimp only; split
          · exact ⟨fun _ => clr_of_ct rfl, fun _ => (clr_of_ct rfl).m⟩
          · exact ⟨id, id⟩⟩
    · exact .refl _
  have hc0 : cfg.f13 = true ∧ m.locked = true → ∀ e ∈ p.infos, Clr (m0.heap e.obj) := by
    intro hg e he
    subst hm0
    have hany : p.infos.any (fun e' => e'.obj == e.obj) = true := List.any_eq_true.mpr ⟨e, he, by simp⟩
    simp only [hg.1, hg.2, hany, (hp.2 e he).2, Bool.and_self, beq_self_eq_true, if_true]
    exact clr_of_ct rfl
  have hf := gExt_foldl_cacheNew p.scope p.watchOnly p.acct p.infos m0 hp.1.2 (h0.dou.keys _ _ hp.1.1)
  have h1 := (h0.mono fun _ => trivial).trans hf hc0
  split
  · rename_i last ai hlast hai
    have hlast := List.mem_of_getLast? hlast
    exact h1.trans (gExt_setNext _ _ _ _ hai _ _ _ ((hp.2 last hlast).ext h1.kind))
      fun hg => ((hf.clr (hc0 hg)).heap _).1 (hc0 hg last hlast)
  · exact h1

theorem pExt_query (d : Disk) (m : Mem) (q : Query) : PExt m (query d m q).1 := by
  cases q <;> simp only [query]
  · split
    · exact .refl _
    · rename_i r hr; exact pExt_addressOf hr
  · split
    · exact .refl _
    · split
      · exact .refl _
      · rename_i m1 hl; split <;> exact (pExt_loadAcct hl).1
  · split
    · exact .refl _
    · rename_i m1 hl; split
      · exact (pExt_loadAcct hl).1
      · split <;> exact (pExt_loadAcct hl).1
  · split <;> exact .refl _
  · split <;> exact .refl _
  · split
    · exact .refl _
    · rename_i r hr; exact pExt_addressOf hr
  · exact .refl _
  · split <;> exact .refl _

theorem pExt_setCT (m : Mem) (id : Nat)
    (h : m.locked = true → ¬((m.heap id).kind = .managed ∨ (m.heap id).kind = .script)) :
    PExt m (m.setObj id fun o => { o with ct := true }) :=
  ⟨cExt_setObj m id _ fun _ => rfl, rfl, fun hl => lExt_heapMap rfl rfl
    (hClr_update m.heap id (fun o => { o with ct := true }) (fun _ hc => absurd hc (h hl))
      (fun _ hc => absurd (Or.inl hc) (h hl)))⟩

theorem pExt_privKeyObj (m : Mem) (id : Nat) : PExt m (privKeyObj m id).1 :=
  ite_fst (fun _ => .refl _) fun _ => ite_fst (fun _ => .refl _) fun _ => ite_fst (fun _ => .refl _) fun hl =>
    ite_fst (fun _ => .refl _) fun _ => pExt_setCT m id fun h => absurd h hl

theorem pExt_scriptObj (m : Mem) (id : Nat) : PExt m (scriptObj m id).1 := by
  unfold scriptObj; dsimp only
  cases hk : (m.heap id).kind
  case managed => exact .refl _
  all_goals
    refine ite_fst (fun _ => .refl _) fun _ => ite_fst (fun _ => .refl _) fun hl => ite_fst (fun _ => .refl _) fun _ =>
      ite_fst (fun _ => .refl _) fun _ => pExt_setCT m id fun hlk hc => ?_
    rw [hk] at hc
    rcases hc with hc | hc <;> first | (cases hc; done) | simp [hlk] at hl

/-- a write to `privKeyCache`.  On a locked manager the obligation is discharged by vacuity: `h` says that a locked scope in
which this write is reached is not wiped (the path was found in a non-empty cache, or the account holds its private
key), so "stays wiped" has nothing to keep.  That is why `pExt_deriveCache` needs no flag, f1 included. -/
theorem pExt_pkc (m : Mem) (sc : Nat) (g : List Path → List Path)
    (h : m.locked = true → ¬ ScopeClr m.heap (m.scopes sc)) : PExt m (m.updScope sc fun s => { s with pkc := g s.pkc }) :=
  pExt_updScope m sc _ rfl (fun _ h => h) fun hl hc => absurd hc (h hl)

theorem pExt_deriveCache (cfg : Cfg) (m : Mem) (sc : Nat) (p : Path) : PExt m (deriveCache cfg m sc p).1 := by
  refine ite_fst (fun _ => .refl _) fun _ => ite_fst (fun _ => .refl _) fun _ =>
    ite_fst (fun hc => pExt_pkc m sc (fun l => pkcTouch l p) fun _ h => by rw [h.pkc] at hc; cases hc) fun _ => ?_
  cases hinfo : aget (m.scopes sc).acctInfo p.acct with
  | none => exact .refl _
  | some info =>
    exact ite_fst (fun _ => .refl _) fun hk => ite_fst (fun _ => .refl _) fun _ =>
      pExt_pkc m sc (fun l => (pkcTouch l p).take cfg.cap) fun _ h =>
        absurd (h.acct (p.acct, info) (aget_of_mem_some hinfo)).1 (by simpa using hk)

theorem pExt_derivePath (d : Disk) (m : Mem) (sc a b i : Nat) : PExt m (derivePath d m sc a b i).1 := by
  unfold derivePath; split
  · exact .refl _
  · rename_i r hr; exact (pExt_chainRow hr).1.trans (pExt_privKeyObj ..)

theorem pExt_importKey (d : Disk) (m : Mem) (sc k : Nat) (p : Bool) : PExt m (importKey d m sc k p).2.1 :=
  pExt_ite2 (fun _ => .refl _) fun h1 => pExt_ite2 (fun _ => .refl _) fun _ =>
    pExt_allocCache _ _ _ _ fun hl => clr_of_ct (by simpa [hl] using h1)

theorem pExt_importScript (d : Disk) (m : Mem) (sc kind sid : Nat) (p : Bool) :
    PExt m (importScript d m sc kind sid p).2.1 :=
  pExt_ite2 (fun _ => .refl _) fun h1 => pExt_ite2 (fun _ => .refl _) fun _ => pExt_ite2 (fun _ => .refl _) fun _ =>
    pExt_allocCache _ _ _ _ fun hl hc => by
      by_cases hk : kind = 0
      · simp [hk, hl] at h1
      · simp only [hk, if_false] at hc
        split at hc <;> simp at hc

theorem pExt_rename (d : Disk) (m : Mem) (sc a : Nat) (n : String) : PExt m (renameAccount d m sc a n).2.1 := by
  refine pExt_ite2 (fun _ => .refl _) fun _ => pExt_ite2 (fun _ => .refl _) fun _ => pExt_ite2 (fun _ => .refl _) fun _ => ?_
  cases aget (d.scopes sc).accts a with
  | none => exact .refl _
  | some row =>
    dsimp only
    cases hai : acctInfoOf m sc a with
    | none => exact .refl _
    | some ai =>
      exact (gExt_setInfo m sc a { ai with name := n } fun hl => hl sc (a, ai) (aget_of_mem_some hai)).mono
        fun _ h => h.acct (a, ai) (aget_of_mem_some hai)

theorem pExt_markUsed (d : Disk) (m : Mem) (sc : Nat) (k : AKey) : PExt m (markUsed d m sc k).2 :=
  pExt_updScope m sc (fun s => { s with addrs := adel s.addrs k }) rfl (fun _ h => h) fun _ h =>
    ⟨h.acct, fun p hp => h.addrs p (mem_adel hp), h.pkc⟩

theorem pExt_setSynced (d : Disk) (m : Mem) (h x : Nat) : PExt m (setSyncedTo d m h x).2.1 :=
  pExt_ite2 (fun _ => .refl _) fun _ => ⟨cExt_same rfl rfl rfl, rfl, fun _ => lExt_heapMap rfl rfl (HClr.refl _)⟩

theorem pExt_execMem (cfg : Cfg) (d : Disk) (m : Mem) {op : Op} (hp : op.plain = true) : PExt m (execMem cfg d m op) := by
  cases op <;> simp only [execMem] <;> first | exact .refl _ | cases hp | skip
  case rename => exact pExt_rename ..
  case next => exact (nextOK_nextAddresses ..).1
  case extend => exact pExt_extend ..
  case importKey => exact pExt_importKey ..
  case importScript => exact pExt_importScript ..
  case markUsed => exact pExt_markUsed ..
  case setSynced => exact pExt_setSynced ..
  case privKey =>
    split
    · exact .refl _
    · rename_i r hr; exact (pExt_addressOf hr).trans (pExt_privKeyObj ..)
  case lastPrivKey sc acct int =>
    have hq := pExt_query d m (.lastAddr sc acct int)
    split
    · rename_i m1 k a hm
      rw [hm] at hq
      split
      · exact hq.trans (pExt_privKeyObj ..)
      · exact hq
    · rename_i m1 _ _ hm; rw [hm] at hq; exact hq
  case script =>
    split
    · exact .refl _
    · rename_i r hr; exact (pExt_addressOf hr).trans (pExt_scriptObj ..)
  case derive => exact pExt_derivePath ..
  case deriveCache => exact pExt_deriveCache ..
  case q => exact pExt_query ..

theorem pend_execPend (cfg : Cfg) (d : Disk) (m : Mem) (op : Op) :
    ∀ p ∈ execPend d m op, PendGood (execMem cfg d m op) p := by
  cases op <;> simp only [execPend] <;> first | (intro _ h; cases h; done) | skip
  case next sc a n int =>
    intro p hp
    exact (nextOK_nextAddresses d m sc a n int).2 p (Option.mem_toList.mp hp)

end AddrLock
