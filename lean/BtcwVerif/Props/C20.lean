import BtcwVerif.Lemmas.Publish
/-!
# C20 — a rejected broadcast leaves no trace; unconfirmed sends are re-offered, parents first

Theorems are about `Publish.publish` (= `reliablyPublishTransaction` on the tree that contains fix fd54ea7),
`Publish.publishTransaction` and `Publish.resend` (= `resendUnminedTxs` after a `RescanFinished`) for every store,
transaction and backend answer; further `Publish.removeConflictDFS` (the literal `removeConflict`), the order of effects
`publishEffects` of one call, and `resendTwice` (two overlapping re-broadcasts).
-/
namespace C20
open Publish

/-- the answers after which the broadcast attempt "fails": the backend rejects, or the hand-over cannot be completed -/
def Failing (a : Answer) : Prop := a = .rejected ∨ a = .notifyFailed

/-- **`removeConflict` as written (depth-first, `Publish.removeConflictDFS` with the fuel the driver uses) removes
exactly the transaction and its unconfirmed descendants** — `removeWithDescendants`, about which the theorems of this file
speak — on every store whose spend edges respect some rank (hash-linked transactions). -/
theorem C20_removeConflict_dfs (s : Store) (id : Nat) (hrank : ∃ rank, Ranked rank s.unmined) :
    removeConflictDFS (s.unmined.length + 1) s id = removeWithDescendants s id := by
  obtain ⟨rank, hR⟩ := hrank
  exact removeConflictDFS_eq_closure rank _ s id hR (Nat.succ_le_succ (List.length_filter_le _ _))

/-- **A failed broadcast forgets the transaction and every unconfirmed transaction spending its outputs, nothing
else, and the call returns an error** — for a rejection by the backend and for a `NotifyReceived` failure alike. -/
theorem C20_reject_forgets (s : Store) (tx : UTx) (ans : Answer) (hf : Failing ans) :
    (publish s tx ans).2 = false ∧
    (publish s tx ans).1.minedIds = s.minedIds ∧
    ∀ u, u ∈ (publish s tx ans).1.unmined ↔
      (u ∈ (Publish.insert s tx).unmined ∧ ¬ Desc (Publish.insert s tx).unmined tx.id u.id) := by
  rcases hf with rfl | rfl <;> exact ⟨rfl, insert_minedIds s tx, mem_removeWithDescendants _ _⟩

/-- In particular the transaction itself and all its unconfirmed descendants are gone. -/
theorem C20_reject_forgets_desc (s : Store) (tx : UTx) (ans : Answer) (hf : Failing ans) (u : UTx)
    (hd : Desc (Publish.insert s tx).unmined tx.id u.id) : u ∉ (publish s tx ans).1.unmined :=
  fun hu => (((C20_reject_forgets s tx ans hf).2.2 u).mp hu).2 hd

/-- The same for the re-broadcast path (`publishTransaction` alone): rejected ⇒ removed with descendants, error. -/
theorem C20_rebroadcast_reject_forgets (s : Store) (id : Nat) :
    (publishTransaction s id .rejected).2 = false ∧
    ∀ u, u ∈ (publishTransaction s id .rejected).1.unmined ↔ (u ∈ s.unmined ∧ ¬ Desc s.unmined id u.id) :=
  ⟨rfl, fun u => mem_removeWithDescendants s id u⟩

/-- "new": the wallet has no record of it; "no child": no unconfirmed transaction spends one of its outputs. -/
def Fresh (s : Store) (tx : UTx) : Prop :=
  tx.id ∉ s.minedIds ∧ (∀ u ∈ s.unmined, u.id ≠ tx.id) ∧ ∀ u ∈ s.unmined, u.spends tx.id = false

theorem insert_fresh {s : Store} {tx : UTx} (h : Fresh s tx) : Publish.insert s tx = { s with unmined := s.unmined ++ [tx] } :=
  insert_of_new h.1 (Bool.eq_false_iff.mpr fun hh =>
    have ⟨u, hu, hid⟩ := List.mem_map.mp (has_iff.mp hh); h.2.1 u hu hid)

theorem remove_fresh {s : Store} {tx : UTx} (h : Fresh s tx) :
    removeWithDescendants { s with unmined := s.unmined ++ [tx] } tx.id = s := by
  -- nothing in the store spends `tx`, so `tx` is its only descendant
  have hdesc : ∀ x, Desc (s.unmined ++ [tx]) tx.id x → x = tx.id := by
    intro x hx
    induction hx with
    | self => rfl
    | step _ hu hsp ih =>
      subst ih
      rcases List.mem_append.mp hu with hu | hu
      · rw [h.2.2 _ hu] at hsp; cases hsp
      · rw [List.mem_singleton.mp hu]
  have hout : outside (s.unmined ++ [tx]) (doomed { s with unmined := s.unmined ++ [tx] } tx.id) = s.unmined := by
    rw [outside_congr (R' := [tx.id]) fun u _ => ⟨fun hd => List.mem_singleton.mpr (hdesc _ ((doomed_iff ..).mp hd)),
      fun hd => (doomed_iff ..).mpr (List.mem_singleton.mp hd ▸ Desc.self)⟩]
    simp only [outside, List.filter_append, List.contains_cons, List.contains_nil, Bool.or_false]
    rw [List.filter_eq_self.mpr fun u hu => by simpa using h.2.1 u hu]
    simp
  exact congrArg (Store.mk s.minedIds) hout

/-- **A failed broadcast of a new transaction without children restores the store exactly** — hence every function
of the store (balance for every minconf, spendable set, unconfirmed set, …) is what it was before the attempt. -/
theorem C20_fresh_restores (s : Store) (tx : UTx) (ans : Answer) (hf : Failing ans) (hfresh : Fresh s tx) :
    (publish s tx ans).1 = s := by
  have : (publish s tx ans).1 = removeWithDescendants (Publish.insert s tx) tx.id := by rcases hf with rfl | rfl <;> rfl
  rw [this, insert_fresh hfresh]
  exact remove_fresh hfresh

/-! What the unconfirmed part of the store contributes to `balance` and to `spendable`: their argument `mined` are the
credits of confirmed transactions (outpoint, amount, block height), fixed during a publish. -/

def spentByUnmined (s : Store) (op : OutPoint) : Bool := s.unmined.any fun u => u.ins.contains op

def balance (mined : List (OutPoint × Int × Int)) (syncHeight : Int) (s : Store) (minconf : Int) : Int :=
  ((mined.filter fun c => !spentByUnmined s c.1 && decide (minconf ≤ syncHeight - c.2.2 + 1)).map (·.2.1)).sum +
  (if minconf == 0 then
    ((s.unmined.flatMap fun u => (u.credits.filter fun c => !spentByUnmined s (u.id, c.1)).map (·.2))).sum else 0)

def spendable (mined : List (OutPoint × Int × Int)) (s : Store) : List OutPoint :=
  (mined.filter fun c => !spentByUnmined s c.1).map (·.1) ++
  s.unmined.flatMap fun u => (u.credits.filter fun c => !spentByUnmined s (u.id, c.1)).map fun c => (u.id, c.1)

/-- balance for every `minconf` and the spendable set equal what they were before the attempt -/
theorem C20_fresh_restores_obs (s : Store) (tx : UTx) (ans : Answer) (hf : Failing ans) (hfresh : Fresh s tx)
    (mined : List (OutPoint × Int × Int)) (h : Int) :
    (∀ minconf, balance mined h (publish s tx ans).1 minconf = balance mined h s minconf) ∧
    spendable mined (publish s tx ans).1 = spendable mined s := by
  rw [C20_fresh_restores s tx ans hf hfresh]
  exact ⟨fun _ => rfl, rfl⟩

/-- ids of recorded unconfirmed transactions are pairwise different (keys of bucket `m`) -/
def IdsNodup (s : Store) : Prop := (s.unmined.map (·.id)).Nodup

/-- **A transaction the backend reports as already in its mempool stays recorded, exactly once, and the call
succeeds**; nothing else in the store changes (so its credits and debits are counted once). -/
theorem C20_in_mempool_kept (s : Store) (tx : UTx) (hids : IdsNodup s) (hm : tx.id ∉ s.minedIds) :
    (publish s tx .inMempool).2 = true ∧
    ((publish s tx .inMempool).1.unmined.map (·.id)).count tx.id = 1 ∧
    ((publish s tx .inMempool).1 = s ∨ (publish s tx .inMempool).1 = { s with unmined := s.unmined ++ [tx] }) := by
  show true = true ∧ ((Publish.insert s tx).unmined.map (·.id)).count tx.id = 1 ∧
    (Publish.insert s tx = s ∨ Publish.insert s tx = { s with unmined := s.unmined ++ [tx] })
  cases hhas : s.has tx.id with
  | true =>
    rw [insert_of_has hhas, hids.count, if_pos (has_iff.mp hhas)]
    exact ⟨rfl, rfl, .inl rfl⟩
  | false =>
    have hnot : tx.id ∉ s.unmined.map (·.id) := fun h => Bool.false_ne_true (hhas ▸ has_iff.mpr h)
    rw [insert_of_new hm hhas, List.map_append, List.count_append, hids.count, if_neg hnot]
    exact ⟨rfl, by simp, .inr rfl⟩

/-- The accepted answer behaves the same. -/
theorem C20_accepted_kept (s : Store) (tx : UTx) : publish s tx .accepted = (Publish.insert s tx, true) := rfl

/-- **After every (re)synchronisation each still-unconfirmed transaction is offered to the backend again, exactly
once, parents before children** — whatever the backend answers to each of them (`answers`), i.e. an earlier refusal
does not stop the loop. -/
theorem C20_resend (s : Store) (answers : Nat → Answer) (hids : IdsNodup s) (hac : Acyclic s.unmined) :
    let sent := (resend s answers).2
    (∀ u ∈ s.unmined, u.id ∈ sent) ∧ sent.Nodup ∧ (∀ x ∈ sent, ∃ u ∈ s.unmined, u.id = x) ∧
    (∀ pre x post, sent = pre ++ x :: post → ∀ u ∈ s.unmined, u.id = x →
        ∀ p ∈ s.unmined, u.spends p.id = true → p.id ∈ pre) := by
  have hsent : (resend s answers).2 = ids (dependencySort s.unmined) :=
    (resendLoop_sent ..).trans (List.nil_append _)
  obtain ⟨hmem, hnd, hpf⟩ := dependencySort_spec s.unmined hids hac
  simp only [hsent]
  refine ⟨fun u hu => List.mem_map.mpr ⟨u, (hmem u).mpr hu, rfl⟩, hnd, fun x hx => ?_, ?_⟩
  · obtain ⟨u, hu, hux⟩ := List.mem_map.mp hx
    exact ⟨u, (hmem u).mp hu, hux⟩
  · intro pre x post heq u hu hux p hp hsp
    -- split the sorted list at the same position; the record found there has the id of `u`, so it is `u`
    obtain ⟨lpre, _, hl, rfl, hr⟩ := List.map_eq_append_iff.mp heq
    obtain ⟨v, lpost, rfl, hvx, -⟩ := List.map_eq_cons_iff.mp hr
    have hvU : v ∈ s.unmined := (hmem v).mp (hl ▸ List.mem_append_right _ List.mem_cons_self)
    rw [← eq_of_id_eq hids hvU hu (hvx.trans hux.symm)] at hsp
    exact hpf lpre v lpost hl p hp hsp

namespace Example

/-- T1 (confirmed elsewhere) ← T2 ← T3, and an unrelated T4; T5 is new and spends an output of T1 -/
def t2 : UTx := { id := 2, ins := [(1, 0)], credits := [(1, 50000)] }
def t3 : UTx := { id := 3, ins := [(2, 1)], credits := [(0, 20000)] }
def t4 : UTx := { id := 4, ins := [(9, 0)], credits := [(0, 70000)] }
def t5 : UTx := { id := 5, ins := [(1, 1)], credits := [(1, 30000)] }
def s : Store := { minedIds := [1], unmined := [t3, t2, t4] }   -- child recorded before its parent (after a reorg)

theorem fresh5 : Fresh s t5 := by unfold Fresh; decide
theorem idsNodup : IdsNodup s := by unfold IdsNodup; decide
theorem acyclic : Acyclic s.unmined := ⟨fun n => n, by decide⟩

example : removeConflictDFS 4 s 2 = removeWithDescendants s 2 := by decide
/-- a rejection of T2 removes T2 and T3 and keeps T4 -/
example : ((publish s t2 .rejected).1.unmined.map (·.id), (publish s t2 .rejected).2) = ([4], false) := by decide
/-- a failed hand-over of the new T5 leaves the store as it was -/
example : (publish s t5 .notifyFailed).1 = s := by decide
/-- re-broadcast order: parents first although the child was recorded first -/
example : (resend s (fun _ => .accepted)).2 = [2, 4, 3] := by decide
/-- a refusal in the middle does not stop the loop, and removes the refused transaction's descendants -/
example : ((resend s (fun i => if i == 2 then .rejected else .accepted)).2,
           (resend s (fun i => if i == 2 then .rejected else .accepted)).1.unmined.map (·.id)) = ([2, 4, 3], [4]) := by decide
end Example

/-- `publish` is the interpretation of its effect list: record, subscribe, (broadcast), (forget), in this order. -/
theorem C20_publish_effects (s : Store) (tx : UTx) (ans : Answer) :
    (publish s tx ans).1 = runEffects tx s (publishEffects ans) := by
  cases ans <;> rfl

/-- what `reliablyPublishTransaction` has done by the time it calls `SendRawTransaction` -/
def beforeSend (es : List Effect) : List Effect := es.takeWhile (· != Effect.sendRaw)

/-- **Nothing is handed to the backend before the notification subscription succeeded**, and nothing has been forgotten
by then; a failed subscription and a broadcast never occur in the same call.  Hence the roll-back of a failed
subscription cannot forget a transaction the backend has accepted. -/
theorem C20_subscribe_before_broadcast (ans : Answer) (h : Effect.sendRaw ∈ publishEffects ans) :
    Effect.record ∈ beforeSend (publishEffects ans) ∧ Effect.subscribe true ∈ beforeSend (publishEffects ans) ∧
    Effect.forget ∉ beforeSend (publishEffects ans) ∧ Effect.subscribe false ∉ publishEffects ans := by
  revert h
  cases ans <;> decide

/-- A failed subscription: the backend never sees the transaction. -/
theorem C20_failed_subscription_never_broadcasts : sendCount (publishEffects .notifyFailed) = 0 := by decide

/-- "forgotten" applies to FAILED attempts only: a transaction the backend accepted (or already holds in its mempool)
was handed over exactly once and is never rolled back. -/
theorem C20_published_never_forgotten (ans : Answer) (h : ans = .accepted ∨ ans = .inMempool) :
    sendCount (publishEffects ans) = 1 ∧ Effect.forget ∉ publishEffects ans := by
  rcases h with rfl | rfl <;> decide

/-- **After EVERY resynchronisation**: when a second rescan finishes while the re-broadcast of the first is still
waiting for the backend, each of the two re-broadcasts offers the complete list `C20_resend` speaks about. -/
theorem C20_resend_every_resync (s : Store) (answers : Nat → Answer) :
    (resendTwice s answers).2.1 = (resend s answers).2 ∧ (resendTwice s answers).2.2 = (resend s answers).2 :=
  ⟨(resendLoop_sent ..).trans (resendLoop_sent ..).symm, (resendLoop_sent ..).trans (resendLoop_sent ..).symm⟩

theorem C20_resend_every_resync_all (s : Store) (answers : Nat → Answer) (hids : IdsNodup s)
    (hac : Acyclic s.unmined) (u : UTx) (hu : u ∈ s.unmined) :
    u.id ∈ (resendTwice s answers).2.1 ∧ u.id ∈ (resendTwice s answers).2.2 := by
  obtain ⟨h1, h2⟩ := C20_resend_every_resync s answers
  rw [h1, h2]
  exact ⟨(C20_resend s answers hids hac).1 u hu, (C20_resend s answers hids hac).1 u hu⟩

example : (resendTwice Example.s (fun i => if i == 2 then .rejected else .accepted)).2 = ([2, 4, 3], [2, 4, 3]) := by decide

/-- **Finding F10** (code before fix fd54ea7): when `NotifyReceived` fails the call returns an error but the new
transaction stays recorded — `C20_fresh_restores` is false of `publishUnfixed`. -/
theorem C20_unfixed_notify_counterexample :
    ∃ s tx, Fresh s tx ∧ (publishUnfixed s tx .notifyFailed).2 = false ∧ (publishUnfixed s tx .notifyFailed).1 ≠ s :=
  ⟨Example.s, Example.t5, Example.fresh5, rfl, by decide⟩

end C20
