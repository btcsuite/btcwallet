/-
C19 — Database upgrades apply each pending migration once, in order, or not at all.
Property theorems about `Migration` (model of walletdb/migration/manager.go), with non-vacuity examples; the lemmas
they rest on are in `Lemmas/Migration.lean`.
-/
import BtcwVerif.Lemmas.Migration
namespace Migration

theorem latest_nil : latest [] = 0 := rfl

theorem latest_mem (vs : List Version) (h : vs ≠ []) : ∃ v ∈ vs, v.number = latest vs := by
  unfold latest
  cases hl : (sortVs vs).getLast? with
  | none =>
    have := (sortVs_perm vs).length_eq
    rw [List.getLast?_eq_none_iff.mp hl] at this
    exact absurd (List.eq_nil_of_length_eq_zero this.symm) h
  | some w => exact ⟨w, (sortVs_perm vs).mem_iff.mp (List.mem_of_getLast? hl), rfl⟩

/-- The versions selected are exactly those numbered above the stored version (as a multiset), in ascending
order — whatever order the table declares them in. -/
theorem C19_to_apply (cur : Nat) (vs : List Version) :
    (versionsToApply cur vs).Perm (vs.filter (fun v => v.number > cur)) ∧
    (versionsToApply cur vs).Pairwise (fun a b => a.number ≤ b.number) :=
  ⟨sortVs_perm _, sortVs_sorted _⟩

/-- Declaration order is irrelevant up to the order of equal-numbered entries. -/
theorem C19_order_independent (cur : Nat) (vs ws : List Version) (h : vs.Perm ws) :
    (versionsToApply cur vs).Perm (versionsToApply cur ws) :=
  ((sortVs_perm _).trans (h.filter _)).trans (sortVs_perm _).symm

/-- "Each once": the multiset of migration ids selected (the ones a successful upgrade runs, `C19_upgrade_ok`) is exactly
the multiset of non-nil migrations numbered above the stored version. -/
theorem C19_each_once (cur : Nat) (vs : List Version) :
    ((versionsToApply cur vs).filterMap (·.mig)).Perm
      ((vs.filter (fun v => v.number > cur)).filterMap (·.mig)) :=
  (sortVs_perm _).filterMap _

/-- A database newer than the software is refused and nothing is run or written. -/
theorem C19_newer_refused (cur : Nat) (vs : List Version) (fails : Nat → Bool) (sf : Bool)
    (h : cur > latest vs) :
    upgrade (some cur) vs fails sf = { trace := [], err := some .reversion, version := cur } := by
  simp [upgrade, h]

theorem C19_equal_noop (vs : List Version) (fails : Nat → Bool) (sf : Bool) :
    upgrade (some (latest vs)) vs fails sf = { trace := [], err := none, version := latest vs } := by
  simp [upgrade]

/-- Successful upgrade: every pending non-nil migration runs exactly once, in ascending order, nil ones are
skipped, and recording the latest version is the last thing that happens. -/
theorem C19_upgrade_ok (cur : Nat) (vs : List Version) (fails : Nat → Bool)
    (hlt : cur < latest vs)
    (hok : ∀ v ∈ vs, ∀ id, v.mig = some id → fails id = false) :
    upgrade (some cur) vs fails false =
      { trace := (versionsToApply cur vs).filterMap okEv ++ [.setVersion (latest vs)],
        err := none, version := latest vs } := by
  have h := upgrade_cases cur vs fails false
  generalize upgrade (some cur) vs fails false = r at h ⊢
  cases h with
  | ok => rfl
  | newer h | equal h => omega
  | failed _ hl hv hf =>
    have := List.mem_filter.mp ((sortVs_perm _).mem_iff.mp (hl ▸ List.mem_append_right _ List.mem_cons_self))
    exact nomatch (hok _ this.1 _ hv).symm.trans hf
  | setFailed _ _ hsf => cases hsf

/-- A failing upgrade of a database whose version was read (a newer database is refused, a migration fails, or recording
the version fails) leaves the stored version unchanged and never records a version. -/
theorem C19_fail_keeps_version (cur : Nat) (vs : List Version) (fails : Nat → Bool) (sf : Bool)
    (h : (upgrade (some cur) vs fails sf).err ≠ none) :
    (upgrade (some cur) vs fails sf).version = cur ∧
    ∀ x, Ev.setVersion x ∉ (upgrade (some cur) vs fails sf).trace := by
  have hc := upgrade_cases cur vs fails sf
  generalize upgrade (some cur) vs fails sf = r at h hc ⊢
  have tail : ∀ (l : List Version) (e : Ev), (∀ x, e ≠ .setVersion x) →
      ∀ x, Ev.setVersion x ∉ l.filterMap okEv ++ [e] := fun l e he x hx =>
    (List.mem_append.mp hx).elim (okEv_ne_setVersion l x) fun hx => he x (List.mem_singleton.mp hx).symm
  cases hc with
  | newer => exact ⟨rfl, fun _ => List.not_mem_nil⟩
  | failed => exact ⟨rfl, tail _ _ nofun⟩
  | setFailed => exact ⟨rfl, tail _ _ nofun⟩
  | equal | ok => exact absurd rfl h

/-- When a migration fails, what ran before it is exactly the ascending prefix of pending migrations, each once;
nothing after the failing one runs. -/
theorem C19_fail_prefix (cur : Nat) (vs : List Version) (fails : Nat → Bool) (sf : Bool) (n id : Nat)
    (h : (upgrade (some cur) vs fails sf).err = some (.migration n id)) :
    ∃ pre v rest, versionsToApply cur vs = pre ++ v :: rest ∧ v.mig = some id ∧ v.number = n ∧ fails id = true ∧
      (∀ u ∈ pre, ∀ i, u.mig = some i → fails i = false) ∧
      (upgrade (some cur) vs fails sf).trace = pre.filterMap okEv ++ [.failed n id] := by
  have hc := upgrade_cases cur vs fails sf
  generalize upgrade (some cur) vs fails sf = r at h hc ⊢
  cases hc with
  | failed _ hl hv hf hpre => cases h; exact ⟨_, _, _, hl, hv, rfl, hf, hpre, rfl⟩
  | _ => cases h

/-- After a successful upgrade the stored version is the largest declared number (and at least every entry's). -/
theorem C19_ok_version (cur : Nat) (vs : List Version) (fails : Nat → Bool) (sf : Bool)
    (h : (upgrade (some cur) vs fails sf).err = none) :
    (upgrade (some cur) vs fails sf).version = latest vs ∧ ∀ v ∈ vs, v.number ≤ latest vs := by
  refine ⟨?_, latest_ge vs⟩
  have hc := upgrade_cases cur vs fails sf
  generalize upgrade (some cur) vs fails sf = r at h hc ⊢
  cases hc with
  | equal h' => exact h'
  | ok => rfl
  | _ => cases h

/-- Inside one managed database transaction a failed upgrade changes nothing at all. -/
theorem C19_fail_in_tx (db : DB) (vs : List Version) (fails : Nat → Bool) (sf : Bool)
    (h : (upgradeInTx db vs fails sf).2 ≠ none) : (upgradeInTx db vs fails sf).1 = db := by
  cases he : (upgrade (some db.version) vs fails sf).err with
  | none => rw [upgradeInTx_ok he] at h; exact absurd rfl h
  | some e => rw [upgradeInTx_err he]

/-- Outside a transaction the data of completed migrations may persist but the stored version still does not move. -/
theorem C19_fail_no_tx_version (db : DB) (vs : List Version) (fails : Nat → Bool) (sf : Bool)
    (h : (upgradeNoTx db vs fails sf).2 ≠ none) : (upgradeNoTx db vs fails sf).1.version = db.version :=
  (C19_fail_keeps_version db.version vs fails sf h).1

theorem C19_newer_refused_in_tx (db : DB) (vs : List Version) (fails : Nat → Bool) (sf : Bool)
    (h : db.version > latest vs) : upgradeInTx db vs fails sf = (db, some .reversion) :=
  upgradeInTx_err (by rw [C19_newer_refused _ vs fails sf h])

/-- Running the upgrade again after success is a no-op (each migration runs once over any number of restarts). -/
theorem C19_idempotent (db : DB) (vs : List Version) (fails : Nat → Bool) (sf : Bool)
    (h : (upgradeInTx db vs fails sf).2 = none) (fails' : Nat → Bool) (sf' : Bool) :
    upgradeInTx (upgradeInTx db vs fails sf).1 vs fails' sf' = ((upgradeInTx db vs fails sf).1, none) := by
  cases he : (upgrade (some db.version) vs fails sf).err with
  | some e => rw [upgradeInTx_err he] at h; cases h
  | none =>
    rw [upgradeInTx_ok he, (C19_ok_version db.version vs fails sf he).1]
    rw [upgradeInTx_ok (by rw [C19_equal_noop]), C19_equal_noop]
    exact congrArg (·, none) (congrArg (DB.mk _) (List.append_nil _))

/-- Several components upgraded inside one database transaction (as `wallet.OpenWithRetry`, which `wallet.Open` calls,
does for the transaction manager and the address manager): if any of them fails or refuses, none of them is modified. -/
theorem C19_many_fail_in_tx (comps : List (DB × List Version)) (fails : Nat → Bool)
    (h : (upgradeManyInTx comps fails).2 ≠ none) :
    (upgradeManyInTx comps fails).1 = comps.map (·.1) := by
  unfold upgradeManyInTx at h ⊢
  generalize upgradeManyLoop fails comps = p at h ⊢
  rcases p with ⟨dbs, _ | e⟩
  · exact absurd rfl h
  · rfl

/-- … and if all succeed, each component ends exactly as if upgraded alone (each at its own latest version). -/
theorem C19_many_ok_in_tx (comps : List (DB × List Version)) (fails : Nat → Bool)
    (h : (upgradeManyInTx comps fails).2 = none) :
    (upgradeManyInTx comps fails).1 = comps.map (fun c => (upgradeInTx c.1 c.2 fails false).1) ∧
    ∀ c ∈ comps, (upgradeInTx c.1 c.2 fails false).2 = none := by
  have hloop := upgradeManyLoop_ok fails comps
  unfold upgradeManyInTx at h ⊢
  generalize upgradeManyLoop fails comps = p at h hloop ⊢
  rcases p with ⟨dbs, _ | e⟩
  · exact hloop rfl
  · cases h

example : (upgradeManyInTx [(⟨1, []⟩, [⟨1, none⟩, ⟨2, some 20⟩]), (⟨10, []⟩, [⟨9, some 90⟩])] (fun _ => false)).2
    = some .reversion := by decide

def exTable : List Version := [⟨3, some 30⟩, ⟨1, some 10⟩, ⟨2, none⟩, ⟨4, some 40⟩]

example : latest exTable = 4 := by decide
example : 1 < latest exTable ∧ (∀ v ∈ exTable, ∀ id, v.mig = some id → (fun _ => false) id = false) := by
  exact ⟨by decide, fun _ _ _ _ => rfl⟩
example : (upgrade (some 1) exTable (fun _ => false) false).trace
    = [.applied 3 30, .applied 4 40, .setVersion 4] := by decide
example : (upgrade (some 1) exTable (fun i => i == 40) false).err = some (.migration 4 40) := by decide
example : (upgrade (some 1) exTable (fun i => i == 40) false).trace = [.applied 3 30, .failed 4 40] := by decide
example : 5 > latest exTable := by decide

end Migration
