/-
C05 at the wallet level — "the private passphrase the running wallet accepts is the one the database was last
re-keyed with", for `wallet.Wallet` requests on the `WalletRestart` model (Wallet.Unlock, ChangePrivatePassphrase,
ChangePublicPassphrase, ChangePassphrases, next to every other request of the model).

The invariant `PrivInv` (`memPriv s = s.disk.priv`) holds after ALL request histories (failed commits, dry runs,
failing requests and FAILED combined passphrase changes included); the theorems about Unlock and the private
passphrase changes follow from it.  The PUBLIC half of a failed combined change is a counter-example
(`C05_wallet_counterexample_failed_combined_change_public`); `C05_wallet_counterexample_private_first` shows what the
other order of the two steps would break.
-/
import BtcwVerif.Lemmas.WalletRestart
namespace WalletRestart

theorem rollback_privOv (s : State) (t : Tx) : (rollback s t).mem.privOv = t.m.privOv := rfl
theorem inval_privOv (m : Mem) (sc a) : (inval m sc a).privOv = m.privOv := rfl

theorem Outcome.pframe {dry e s r} (h : Outcome dry e s r) : PFrame s r.1 := by
  induction h with
  | kept m res hl => exact ⟨hl.privOv, rfl⟩
  | stale m _ hp => exact ⟨hp, rfl⟩
  | issued m sc a i ad _ hm =>
    exact ⟨(commit_privOv _).trans ((issue_frame _ sc a i 1).2.1.trans hm.privOv), issue_dpriv _ sc a i 1⟩
  | created sc row res => exact ⟨(loadAcct_frame _ _ _ _).2.2, rfl⟩
  | renamed sc a r nm =>
    refine ⟨(loadAcct_frame _ _ _ _).2.2.trans ?_, rfl⟩
    cases s.mem.accts sc a <;> rfl
  | funded r ad l m _ _ hl ih => exact ⟨hl.privOv.trans ih.1, ih.2⟩

theorem step_priv_frame (s : State) (op : Op) (h1 : ∀ pr o n, op ≠ .chPass pr o n) (h2 : ∀ a b c d, op ≠ .chBoth a b c d)
    (h3 : op ≠ .restart) :
    (step s op).1.disk.priv = s.disk.priv ∧ (step s op).1.mem.privOv = s.mem.privOv := by
  rcases step_cases s op with ho | ⟨⟨pr, o, n, h⟩ | ⟨a, b, c, d, h⟩, _⟩ | h
  · exact ⟨ho.pframe.2, ho.pframe.1⟩
  · exact absurd h (h1 pr o n)
  · exact absurd h (h2 a b c d)
  · exact absurd h h3

/-- the private passphrase the running manager checks against is the one the database was last re-keyed with -/
def PrivInv (s : State) : Prop := memPriv s = s.disk.priv

theorem PrivInv.of_pframe {s s' : State} (h : PrivInv s) (hf : PFrame s s') : PrivInv s' := by
  unfold PrivInv memPriv memPrivOf at *
  rw [hf.1, hf.2]; exact h

/-- a passphrase request leaves database and memory alone (as the failed private half of a combined change does) or
re-keys both; every other request touches neither -/
theorem step_privInv (s : State) (op : Op) (h : PrivInv s) : PrivInv (step s op).1 := by
  rcases step_cases s op with ho | ⟨_, hp⟩ | rfl
  · exact h.of_pframe ho.pframe
  · rcases hp.priv with hf | ⟨n, h1, h2⟩
    · exact h.of_pframe hf
    · unfold PrivInv memPriv memPrivOf; rw [h1, h2]; rfl
  · rfl

/-- **After ANY history of wallet requests** (NewAddress, CreateSimpleTx dry/real/failing, FundPsbt, ImportAccount /
DryRun, RenameAccount, NextAccount, Lock, Unlock with right and wrong passphrases, ChangePrivatePassphrase,
ChangePublicPassphrase, ChangePassphrases — failed commits and FAILED combined changes included) the private
passphrase the running manager checks against is the one the database was last re-keyed with. -/
theorem C05_wallet_priv_invariant (ops : List Op) : memPriv (run init ops) = (run init ops).disk.priv :=
  run_invariant (P := PrivInv) (fun s op _ => step_privInv s op) rfl

/-- `Wallet.Unlock(p)` does not answer ErrWrongPassphrase -/
def accepts (s : State) (p : Nat) : Prop := (stepUnlockPass s p).2 ≠ .err .wrongPass

theorem stepUnlock_ne_wrongPass (s : State) : (stepUnlock s).2 ≠ .err .wrongPass := by
  unfold stepUnlock
  split
  · intro h; cases h
  · split
    · intro h; cases h
    · intro h; cases h

theorem accepts_iff (s : State) (p : Nat) : accepts s p ↔ p = memPriv s := by
  unfold accepts stepUnlockPass
  constructor
  · intro h
    split at h
    · assumption
    · exact absurd rfl h
  · intro h
    rw [if_pos h]
    exact stepUnlock_ne_wrongPass s

/-- **The running wallet and a wallet restarted on the same database accept exactly the same private passphrase:
the database's.**  For every history of requests (failed commits, dry runs, failing requests, failed combined
passphrase changes included) and every passphrase `p`: `Wallet.Unlock(p)` on the running wallet is answered with
something other than ErrWrongPassphrase iff `p` is the passphrase the database was last re-keyed with, and the same
holds for a wallet freshly opened on that database. -/
theorem C05_wallet_unlock_current (ops : List Op) (p : Nat) :
    (accepts (run init ops) p ↔ p = (run init ops).disk.priv) ∧
    (accepts (reopen (run init ops)) p ↔ p = (run init ops).disk.priv) ∧
    (accepts (run init ops) p ↔ accepts (reopen (run init ops)) p) := by
  have h1 : accepts (run init ops) p ↔ p = (run init ops).disk.priv := by
    rw [accepts_iff, C05_wallet_priv_invariant]
  have h2 : accepts (reopen (run init ops)) p ↔ p = (run init ops).disk.priv := accepts_iff _ p
  exact ⟨h1, h2, h1.trans h2.symm⟩

/-- **Any other passphrase is refused, and the refusal locks the manager without touching the database**
(`Manager.Unlock` → `m.lock()` → ErrWrongPassphrase), after every history. -/
theorem C05_wallet_unlock_other_fails_locked (ops : List Op) (p : Nat) (hp : p ≠ (run init ops).disk.priv) :
    (stepUnlockPass (run init ops) p).2 = .err .wrongPass ∧
    (stepUnlockPass (run init ops) p).1.mem.locked = true ∧
    (stepUnlockPass (run init ops) p).1.disk = (run init ops).disk := by
  have hne : ¬ p = memPriv (run init ops) := by rw [C05_wallet_priv_invariant]; exact hp
  unfold stepUnlockPass
  rw [if_neg hne]
  exact ⟨rfl, rfl, rfl⟩

/-- **The database's passphrase unlocks exactly as the model's `unlock` request** (the one the C08 wallet
theorems talk about): `Wallet.Unlock(current passphrase)` is never refused for the passphrase. -/
theorem C05_wallet_unlock_current_same_as_unlock (ops : List Op) :
    stepUnlockPass (run init ops) (run init ops).disk.priv = stepUnlock (run init ops) := by
  unfold stepUnlockPass
  rw [if_pos (C05_wallet_priv_invariant ops).symm]

/-- **ChangePrivatePassphrase / ChangePassphrases work as a restart would see them**, after every history `ops`
(with `s` the state reached):
* `Wallet.ChangePrivatePassphrase(old, new)` answering nil means `old` was the database's passphrase, the database is
  now keyed with `new` and the running manager checks against `new` (so by `C05_wallet_unlock_current` `new` is
  accepted and every other passphrase refused, now and after a restart); answering an error means the database is
  unchanged and the manager still checks against the same passphrase.
* `Wallet.ChangePassphrases(po, pn, vo, vn)` answering nil means `vo` was the database's private passphrase and the
  database now has private `vn`, public `pn`, the manager checking against `vn`; answering an error (wrong public OR
  wrong private old passphrase — the FAILED combined change) means the database is unchanged and the manager still
  checks against the same private passphrase. -/
theorem C05_wallet_change_private_works (ops : List Op) (old new po pn vo vn : Nat) :
    let s := run init ops
    ((step s (.chPass true old new)).2 = .ok →
      old = s.disk.priv ∧ (step s (.chPass true old new)).1.disk.priv = new ∧
      memPriv (step s (.chPass true old new)).1 = new) ∧
    ((step s (.chPass true old new)).2 ≠ .ok →
      (step s (.chPass true old new)).1.disk = s.disk ∧ memPriv (step s (.chPass true old new)).1 = memPriv s) ∧
    ((step s (.chBoth po pn vo vn)).2 = .ok →
      vo = s.disk.priv ∧ (step s (.chBoth po pn vo vn)).1.disk.priv = vn ∧
      (step s (.chBoth po pn vo vn)).1.disk.pub = pn ∧ memPriv (step s (.chBoth po pn vo vn)).1 = vn) ∧
    ((step s (.chBoth po pn vo vn)).2 ≠ .ok →
      (step s (.chBoth po pn vo vn)).1.disk = s.disk ∧ memPriv (step s (.chBoth po pn vo vn)).1 = memPriv s) := by
  intro s
  have hinv : memPriv s = s.disk.priv := C05_wallet_priv_invariant ops
  simp only [step]
  rw [stepChPass_eq, stepChBoth_eq]
  simp only [↓reduceIte]
  refine and_assoc.mp ⟨?_, ?_⟩
  · by_cases hc : old = memPriv s
    · rw [if_pos hc]; exact ⟨fun _ => ⟨hc.trans hinv, rfl, rfl⟩, fun h => absurd rfl h⟩
    · rw [if_neg hc]; exact ⟨nofun, fun _ => ⟨rfl, rfl⟩⟩
  · by_cases h1 : po = memPub s
    · by_cases h2 : vo = memPriv s
      · rw [if_pos h1, if_pos h2]; exact ⟨fun _ => ⟨h2.trans hinv, rfl, rfl, rfl⟩, fun h => absurd rfl h⟩
      · rw [if_pos h1, if_neg h2]; exact ⟨nofun, fun _ => ⟨rfl, rfl⟩⟩
    · rw [if_neg h1]; exact ⟨nofun, fun _ => ⟨rfl, rfl⟩⟩

/-- results of a request sequence, in order -/
def runRes : State → List Op → List Res
  | _, [] => []
  | s, op :: rest => (step s op).2 :: runRes (step s op).1 rest

/-- the UNCHANGED order of `ChangePassphrases` (public step first, private step second) with a wrong PRIVATE old
passphrase: the request fails, the database keeps public passphrase 0 and private passphrase 0, but the running
manager already replaced its PUBLIC master key (`memPub = 1`): the running wallet refuses
`ChangePublicPassphrase(0 → 2)` that a restarted wallet accepts.  The private passphrase is unaffected (which is
why the private-passphrase theorems above hold for histories with failed combined changes). -/
theorem C05_wallet_counterexample_failed_combined_change_public :
    let s := (step init (.chBoth 0 1 7 2)).1
    (step init (.chBoth 0 1 7 2)).2 = .err .wrongPass ∧
    s.disk.pub = 0 ∧ s.disk.priv = 0 ∧ memPub s = 1 ∧ memPriv s = 0 ∧
    (step s (.chPass false 0 2)).2 = .err .wrongPass ∧
    (step (reopen s) (.chPass false 0 2)).2 = .ok := by
  decide

/-- with the OTHER order of the two steps (private first) a wrong PUBLIC old passphrase would leave the running
manager on private passphrase 2 while the database stays on 0: `Unlock(0)` is refused (and locks) and `Unlock(2)`
accepted by the running wallet, the opposite of a restarted one. -/
theorem C05_wallet_counterexample_private_first :
    let r := stepChBothWith true init 9 1 0 2
    r.2 = .err .wrongPass ∧ r.1.disk.priv = 0 ∧ memPriv r.1 = 2 ∧
    (stepUnlockPass r.1 0).2 = .err .wrongPass ∧ (stepUnlockPass r.1 0).1.mem.locked = true ∧
    (stepUnlockPass r.1 2).2 = .ok ∧
    (stepUnlockPass (reopen r.1) 0).2 = .ok ∧ (stepUnlockPass (reopen r.1) 2).2 = .err .wrongPass := by
  decide

/-- non-vacuity: ChangePrivatePassphrase(0 → 3), Lock, Unlock(0) refused, Unlock(3) accepted -/
example : runRes init [.chPass true 0 3, .lock, .unlockPass 0, .unlockPass 3] = [.ok, .ok, .err .wrongPass, .ok] := by
  decide

/-- non-vacuity: a FAILED combined change (wrong private old passphrase) in the history, then the private passphrase
still behaves: Unlock(0) accepted, ChangePassphrases(1→…) refused by the running wallet's stale PUBLIC key but the
private change alone works, and after it 0 is refused and 5 accepted - also after a restart. -/
example :
    let s := run init [.chBoth 0 1 7 2, .lock]
    runRes s [.unlockPass 0, .chPass true 0 5, .lock, .unlockPass 0, .unlockPass 5] =
      [.ok, .ok, .ok, .err .wrongPass, .ok] ∧
    runRes (reopen (run s [.chPass true 0 5])) [.unlockPass 0, .unlockPass 5] = [.err .wrongPass, .ok] := by
  decide

/-- **With the fix, a refused `Wallet.ChangePassphrases` changes nothing the running wallet checks passphrases
against** - neither the database, nor the private passphrase, nor (unlike the unfixed handler, see
`C05_wallet_counterexample_failed_combined_change_public`) the PUBLIC passphrase in memory; a successful one is the
unfixed handler's result.  From ANY state. -/
theorem C05_wallet_fixed_combined_change (s : State) (po pn vo vn : Nat) :
    ((stepChBothFixed s po pn vo vn).2 ≠ .ok →
      (stepChBothFixed s po pn vo vn).1.disk = s.disk ∧ memPub (stepChBothFixed s po pn vo vn).1 = memPub s ∧
      memPriv (stepChBothFixed s po pn vo vn).1 = memPriv s) ∧
    ((stepChBothFixed s po pn vo vn).2 = .ok → stepChBothFixed s po pn vo vn = stepChBoth s po pn vo vn) := by
  unfold stepChBothFixed
  rw [stepChBoth_eq]
  by_cases h1 : po = memPub s
  · by_cases h2 : vo = memPriv s
    · simp [h1, h2]
    · simp only [h1, h2, if_true, if_false]
      simp [memPub, memPubOf, memPriv, memPrivOf]
  · simp [h1]

/-- the fixed handler on the counter-example's input: the running wallet keeps accepting the old public passphrase -/
example :
    let s := (stepChBothFixed init 0 1 7 2).1
    (stepChBothFixed init 0 1 7 2).2 = .err .wrongPass ∧ memPub s = 0 ∧ (step s (.chPass false 0 2)).2 = .ok := by
  decide

end WalletRestart
