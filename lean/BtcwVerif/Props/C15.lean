/-
C15 — The wallet's view of the chain tip follows the backend through reorgs.
Property theorems about `SyncTip` (model of wallet/chainntfns.go connectBlock/disconnectBlock/addRelevantTx,
waddrmgr PutSyncedTo, and the syncWithChain start-up rollback).  The lemmas live in Lemmas/SyncTip*.lean;
specification vocabulary (Inv, ValidStep, ValidRun, IsLastCommon) in Lemmas/SyncTipDefs.lean.

Quantification: every valid evolution (`ValidRun`: extensions, reorgs of any depth that leave the block below the
fork point remembered, stale and repeated disconnects, repeated connects and transaction notifications, unconfirmed
transactions), every placement of wallet transactions in blocks (`Content.txs` arbitrary), the three notification
orders (`TxMode`), every window `W ≥ 1`; start-up: every old chain and every new backend chain.
-/
import BtcwVerif.Lemmas.SyncTipRescan
import BtcwVerif.Lemmas.SyncTipNotify
namespace SyncTip

/-- Chains are lists with parent links: the same hash at height `h` means the same chain below `h`. -/
theorem C15_same_hash_same_below (a b : BlockId) (h k : Nat) (hk : k ≤ h) (ha : h ≤ a.length) (hb : h ≤ b.length)
    (e : ancestorAt a h = ancestorAt b h) : ancestorAt a k = ancestorAt b k :=
  same_hash_same_below a b h k hk ha hb e

/-- After any valid evolution the synced-to stamp (height, hash, time) is the backend's tip. -/
theorem C15_tip (cfg : Cfg) (hW : 1 ≤ cfg.W) {w : Wallet} {tip : BlockId} {lo : Nat} {steps : List Step}
    {tip' : BlockId} {lo' : Nat} (hI : Inv cfg w tip lo) (hr : ValidRun cfg.W tip lo steps tip' lo') :
    (evolve cfg (w, tip) steps).2 = tip' ∧ (evolve cfg (w, tip) steps).1.syncedTo = stampOf cfg.C tip' :=
  let ⟨h, e, _⟩ := run_preserves_inv hW hI hr
  ⟨e, h.tipEq⟩

/-- Every remembered hash at a height ≤ tip is the best chain's; the heights in `(maxTip − W, tip]` at or above the
    initial `lo` are remembered, where `maxTip` is the highest tip the evolution reached (pruning at `height − W` is
    not undone by a reorg). -/
theorem C15_hashes (cfg : Cfg) (hW : 1 ≤ cfg.W) {w : Wallet} {tip : BlockId} {lo : Nat} {steps : List Step}
    {tip' : BlockId} {lo' : Nat} (hI : Inv cfg w tip lo) (hr : ValidRun cfg.W tip lo steps tip' lo') :
    let w' := (evolve cfg (w, tip) steps).1
    (∀ h x, h ≤ tip'.length → w'.hashes h = some x → x = some (ancestorAt tip' h)) ∧
    (∀ h, lo ≤ h → maxTip tip steps + 1 - cfg.W ≤ h → h ≤ tip'.length → w'.hashes h = some (some (ancestorAt tip' h))) :=
  ⟨(run_preserves_inv hW hI hr).1.correct, fun h h1 => remembered_range hW hI hr h (Or.inl h1)⟩

/-- No transaction is recorded as confirmed in a block that is not on the best chain. -/
theorem C15_no_offchain_tx (cfg : Cfg) (hW : 1 ≤ cfg.W) {w : Wallet} {tip : BlockId} {lo : Nat} {steps : List Step}
    {tip' : BlockId} {lo' : Nat} (hI : Inv cfg w tip lo) (hr : ValidRun cfg.W tip lo steps tip' lo') :
    ∀ r ∈ (evolve cfg (w, tip) steps).1.mined, r.height ≤ tip'.length ∧ r.hash = some (ancestorAt tip' r.height) :=
  (run_preserves_inv hW hI hr).1.mined

/-- A disconnect for a block that is not on the best chain (stale, or a repeat of one already processed), and a
    repeated connect of the tip, leave the wallet in sync; the former does not change the state at all. -/
theorem C15_stale_and_repeated_disconnects_are_noops (cfg : Cfg) (hW : 1 ≤ cfg.W) {w : Wallet} {tip : BlockId} {lo : Nat}
    (hI : Inv cfg w tip lo) :
    (∀ b : BlockId, ancestorAt tip b.length ≠ b → handle cfg w (.disconnected (stampOf cfg.C b)) = w) ∧
    Inv cfg (handle cfg w (.connected (stampOf cfg.C tip))) tip lo :=
  ⟨fun b hb => stale_disconnect_noop hI b hb, dup_connect hI⟩

/-- Start-up, total outcome: the rollback transaction fails and writes nothing, or the wallet ends at the last block
    its chain has in common with the backend's, with the transaction store rolled back to it. -/
theorem C15_startup (cfg : Cfg) {w : Wallet} {old : BlockId} {lo : Nat} (hS : StoppedInv cfg w old lo) (tip : BlockId) :
    (∃ e, startupRollback cfg w tip = .error e) ∨
    (∃ w' c, startupRollback cfg w tip = .ok w' ∧ IsLastCommon old tip c ∧
        w'.syncedTo = stampOf cfg.C (ancestorAt tip c) ∧
        w'.mined = rollbackMined w.mined (c + 1) ∧
        w'.unmined = (if c < old.length then rollbackUnmined w.mined w.unmined (c + 1) else w.unmined) ∧
        (∀ h x, h ≤ c → w'.hashes h = some x → x = some (ancestorAt tip h)) ∧
        (∀ h, lo ≤ h → h ≤ c → w'.hashes h = some (some (ancestorAt tip h))) ∧
        MinedOn w' tip) := by
  rcases startupRollback_total hS tip with ⟨e, he, _⟩ | ⟨w', c, he, hcm, _, hI, hm, hu, _⟩
  · exact Or.inl ⟨e, he⟩
  · obtain ⟨_, hr, hc⟩ := hI.on_tip hcm.2.1
    exact Or.inr ⟨w', c, he, hcm, hI.tipEq, hm, hu, hc,
      fun h h1 h2 => hr h (Nat.le_trans (Nat.min_le_left ..) h1) h2, hS.mined.rollback hcm.1 hcm.2.1 hcm.2.2.1 hm⟩

/-- The loop itself succeeds whenever the backend is at least as high as the wallet's tip and the common block is
    within the remembered range. -/
theorem C15_startup_loop_succeeds (C : Content) (w : Wallet) (old tip : BlockId) (lo c : Nat)
    (hrem : ∀ h, lo ≤ h → h ≤ old.length → w.hashes h = some (some (ancestorAt old h)))
    (hlen : old.length ≤ tip.length) (hcm : IsLastCommon old tip c) (hlo : lo ≤ c) :
    ∃ res, rollbackLoop C w tip old.length false = .ok res :=
  rollbackLoop_succeeds hrem hlen hcm hlo old.length false hcm.1 (Nat.le_refl _)

/-! Non-vacuity: the genesis wallet satisfies the invariant; a concrete evolution with a depth-2 reorg over a block
    holding a wallet transaction is a `ValidRun` (`steps1_valid`, Lemmas/SyncTipEvolve.lean) and the theorems apply to it. -/
example : Inv cfg1 (genesisWallet cfg1.C) [] 0 := inv_genesis cfg1 (by decide)
example : (evolve cfg1 (genesisWallet C1, []) steps1).1.syncedTo = stampOf C1 [4, 3] :=
  (C15_tip cfg1 (by decide) (inv_genesis cfg1 (by decide)) steps1_valid).2
/-- start-up after an offline depth-2 reorg: the wallet (in sync with [2,1]) rolls back to genesis against [5,4,3] -/
example : ∃ w', startupRollback cfg0 (evolve cfg0 (genesisWallet C0, []) [.extend 1 .after, .extend 2 .after]).1 [5, 4, 3] = .ok w' ∧
    w'.syncedTo = stampOf C0 [] := by
  refine ⟨_, rfl, ?_⟩
  decide

/-! ### Start-up composed with evolution

`startup` = the whole `syncWithChain` of a reopened wallet (rollback loop → `recovery` when `recW > 0`, in batches of
`batch` blocks → rescan → `RescanFinished`/`catchUpHashes`).  Quantification: every stopped wallet (`StoppedInv`:
what `Inv` leaves when the wallet is stopped), every backend chain `tip` (offline extension, offline reorg of any
depth, wallet transactions in stale blocks = arbitrary `Content`), every `recW`, `batch`, `W ≥ 1`. -/

/-- Total outcome of start-up: the rollback transaction fails, nothing is written and `syncWithChain` reports an
    error (the wallet retries), or start-up succeeds and the wallet is in sync with the backend's chain — `Inv`, the
    hypothesis of `C15_tip` / `C15_hashes` / `C15_no_offchain_tx`. -/
theorem C15_startup_total (cfg : Cfg) (hW : 1 ≤ cfg.W) {w : Wallet} {old : BlockId} {lo : Nat}
    (hS : StoppedInv cfg w old lo) (tip : BlockId) (recW batch : Nat) :
    ((∃ e, startupRollback cfg { w with chainSynced := false } tip = .error e) ∧
      startup cfg recW batch w tip = ({ w with chainSynced := false }, false)) ∨
    (∃ w' c, startup cfg recW batch w tip = (w', true) ∧
      (∃ w1, startupRollback cfg { w with chainSynced := false } tip = .ok w1) ∧
      IsLastCommon old tip c ∧ old.length ≤ tip.length ∧ Inv cfg w' tip (startupLo cfg.W lo c tip.length)) := by
  rcases resync_total hW hS.unsynced tip recW batch with ⟨he, hr⟩ | ⟨w1, c, hr, hw, hcm, hlen, hI⟩
  · exact Or.inl ⟨he, by rw [startup, startupDuring_eq_resync, hr]; rfl⟩
  · exact Or.inr ⟨_, c, by rw [startup, startupDuring_eq_resync, hr]; rfl, hw, hcm, hlen, hI⟩

/-- **A successful start-up establishes the invariant.**  `c` is the height of the last block the wallet's old chain
    has in common with the backend's; the remembered range afterwards starts at
    `lo' = startupLo W lo c |tip|`, with `min lo c ≤ lo' ≤ max (min lo c) (|tip| + 1 − W)`: what was remembered at or
    below the common block stays remembered unless the catch-up prunes it (`height − W`). -/
theorem C15_startup_establishes_inv (cfg : Cfg) (hW : 1 ≤ cfg.W) {w : Wallet} {old : BlockId} {lo : Nat}
    (hS : StoppedInv cfg w old lo) (tip : BlockId) (recW batch : Nat) {w' : Wallet}
    (hok : startup cfg recW batch w tip = (w', true)) :
    ∃ c, IsLastCommon old tip c ∧ old.length ≤ tip.length ∧ Inv cfg w' tip (startupLo cfg.W lo c tip.length) ∧
      min lo c ≤ startupLo cfg.W lo c tip.length ∧
      startupLo cfg.W lo c tip.length ≤ max (min lo c) (tip.length + 1 - cfg.W) := by
  rcases C15_startup_total cfg hW hS tip recW batch with ⟨_, h⟩ | ⟨w2, c, h, _, h1, h2, h3⟩
  · cases h.symm.trans hok
  · cases h.symm.trans hok
    exact ⟨c, h1, h2, h3, (loAfterN_bounds ..).1, (startupLo_le _ _ _ _ h1.2.1).elim
      (fun h => Nat.le_trans h (Nat.le_max_left ..))
      (fun h => Nat.le_trans (Nat.le_sub_of_add_le h) (Nat.le_max_right ..))⟩

/-- **When start-up succeeds** (so the composed theorems are not vacuous): the backend is at least as high as the
    wallet's tip, the last common block is within the remembered range, and — when blocks have to be rolled back —
    the block below it is remembered too or it is the genesis block (the same condition `ValidStep` puts on an
    online reorg).  Any recovery window, any batch size. -/
theorem C15_startup_succeeds (cfg : Cfg) (hW : 1 ≤ cfg.W) {w : Wallet} {old : BlockId} {lo : Nat}
    (hS : StoppedInv cfg w old lo) (tip : BlockId) (recW batch : Nat) (c : Nat)
    (hlen : old.length ≤ tip.length) (hcm : IsLastCommon old tip c) (hlo : lo ≤ c)
    (hpred : c = old.length ∨ c = 0 ∨ lo + 1 ≤ c) :
    ∃ w', startup cfg recW batch w tip = (w', true) ∧ Inv cfg w' tip (startupLo cfg.W lo c tip.length) := by
  obtain ⟨w1, h1⟩ := startupRollback_succeeds hS.unsynced tip c hlen hcm hlo hpred
  rcases C15_startup_total cfg hW hS tip recW batch with ⟨⟨e, he⟩, _⟩ | ⟨w', c', h, _, hc', _, hI⟩
  · cases h1.symm.trans he
  · cases isLastCommon_unique hc' hcm
    exact ⟨w', h, hI⟩

/-- … and it fails (without writing anything) when the backend is lower than the wallet's tip. -/
theorem C15_startup_fails_below_tip (cfg : Cfg) (hW : 1 ≤ cfg.W) {w : Wallet} {old : BlockId} {lo : Nat}
    (hS : StoppedInv cfg w old lo) (tip : BlockId) (recW batch : Nat) (hlen : tip.length < old.length) :
    startup cfg recW batch w tip = ({ w with chainSynced := false }, false) := by
  rcases C15_startup_total cfg hW hS tip recW batch with ⟨_, h⟩ | ⟨_, _, _, _, _, h, _⟩
  · exact h
  · omega

/-- Start-up against ANY backend chain followed by ANY valid evolution: the synced-to stamp is the backend's tip. -/
theorem C15_startup_then_evolve_tip (cfg : Cfg) (hW : 1 ≤ cfg.W) {w : Wallet} {old : BlockId} {lo : Nat}
    (hS : StoppedInv cfg w old lo) (tip : BlockId) (recW batch : Nat) {w' : Wallet}
    (hok : startup cfg recW batch w tip = (w', true)) {steps : List Step} {tip' : BlockId} {lo' : Nat}
    (hr : ∀ c, IsLastCommon old tip c → ValidRun cfg.W tip (startupLo cfg.W lo c tip.length) steps tip' lo') :
    (evolve cfg (w', tip) steps).2 = tip' ∧ (evolve cfg (w', tip) steps).1.syncedTo = stampOf cfg.C tip' := by
  obtain ⟨c, hc, _, hI, _⟩ := C15_startup_establishes_inv cfg hW hS tip recW batch hok
  exact C15_tip cfg hW hI (hr c hc)

/-- … every remembered hash at a height ≤ tip is the best chain's, and every height that is ≥ `min lo c` (remembered
    before the stop and not above the common block) and within `W` of the highest tip ever reached is remembered. -/
theorem C15_startup_then_evolve_hashes (cfg : Cfg) (hW : 1 ≤ cfg.W) {w : Wallet} {old : BlockId} {lo : Nat}
    (hS : StoppedInv cfg w old lo) (tip : BlockId) (recW batch : Nat) {w' : Wallet}
    (hok : startup cfg recW batch w tip = (w', true)) {steps : List Step} {tip' : BlockId} {lo' : Nat}
    (hr : ∀ c, IsLastCommon old tip c → ValidRun cfg.W tip (startupLo cfg.W lo c tip.length) steps tip' lo') :
    let wf := (evolve cfg (w', tip) steps).1
    (∀ h x, h ≤ tip'.length → wf.hashes h = some x → x = some (ancestorAt tip' h)) ∧
    (∀ c, IsLastCommon old tip c → ∀ h, min lo c ≤ h → maxTip tip steps + 1 - cfg.W ≤ h → h ≤ tip'.length →
      wf.hashes h = some (some (ancestorAt tip' h))) := by
  obtain ⟨c, hc, _, hI, _⟩ := C15_startup_establishes_inv cfg hW hS tip recW batch hok
  refine ⟨(run_preserves_inv hW hI (hr c hc)).1.correct, ?_⟩
  intro c' hc' h g1
  cases isLastCommon_unique hc' hc
  refine remembered_range hW hI (hr c hc) h ((startupLo_le _ _ _ _ hc.2.1).imp (Nat.le_trans · g1) ?_)
  exact (Nat.le_trans · (Nat.succ_le_succ (maxTip_ge tip steps)))

/-- … and no transaction is recorded as confirmed in a block that is not on the best chain (in particular none of the
    wallet transactions of the blocks that went stale while the wallet was stopped). -/
theorem C15_startup_then_evolve_no_offchain_tx (cfg : Cfg) (hW : 1 ≤ cfg.W) {w : Wallet} {old : BlockId} {lo : Nat}
    (hS : StoppedInv cfg w old lo) (tip : BlockId) (recW batch : Nat) {w' : Wallet}
    (hok : startup cfg recW batch w tip = (w', true)) {steps : List Step} {tip' : BlockId} {lo' : Nat}
    (hr : ∀ c, IsLastCommon old tip c → ValidRun cfg.W tip (startupLo cfg.W lo c tip.length) steps tip' lo') :
    ∀ r ∈ (evolve cfg (w', tip) steps).1.mined, r.height ≤ tip'.length ∧ r.hash = some (ancestorAt tip' r.height) := by
  obtain ⟨c, hc, _, hI, _⟩ := C15_startup_establishes_inv cfg hW hS tip recW batch hok
  exact C15_no_offchain_tx cfg hW hI (hr c hc)

/-- The cycle closes: a wallet in sync can be stopped (`Inv.stopped`), restarted against any chain, evolve, be stopped
    again, … — every successful start-up re-establishes `Inv`. -/
theorem C15_stop_start_cycle (cfg : Cfg) (hW : 1 ≤ cfg.W) {w : Wallet} {old : BlockId} {lo : Nat}
    (hI : Inv cfg w old lo) (tip : BlockId) (recW batch : Nat) {w' : Wallet}
    (hok : startup cfg recW batch w tip = (w', true)) : ∃ lo', Inv cfg w' tip lo' := by
  obtain ⟨c, _, _, h, _⟩ := C15_startup_establishes_inv cfg hW hI.stopped tip recW batch hok
  exact ⟨_, h⟩

/-! Non-vacuity of the composition: the wallet is in sync with `[2,1]` (wallet transaction 7 confirmed in block
    `[2,1]`), is stopped, the backend reorganises to `[5,4,1]` (depth 1; transaction 7 is mined again in `[4,1]`),
    start-up with and without a recovery window, then one more online reorg. -/
def C2 : Content := ⟨fun b => b.length, fun b => if b = [2, 1] ∨ b = [4, 1] then [⟨7, false⟩] else []⟩
def cfg2 : Cfg := ⟨10000, C2⟩
def steps2 : List Step := [.extend 1 .after, .extend 2 .after]
def wOld2 : Wallet := (evolve cfg2 (genesisWallet C2, []) steps2).1

theorem steps2_valid : ValidRun 10000 [] 0 steps2 [2, 1] 0 := .cons trivial (.cons trivial (.nil _ _))

theorem wOld2_inv : Inv cfg2 wOld2 [2, 1] 0 :=
  (run_preserves_inv (by decide) (inv_genesis cfg2 (by decide)) steps2_valid).1

example : wOld2.mined = [⟨⟨7, false⟩, 2, some [2, 1]⟩] := by decide
theorem lastCommon2 : IsLastCommon [2, 1] [5, 4, 1] 1 := by
  refine ⟨by decide, by decide, by decide, ?_⟩
  intro h h1 h2 _
  cases Nat.le_antisymm h2 h1
  decide

example : IsLastCommon [2, 1] [5, 4, 1] 1 := lastCommon2
/-- recW = 0: the stale record is rolled back and the rescan records the transaction in its new block -/
example : (startup cfg2 0 2000 wOld2 [5, 4, 1]).2 = true ∧
    (startup cfg2 0 2000 wOld2 [5, 4, 1]).1.mined = [⟨⟨7, false⟩, 2, some [4, 1]⟩] ∧
    (startup cfg2 0 2000 wOld2 [5, 4, 1]).1.syncedTo = stampOf C2 [5, 4, 1] := by decide
/-- recW > 0, batch size 1 (two recovery batches) -/
example : (startup cfg2 3 1 wOld2 [5, 4, 1]).2 = true ∧
    (startup cfg2 3 1 wOld2 [5, 4, 1]).1.mined = [⟨⟨7, false⟩, 2, some [4, 1]⟩] ∧
    (startup cfg2 3 1 wOld2 [5, 4, 1]).1.syncedTo = stampOf C2 [5, 4, 1] := by decide
/-- the theorems apply to both: -/
example : ∃ lo', Inv cfg2 (startup cfg2 0 2000 wOld2 [5, 4, 1]).1 [5, 4, 1] lo' :=
  C15_stop_start_cycle cfg2 (by decide) wOld2_inv [5, 4, 1] 0 2000 (Prod.ext rfl (by decide))
example : ∃ lo', Inv cfg2 (startup cfg2 3 1 wOld2 [5, 4, 1]).1 [5, 4, 1] lo' :=
  C15_stop_start_cycle cfg2 (by decide) wOld2_inv [5, 4, 1] 3 1 (Prod.ext rfl (by decide))
/-- the success criterion applies (c = 1, lo = 0, genesis below the common block) -/
example : ∃ w', startup cfg2 3 1 wOld2 [5, 4, 1] = (w', true) ∧ Inv cfg2 w' [5, 4, 1] (startupLo 10000 0 1 3) :=
  C15_startup_succeeds cfg2 (by decide) wOld2_inv.stopped [5, 4, 1] 3 1 1 (by decide) lastCommon2 (by decide)
    (Or.inr (Or.inr (by decide)))
/-- start-up, then an online depth-2 reorg: the composed theorem gives the final tip -/
example : (evolve cfg2 ((startup cfg2 3 1 wOld2 [5, 4, 1]).1, [5, 4, 1]) [.reorg 2 [6, 7, 8] .before]).1.syncedTo
    = stampOf C2 [8, 7, 6, 1] :=
  (C15_startup_then_evolve_tip cfg2 (by decide) wOld2_inv.stopped [5, 4, 1] 3 1 (Prod.ext rfl (by decide))
    (lo' := 0) (fun c hc => by
      cases isLastCommon_unique hc lastCommon2
      exact .cons ⟨by decide, by decide⟩ (.nil _ _))).2

/-- **Blocks arriving while the start-up rescan is in flight** (`startupDuring`, `during` ≠ []), the case C15 speaks
    about: nothing to catch up (the backend's chain at the time of the rescan request is the wallet's own), any number
    of blocks `br` connected before `RescanFinished` is processed, any notification order: start-up succeeds and the
    wallet is in sync with the extended chain.  Recovery is off here (`recW = 0`, so `batch` is not read).
    (`during = []` for ANY backend chain is `C15_startup_establishes_inv`.) -/
theorem C15_startup_blocks_during_rescan (cfg : Cfg) (hW : 1 ≤ cfg.W) {w : Wallet} {old : BlockId} {lo : Nat}
    (hS : StoppedInv cfg w old lo) (batch : Nat) (m : TxMode) (br : List Nat) :
    ∃ w', startupDuring cfg 0 batch w old (connectBranch cfg.C m old br) = (w', true) ∧
      Inv cfg w' (br.reverse ++ old) (loAfterN cfg.W lo old.length br.length) := by
  obtain ⟨h1, _⟩ := connectBranch_stopped hW m br hS.unsynced
  refine ⟨_, by rw [startupDuring_eq_resync, resync_same hS.unsynced], ?_⟩
  rw [process_append]
  show Inv cfg (handle cfg _ (.rescanFinished old old.length)) _ _
  rw [rescanFinished_stopped h1 old old.length (Or.inl (by rw [List.length_append]; omega))]
  exact ((h1.catch.setSynced true).stopped h1.mined).inv rfl

/-- With something to catch up, a block that arrives during the rescan is lost until the next notification: the
    wallet (at `[1]`) restarts against `[2,1]`, block `[3,2,1]` is connected before `RescanFinished(height 2)`;
    `connectBlock` fails (height 2 not yet remembered), `catchUpHashes` stops at height 2.  This is the race the TODO
    in `catchUpHashes` documents; DESIGN §6 C15 puts it outside the property (explored by the engine, not flagged). -/
example : (startupDuring cfg0 0 2000 (evolve cfg0 (genesisWallet C0, []) [.extend 1 .after]).1 [2, 1]
      (connectNtfns C0 .after [3, 2, 1])).1.syncedTo = stampOf C0 [2, 1] := by decide

/-! ### The wallet's own notification stream (`wallet.NtfnServer`, `TransactionNotifications`)

`evolveN` runs the evolution with the modelled `NotificationServer` (`NSrv`: `currentTxNtfn` + what was delivered to
the registered client) next to the wallet; `runEvents` are the `notifyAttachedBlock` / `notifyDetachedBlock` calls
`connectBlock` / `disconnectBlock` make on the way (`blockEvents`); `replayEv` is a client applying them: attached
= the tip again or a child of the tip (push), detached = the current tip (pop) or a block that is not on the chain
(ignored); anything else fails the replay. -/

/-- **The notifications follow the backend.**  Over any valid evolution from a wallet in sync:
    (1) the server does not influence the wallet (`evolveN` projects onto `evolve`);
    (2) replaying the attach/detach calls on the initial tip yields the final tip — in particular every detached block
        that is on the client's chain is its then-current tip, every attached block is a child of the then-current tip
        or the tip again;
    (3) the detached hashes the server delivered or holds pending are exactly the `notifyDetachedBlock` calls, in
        order (coalescing drops, duplicates, reorders nothing). -/
theorem C15_notifications_follow_backend (cfg : Cfg) (hW : 1 ≤ cfg.W) {w : Wallet} {tip : BlockId} {lo : Nat}
    {steps : List Step} {tip' : BlockId} {lo' : Nat} (hI : Inv cfg w tip lo)
    (hr : ValidRun cfg.W tip lo steps tip' lo') (s : NSrv) :
    ((evolveN cfg ((w, s), tip) steps).1.1, (evolveN cfg ((w, s), tip) steps).2) = evolve cfg (w, tip) steps ∧
    replayEv tip (runEvents cfg (w, tip) steps) = some tip' ∧
    (evolveN cfg ((w, s), tip) steps).1.2.allDetached = s.allDetached ++ detachedOf (runEvents cfg (w, tip) steps) := by
  refine ⟨evolveN_proj cfg steps (w, s) tip, ?_, evolveN_detached cfg steps (w, s) tip⟩
  have := (run_preserves_inv hW hI hr).2.2 []
  simpa [replayEv] using this

/-- What exactly the code emits for the notifications that do not move the tip: a disconnect for a block that is not on
    the best chain makes no call (no hash remembered at its height ⇒ the handler errors) or one `detached` call for
    that block — which a client ignores because the block is not on its chain; a repeated connect of the tip makes no
    call (predecessor not remembered) or one `attached(tip)` call; transaction notifications make none. -/
theorem C15_notifications_stale_and_repeated (cfg : Cfg) (w : Wallet) (tip : BlockId) :
    (∀ b : BlockId, ancestorAt tip b.length ≠ b →
      (blockEvents cfg w (.disconnected (stampOf cfg.C b)) = [] ∨
       blockEvents cfg w (.disconnected (stampOf cfg.C b)) = [.detached (some b)]) ∧
      ∀ rest, replayEv tip (blockEvents cfg w (.disconnected (stampOf cfg.C b)) ++ rest) = replayEv tip rest) ∧
    ((blockEvents cfg w (.connected (stampOf cfg.C tip)) = [] ∨
      blockEvents cfg w (.connected (stampOf cfg.C tip)) = [.attached (stampOf cfg.C tip)]) ∧
      ∀ rest, replayEv tip (blockEvents cfg w (.connected (stampOf cfg.C tip)) ++ rest) = replayEv tip rest) ∧
    (∀ t blk, blockEvents cfg w (.relevantTx t blk) = []) ∧ (∀ b ts, blockEvents cfg w (.filtered b ts) = []) := by
  exact ⟨fun b hb => ⟨blockEvents_disconnected .., replay_stale tip b hb⟩,
    ⟨blockEvents_connected .., replay_dupConnect tip⟩, fun _ _ => rfl, fun _ _ => rfl⟩

/-- Delivery: a `notifyAttachedBlock(b)` call leaves `b` as the last attached block of the notification it delivers —
    or of the pending one, held back exactly while the wallet is chain-synced and the notification does not hold more
    attached than detached blocks. -/
theorem C15_notifications_attached_delivery (synced : Bool) (s : NSrv) (b : Stamp) :
    (∃ n e, (notifyAttached synced s b).cur = some n ∧ (notifyAttached synced s b).sent = s.sent ∧
      n.attached.getLast? = some e ∧ e.hash = b.hash ∧ synced = true ∧ n.attached.length ≤ n.detached.length) ∨
    (∃ n e, (notifyAttached synced s b).cur = none ∧ (notifyAttached synced s b).sent = s.sent ++ [n] ∧
      n.attached.getLast? = some e ∧ e.hash = b.hash ∧ (synced = false ∨ n.detached.length < n.attached.length)) := by
  obtain ⟨e, he1, he2⟩ := attachEntry_last s.curD b
  simp only [notifyAttached]
  split
  · rename_i hc
    simp only [Bool.and_eq_true, decide_eq_true_eq] at hc
    exact Or.inl ⟨_, e, rfl, rfl, he1, he2, hc.1, hc.2⟩
  · rename_i hc
    simp only [Bool.and_eq_true, decide_eq_true_eq, not_and] at hc
    refine Or.inr ⟨_, e, rfl, rfl, he1, he2, ?_⟩
    cases synced with
    | false => exact Or.inl rfl
    | true => right; have := hc rfl; omega

/-- The start-up with the server computes the same wallet as the plain start-up model. -/
theorem C15_notifications_startup_proj (cfg : Cfg) (recW batch : Nat) (w : Wallet) (tip : BlockId) (during : List Ntfn) :
    ((startupDuringN cfg recW batch w tip during).1.1, (startupDuringN cfg recW batch w tip during).2)
      = startupDuring cfg recW batch w tip during := by
  simp only [startupDuringN, startupDuring]
  cases startupRollback cfg { w with chainSynced := false } tip with
  | error _ => rfl
  | ok w1 =>
    -- stated before it is used: against the goal, `exact` looks for `F` by unification first, at great length
    have h := syncTailN_proj cfg recW batch tip (w1, {}) fun h =>
      rescanTxNtfns cfg.C tip h ++ during ++ [Ntfn.rescanFinished tip tip.length]
    exact h

/-! Non-vacuity: the depth-2 reorg of `steps1` (wallet transaction 7 in block `[1]`, BlockConnected-before-RelevantTx
    order).  Calls: attach `[1]`, attach `[2,1]`, detach `[2,1]`, detach `[1]`, attach `[3]`, attach `[4,3]`.  The
    server delivered two notifications (the second one repeats block `[1]`, now with its transaction) and holds the
    reorg pending: 2 attached blocks are not more than 2 detached ones. -/
example : runEvents cfg1 (genesisWallet C1, []) steps1 =
    [.attached (stampOf C1 [1]), .attached (stampOf C1 [2, 1]), .detached (some [2, 1]), .detached (some [1]),
     .attached (stampOf C1 [3]), .attached (stampOf C1 [4, 3])] := by decide
example : replayEv [] (runEvents cfg1 (genesisWallet C1, []) steps1) = some [4, 3] :=
  (C15_notifications_follow_backend cfg1 (by decide) (inv_genesis cfg1 (by decide)) steps1_valid {}).2.1
example : (evolveN cfg1 ((genesisWallet C1, {}), []) steps1).1.2.sent =
      [{ attached := [⟨1, some [1], []⟩] }, { attached := [⟨1, some [1], [7]⟩, ⟨2, some [2, 1], []⟩] }] ∧
    (evolveN cfg1 ((genesisWallet C1, {}), []) steps1).1.2.cur =
      some { attached := [⟨1, some [3], []⟩, ⟨2, some [4, 3], []⟩], detached := [some [2, 1], some [1]] } := by decide
/-- one more block and the reorg is delivered in one notification -/
example : (evolveN cfg1 ((genesisWallet C1, {}), []) (steps1 ++ [.extend 5 .filtered])).1.2.sent.getLast? =
      some { attached := [⟨1, some [3], []⟩, ⟨2, some [4, 3], []⟩, ⟨3, some [5, 4, 3], []⟩],
             detached := [some [2, 1], some [1]] } := by decide

/-! ### Rescans on a running wallet: backend reconnects and key imports

A second `chain.ClientConnected` runs `syncWithChain` again on the running wallet (`resync`); `ImportPrivateKey(…,
rescan = true)` submits a rescan without touching the chain state.  In both cases the wallet stays chain-synced, the
backend answers with `RescanFinished` some time later (`rescanInFlight`), and block notifications keep arriving in
between.  Quantification: every wallet in sync (`Inv`), every valid evolution before and after `RescanFinished`, every
height/chain the `RescanFinished` may carry (see the hypothesis), every recovery window and batch size. -/

/-- `RescanFinished` on a wallet in sync changes nothing (it only re-asserts `chainSynced`). -/
theorem C15_rescan_finished_in_sync_noop (cfg : Cfg) {w : Wallet} {tip : BlockId} {lo : Nat} (hI : Inv cfg w tip lo)
    (now : BlockId) (n : Nat) (h : n ≤ tip.length ∨ now.length ≤ tip.length) :
    handle cfg w (.rescanFinished now n) = w :=
  (rescanFinished_stopped hI.stopped now n h).trans (setSynced_of_synced w hI.synced)

/-- **A rescan in flight does not disturb the tip tracking.**  Whatever valid evolution `s1` the backend goes through
    between the rescan request and `RescanFinished`, and `s2` afterwards, the wallet ends exactly where the evolution
    `s1 ++ s2` alone would have left it — in sync with the backend's final chain (`Inv`: synced-to stamp = tip, remembered
    hashes = best chain, no transaction confirmed in a block off the best chain).  Hypothesis on what `RescanFinished`
    carries: the wallet is by then at least as high as the chain the rescan was requested for (any `s1` that does not end
    lower), or the backend's chain at that moment is not higher than the wallet's. -/
theorem C15_rescan_in_flight (cfg : Cfg) (hW : 1 ≤ cfg.W) {w : Wallet} {tip : BlockId} {lo : Nat} {s1 : List Step}
    {tip1 : BlockId} {lo1 : Nat} {s2 : List Step} {tip2 : BlockId} {lo2 : Nat} (hI : Inv cfg w tip lo)
    (h1 : ValidRun cfg.W tip lo s1 tip1 lo1) (h2 : ValidRun cfg.W tip1 lo1 s2 tip2 lo2) (atCall now : BlockId)
    (hnow : atCall.length ≤ tip1.length ∨ now.length ≤ tip1.length) :
    rescanInFlight cfg w atCall now (runNtfns cfg.C tip s1) (runNtfns cfg.C tip1 s2) = (evolve cfg (w, tip) (s1 ++ s2)).1 ∧
    Inv cfg (rescanInFlight cfg w atCall now (runNtfns cfg.C tip s1) (runNtfns cfg.C tip1 s2)) tip2 lo2 := by
  have e : rescanInFlight cfg w atCall now (runNtfns cfg.C tip s1) (runNtfns cfg.C tip1 s2)
      = (evolve cfg (w, tip) (s1 ++ s2)).1 := by
    obtain ⟨hI1, ht1, _⟩ := run_preserves_inv hW hI h1
    rw [evolve_eq] at hI1
    rw [evolve_append, show evolve cfg (w, tip) s1 = (process cfg w (runNtfns cfg.C tip s1), tip1) from
      Prod.ext (evolve_eq ..) ht1, evolve_eq]
    simp only [rescanInFlight, process_append]
    rw [show process cfg (process cfg w (runNtfns cfg.C tip s1)) [.rescanFinished now atCall.length]
        = process cfg w (runNtfns cfg.C tip s1) from C15_rescan_finished_in_sync_noop cfg hI1 now atCall.length hnow]
  exact ⟨e, e ▸ (run_preserves_inv hW hI (h1.append h2)).1⟩

/-- A reconnect of a wallet in sync with the backend's chain changes nothing: the rollback loop stops at the tip,
    recovery has nothing to scan, the rescan from the tip reports no transaction.  Together with
    `C15_rescan_in_flight` (`atCall = tip`): a reorg delivered between the reconnect and its `RescanFinished` is
    followed like any other. -/
theorem C15_reconnect_in_sync (cfg : Cfg) {w : Wallet} {tip : BlockId} {lo : Nat} (hI : Inv cfg w tip lo)
    (recW batch : Nat) : resync cfg recW batch w tip = (w, true) :=
  resync_same hI.stopped recW batch

/-- Reconnect, any valid evolution while its rescan is in flight, `RescanFinished`, any valid evolution afterwards. -/
theorem C15_reconnect_then_reorg_during_rescan (cfg : Cfg) (hW : 1 ≤ cfg.W) {w : Wallet} {tip : BlockId} {lo : Nat}
    {s1 : List Step} {tip1 : BlockId} {lo1 : Nat} {s2 : List Step} {tip2 : BlockId} {lo2 : Nat} (hI : Inv cfg w tip lo)
    (recW batch : Nat) (h1 : ValidRun cfg.W tip lo s1 tip1 lo1) (h2 : ValidRun cfg.W tip1 lo1 s2 tip2 lo2)
    (now : BlockId) (hnow : tip.length ≤ tip1.length ∨ now.length ≤ tip1.length) :
    (resync cfg recW batch w tip).2 = true ∧
    Inv cfg (rescanInFlight cfg (resync cfg recW batch w tip).1 tip now (runNtfns cfg.C tip s1) (runNtfns cfg.C tip1 s2))
      tip2 lo2 := by
  rw [C15_reconnect_in_sync cfg hI recW batch]
  exact ⟨rfl, (C15_rescan_in_flight cfg hW hI h1 h2 tip now hnow).2⟩

/-- **Reconnect after an outage** (the backend moved to ANY chain `tip` while the connection was down): the rollback
    transaction fails and nothing is written (the handler stays in `waitForSync`), or `syncWithChain` reaches its rescan
    and `RescanFinished` leaves the wallet in sync with `tip` — the state `C15_tip` / `C15_hashes` /
    `C15_no_offchain_tx` / `C15_rescan_in_flight` start from. -/
theorem C15_reconnect_total (cfg : Cfg) (hW : 1 ≤ cfg.W) {w : Wallet} {old : BlockId} {lo : Nat}
    (hI : Inv cfg w old lo) (tip : BlockId) (recW batch : Nat) :
    ((∃ e, startupRollback cfg w tip = .error e) ∧ resync cfg recW batch w tip = (w, false)) ∨
    (∃ w1 c, resync cfg recW batch w tip = (w1, true) ∧ IsLastCommon old tip c ∧ old.length ≤ tip.length ∧
      Inv cfg (handle cfg w1 (.rescanFinished tip tip.length)) tip (startupLo cfg.W lo c tip.length)) := by
  rcases resync_total hW hI.stopped tip recW batch with h | ⟨w1, c, h, _, hc⟩
  · exact Or.inl h
  · exact Or.inr ⟨w1, c, h, hc⟩

/-- Start-up is the same `syncWithChain` on the freshly opened, not yet chain-synced wallet; and the version with the
    notification server computes the same wallet. -/
theorem C15_startup_is_resync (cfg : Cfg) (recW batch : Nat) (w : Wallet) (tip : BlockId) (during : List Ntfn) (s : NSrv) :
    startupDuring cfg recW batch w tip during =
      (if (resync cfg recW batch { w with chainSynced := false } tip).2
       then process cfg (resync cfg recW batch { w with chainSynced := false } tip).1
              (during ++ [.rescanFinished tip tip.length])
       else (resync cfg recW batch { w with chainSynced := false } tip).1,
       (resync cfg recW batch { w with chainSynced := false } tip).2) ∧
    ((resyncN cfg recW batch (w, s) tip).1.1, (resyncN cfg recW batch (w, s) tip).2) = resync cfg recW batch w tip :=
  ⟨startupDuring_eq_resync cfg recW batch w tip during, resyncN_proj cfg recW batch (w, s) tip⟩

/-! Non-vacuity, and the counter-example with `chainSynced` cleared for the window.  The wallet is in sync with `[2,1]`, wallet
    transaction 7 confirmed in block `[1]`; a rescan is requested (import from genesis, or a reconnect), the backend
    reorganises to `[4,3]` (depth 2), then `RescanFinished(height 2)`. -/
def wSync1 : Wallet := (evolve cfg1 (genesisWallet C1, []) [.extend 1 .after, .extend 2 .after]).1

theorem wSync1_inv : Inv cfg1 wSync1 [2, 1] 0 :=
  (run_preserves_inv (by decide) (inv_genesis cfg1 (by decide)) steps2_valid).1

theorem window1_valid : ValidRun 10000 [2, 1] 0 [.reorg 2 [3, 4] .after] [4, 3] 0 :=
  .cons ⟨by decide, by decide⟩ (.nil _ _)

example : wSync1.mined = [⟨⟨7, false⟩, 1, some [1]⟩] := by decide
/-- the code as it is: the reorg of the window is followed, transaction 7 is unconfirmed again -/
example :
    (rescanInFlight cfg1 wSync1 [2, 1] [4, 3] (runNtfns C1 [2, 1] [.reorg 2 [3, 4] .after]) []).syncedTo = stampOf C1 [4, 3] ∧
    (rescanInFlight cfg1 wSync1 [2, 1] [4, 3] (runNtfns C1 [2, 1] [.reorg 2 [3, 4] .after]) []).mined = [] ∧
    (rescanInFlight cfg1 wSync1 [2, 1] [4, 3] (runNtfns C1 [2, 1] [.reorg 2 [3, 4] .after]) []).unmined = [⟨7, false⟩] := by
  decide
/-- … and the theorem applies to it -/
example : Inv cfg1 (rescanInFlight cfg1 wSync1 [2, 1] [4, 3] (runNtfns C1 [2, 1] [.reorg 2 [3, 4] .after]) (runNtfns C1 [4, 3] []))
    [4, 3] 0 :=
  (C15_rescan_in_flight cfg1 (by decide) wSync1_inv window1_valid (.nil _ _) [2, 1] [4, 3] (Or.inl (by decide))).2
/-- a wallet marked not chain-synced for the duration of the rescan (what the seeded changes C02-4, on the reconnect
    path, and C15-5, in `rescanRPCHandler`, do; /verif/seeded): both disconnects are dropped, the connects of the new branch move the tip, and after
    `RescanFinished` the wallet reports itself in sync with `[4,3]` while transaction 7 stays confirmed in the stale
    block `[1]` — for ever: the next start-up's rollback loop finds the tip hash equal to the backend's. -/
example :
    (rescanInFlight cfg1 { wSync1 with chainSynced := false } [2, 1] [4, 3] (runNtfns C1 [2, 1] [.reorg 2 [3, 4] .after]) []).syncedTo
      = stampOf C1 [4, 3] ∧
    (rescanInFlight cfg1 { wSync1 with chainSynced := false } [2, 1] [4, 3] (runNtfns C1 [2, 1] [.reorg 2 [3, 4] .after]) []).chainSynced
      = true ∧
    (rescanInFlight cfg1 { wSync1 with chainSynced := false } [2, 1] [4, 3] (runNtfns C1 [2, 1] [.reorg 2 [3, 4] .after]) []).mined
      = [⟨⟨7, false⟩, 1, some [1]⟩] ∧
    (startup cfg1 0 2000
      (rescanInFlight cfg1 { wSync1 with chainSynced := false } [2, 1] [4, 3] (runNtfns C1 [2, 1] [.reorg 2 [3, 4] .after]) [])
      [4, 3]).1.mined = [⟨⟨7, false⟩, 1, some [1]⟩] := by
  decide
/-- reconnect after an outage during which the backend reorganised `[2,1]` → `[5,4,1]`: rolled back to `[1]`, rescanned,
    caught up — with and without a recovery window -/
example : (handle cfg2 (resync cfg2 0 2000 wOld2 [5, 4, 1]).1 (.rescanFinished [5, 4, 1] 3)).syncedTo = stampOf C2 [5, 4, 1] ∧
    (handle cfg2 (resync cfg2 0 2000 wOld2 [5, 4, 1]).1 (.rescanFinished [5, 4, 1] 3)).mined = [⟨⟨7, false⟩, 2, some [4, 1]⟩] ∧
    (handle cfg2 (resync cfg2 3 1 wOld2 [5, 4, 1]).1 (.rescanFinished [5, 4, 1] 3)).mined = [⟨⟨7, false⟩, 2, some [4, 1]⟩] := by
  decide

end SyncTip
