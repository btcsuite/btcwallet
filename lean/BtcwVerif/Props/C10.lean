/-
C10 — A failed database write never leaves a half-applied or silently lost change.

Property theorems over the generic write-program model `FaultOps` (every operation program, every state, every
fault position) + the generated-fact obligations about `Gen/ErrSitesGen.lean` (the error handling of every call in
wtxmgr / waddrmgr through which a mutating walletdb primitive is reached, extracted from the current source).

Every extracted site propagates: `C10_generated_sites_propagate` / `C10_generated_table_propagates` hold of the table
as generated.  The `_partial` theorems allow one exception, the row of `waddrmgr.putAddrAccountIndex` (waddrmgr/db.go,
which before /repo 277cb7d returned `nil` when its `bucket.Put` failed), and are implied by the full ones.
`C10_putAddrAccountIndex_counterexample` is about a table with that row set to non-propagating: the operation
succeeds with a partial effect.
-/
import BtcwVerif.Lemmas.FaultOps
import BtcwVerif.Gen.ErrSitesGen
namespace FaultOps
variable {σ δ μ : Type}

/-- If every write site of the operation propagates its error then, for every state and every fault position,
the run is an error or it is identical (disk, memory, pending OnCommit callbacks, result) to the fault-free run. -/
theorem C10_fault_atomic (tbl : σ → Handling) (op : Prog σ δ μ)
    (hsites : ∀ s ∈ sitesOf op, tbl s = .propagated) (c : Cfg δ μ) (k : Nat) :
    (run tbl op c (some k)).2.2 = .err ∨
      ((run tbl op c (some k)).1 = (run tbl op c none).1 ∧
       (run tbl op c (some k)).2.2 = (run tbl op c none).2.2) :=
  (run_atomic tbl op hsites c).2 (some k)

/-- The same through `walletdb.Update`: error, or the committed state equals the fault-free one. -/
theorem C10_bracket_fault_atomic (tbl : σ → Handling) (op : Prog σ δ μ)
    (hsites : ∀ s ∈ sitesOf op, tbl s = .propagated) (s : St δ μ) (k : Nat) :
    (bracket tbl op s (some k)).2 = .err ∨ bracket tbl op s (some k) = bracket tbl op s none := by
  have h := (run_atomic tbl op hsites ⟨s.disk, s.mem, []⟩).2 (some k)
  rcases hk : run tbl op ⟨s.disk, s.mem, []⟩ (some k) with ⟨c, f, _ | _⟩
  · rcases hn : run tbl op ⟨s.disk, s.mem, []⟩ none with ⟨c0, f0, o0⟩
    rw [hk, hn] at h
    obtain ⟨rfl, rfl⟩ := h.resolve_left nofun
    exact .inr ((bracket_ok hk).trans (bracket_ok hn).symm)
  · exact .inl (by rw [bracket_err hk])

example : -- non-vacuity: a two-write operation whose sites propagate
    ∀ s ∈ sitesOf (Prog.seq (.write 0 (fun d => d ++ [1])) (.write 1 (fun d => d ++ [2])) : Prog Nat (List Nat) Unit),
      (fun _ => Handling.propagated) s = .propagated := by intro s _; rfl

/-- An operation that failed inside `walletdb.Update` leaves the disk as it was (this is the C11 assumption made
explicit in `bracket`), and - under the memory-after-disk discipline `noEagerBeforeWrite` - the manager memory as it
was; hence every query of disk and memory answers as before.  No hypothesis on the handling table. -/
theorem C10_rollback_restores (tbl : σ → Handling) (op : Prog σ δ μ) (s : St δ μ) (f : Option Nat)
    (hdisc : noEagerBeforeWrite op = true) (herr : (bracket tbl op s f).2 = .err) :
    (bracket tbl op s f).1 = s := by
  have hk := (run_mem tbl op).2.2 hdisc ⟨s.disk, s.mem, []⟩ f
  rcases hr : run tbl op ⟨s.disk, s.mem, []⟩ f with ⟨c, f', _ | _⟩
  · rw [bracket_ok hr] at herr; cases herr
  · rw [hr] at hk
    rw [bracket_err hr, show c.mem = s.mem from hk rfl]

theorem C10_rollback_queries {α : Type} (tbl : σ → Handling) (op : Prog σ δ μ) (s : St δ μ) (f : Option Nat)
    (hdisc : noEagerBeforeWrite op = true) (herr : (bracket tbl op s f).2 = .err) (q : St δ μ → α) :
    q (bracket tbl op s f).1 = q s := by
  rw [C10_rollback_restores tbl op s f hdisc herr]

/-- The disk part needs no discipline at all. -/
theorem C10_rollback_restores_disk (tbl : σ → Handling) (op : Prog σ δ μ) (s : St δ μ) (f : Option Nat)
    (herr : (bracket tbl op s f).2 = .err) : (bracket tbl op s f).1.disk = s.disk := by
  rcases hr : run tbl op ⟨s.disk, s.mem, []⟩ f with ⟨c, f', _ | _⟩
  · rw [bracket_ok hr] at herr; cases herr
  · rw [bracket_err hr]

/-- The discipline is necessary: an eager in-memory mutation followed by a write that fails leaves the memory
ahead of the rolled-back disk (shape of `loadAndCacheAddress` between two `putChainedAddress` in `nextAddresses`,
of `RenameAccount`'s cache update, ...). -/
theorem C10_eager_before_write_counterexample :
    let op : Prog Nat (List Nat) (List Nat) :=
      .seq (.write 0 (fun d => d ++ [1])) (.seq (.memEager (fun m => m ++ [1])) (.write 1 (fun d => d ++ [2])))
    noEagerBeforeWrite op = false ∧
    (bracket (fun _ => .propagated) op ⟨[], []⟩ (some 2)).2 = .err ∧
    (bracket (fun _ => .propagated) op ⟨[], []⟩ (some 2)).1.disk = [] ∧
    (bracket (fun _ => .propagated) op ⟨[], []⟩ (some 2)).1.mem = [1] := by
  decide

example : -- non-vacuity of the discipline: write, write, then deferred + eager memory update (nextAddresses shape)
    noEagerBeforeWrite (Prog.seq (.write 0 (fun d => d ++ [1]))
      (.seq (.write 1 (fun d => d ++ [2])) (.seq (.memOnCommit (fun m => m ++ [1])) (.memEager (fun m => m ++ [2])))) :
        Prog Nat (List Nat) (List Nat)) = true := by decide

/-- Shape of `ScopedKeyManager.nextAddresses` for `n` addresses: per address the row/index writes followed by the
eager `loadAndCacheAddress`, and at the end the OnCommit closure that advances the index (scoped_manager.go). -/
def nextAddressesShape (n : Nat) : Prog Nat (List Nat) (List Nat) :=
  .seq (.loop (fun _ _ => n)
          (.seq (.write 0 (fun d => d ++ [0])) (.seq (.write 1 (fun d => d ++ [1])) (.memEager (fun m => m ++ [7])))))
       (.memOnCommit (fun m => m ++ [9]))

/-- The real shape violates the discipline as soon as a loop iteration can follow another ... -/
example : noEagerBeforeWrite (nextAddressesShape 2) = false := by decide

/-- ... and the model exhibits the finding F-C10-3 (notes/C10.md): two addresses, the first write of the second address fails:
error, disk restored, the cache entry of the first address stays (memory `[7]`), the index is not advanced. -/
theorem C10_nextAddresses_shape_memory_ahead :
    (bracket (fun _ => .propagated) (nextAddressesShape 2) ⟨[], []⟩ (some 3)).2 = .err ∧
    (bracket (fun _ => .propagated) (nextAddressesShape 2) ⟨[], []⟩ (some 3)).1.disk = [] ∧
    (bracket (fun _ => .propagated) (nextAddressesShape 2) ⟨[], []⟩ (some 3)).1.mem = [7] ∧
    (bracket (fun _ => .propagated) (nextAddressesShape 2) ⟨[], []⟩ none).1.mem = [7, 7, 9] := by
  decide

/-- Fault atomicity still holds for it (loops and deferred steps are covered by the general theorem). -/
example (k : Nat) :
    (bracket (fun _ => .propagated) (nextAddressesShape 3) ⟨[], []⟩ (some k)).2 = .err ∨
    bracket (fun _ => .propagated) (nextAddressesShape 3) ⟨[], []⟩ (some k) =
      bracket (fun _ => .propagated) (nextAddressesShape 3) ⟨[], []⟩ none :=
  C10_bracket_fault_atomic _ _ (fun _ _ => rfl) _ k

/-- A run that failed (fault at any position, or none) and was rolled back, retried without fault, gives exactly
the result and state of a fault-free run from the original state. -/
theorem C10_retry (tbl : σ → Handling) (op : Prog σ δ μ) (s : St δ μ) (k : Nat)
    (hdisc : noEagerBeforeWrite op = true) (herr : (bracket tbl op s (some k)).2 = .err) :
    bracket tbl op (bracket tbl op s (some k)).1 none = bracket tbl op s none := by
  rw [C10_rollback_restores tbl op s (some k) hdisc herr]

/-- Complete statement for one injected fault: either the faulted run already equals the fault-free run, or it
reports an error, changes nothing, and the retry equals the fault-free run. -/
theorem C10_fault_then_retry (tbl : σ → Handling) (op : Prog σ δ μ)
    (hsites : ∀ s ∈ sitesOf op, tbl s = .propagated) (hdisc : noEagerBeforeWrite op = true)
    (s : St δ μ) (k : Nat) :
    bracket tbl op s (some k) = bracket tbl op s none ∨
    ((bracket tbl op s (some k)).2 = .err ∧ (bracket tbl op s (some k)).1 = s ∧
      bracket tbl op (bracket tbl op s (some k)).1 none = bracket tbl op s none) := by
  rcases C10_bracket_fault_atomic tbl op hsites s k with h | h
  · right; exact ⟨h, C10_rollback_restores tbl op s _ hdisc h, C10_retry tbl op s k hdisc h⟩
  · left; exact h

/-- A two-write program whose first site ignores the error, with the first write failing: the operation reports success
although that write was lost (the general form for a single write is `C10_nonpropagated_write_lost`). -/
theorem C10_ignored_site_partial_effect :
    let op : Prog Nat (List Nat) Unit := .seq (.write 0 (fun d => d ++ [1])) (.write 1 (fun d => d ++ [2]))
    let tbl : Nat → Handling := fun s => if s = 0 then .ignored else .propagated
    (bracket tbl op ⟨[], ()⟩ (some 1)).2 = .ok ∧
    (bracket tbl op ⟨[], ()⟩ (some 1)).1.disk = [2] ∧
    (bracket tbl op ⟨[], ()⟩ none).1.disk = [1, 2] := by
  decide

/-- General form: a single failing write whose site is not `propagated` reports success and loses the write. -/
theorem C10_nonpropagated_write_lost (tbl : σ → Handling) (site : σ) (eff : δ → δ) (s : St δ μ)
    (h : tbl site ≠ .propagated) :
    bracket tbl (.write site eff : Prog σ δ μ) s (some 1) = (s, .ok) ∧
    bracket tbl (.write site eff : Prog σ δ μ) s none = (⟨eff s.disk, s.mem⟩, .ok) :=
  ⟨bracket_ok (c := ⟨s.disk, s.mem, []⟩) (f' := none) (if_neg h),
   bracket_ok (c := ⟨eff s.disk, s.mem, []⟩) (f' := none) rfl⟩

/-- The exception the `_partial` theorems allow (no row of the generated table has it). -/
def knownOffender (s : ErrSitesGen.Site) : Bool :=
  s.fn == "waddrmgr.putAddrAccountIndex" && s.ord == 0 && s.handling == .converted

/-- Every extracted call site that leads to a database write propagates that write's error.  Regenerated from the source on
every run; a site that ignores, only logs, converts or shadows the error makes this `decide` fail (and so does a table of
more than 64·8 sites, 64·16 frame rows below: see `allBy`). -/
theorem C10_generated_sites_propagate : ErrSitesGen.allPropagated = true :=
  all_of_allBy _ 64 8 _ (by decide)

/-- … and therefore the generic atomicity theorem applies to the generated frame table as it stands. -/
theorem C10_generated_table_propagates : allPropagatedTab ErrSitesGen.table = true :=
  all_of_allBy _ 64 16 _ (by decide)

/-- Every extracted site propagates the error of the write it leads to, except possibly `knownOffender`
(implied by `C10_generated_sites_propagate`). -/
theorem C10_generated_sites_propagate_partial :
    (ErrSitesGen.sites.all (fun s => s.handling == .propagated || knownOffender s)) = true :=
  List.all_eq_true.mpr fun s hs => by
    rw [List.all_eq_true.mp C10_generated_sites_propagate s hs]; rfl

/-- Same fact for the frame table with which the driver resolves the dynamic call stacks: at most one frame key
(the line of that one site) is not `propagated`.  (Line numbers move with unrelated edits, so the key itself is
not named here; the site is named by function and ordinal in the theorem above.) -/
theorem C10_generated_table_propagates_partial :
    (ErrSitesGen.table.filter (fun e => !(e.2 == .propagated))).length ≤ 1 := by
  rw [List.filter_eq_nil_iff.mpr fun e he => by
    rw [List.all_eq_true.mp C10_generated_table_propagates e he]; decide]
  exact Nat.zero_le 1

/-- Corollary tying the generic theorem to the generated table: an operation all of whose dynamic call chains
consist of keys of a table `tab` in which every row propagates is fault-atomic.  (`hall` holds of the generated table:
`C10_generated_table_propagates`.) -/
theorem C10_fault_atomic_generated (tab : List (String × Handling)) (hall : allPropagatedTab tab = true)
    (op : Prog (List String) δ μ)
    (hknown : ∀ ch ∈ sitesOf op, ∀ k ∈ ch, (tab.lookup k).isSome = true) (s : St δ μ) (k : Nat) :
    (bracket (chainHandling tab) op s (some k)).2 = .err ∨
      bracket (chainHandling tab) op s (some k) = bracket (chainHandling tab) op s none :=
  C10_bracket_fault_atomic _ op (fun ch hch => chainHandling_of_all tab hall ch (hknown ch hch)) s k

/-- A table in which the row of `putAddrAccountIndex` does not propagate, replayed in the model: `putAddress`-like
program (row write, index write [swallowed], null-entry write skipped by the early `return nil`) succeeds with the
index entry missing. -/
theorem C10_putAddrAccountIndex_counterexample :
    let tab : List (String × Handling) := [("putAddress:row", .propagated), ("putAddrAccountIndex:1216", .converted)]
    let op : Prog (List String) (List Nat) Unit :=
      .seq (.write ["putAddress:row"] (fun d => d ++ [1])) (.write ["putAddrAccountIndex:1216"] (fun d => d ++ [2]))
    (bracket (chainHandling tab) op ⟨[], ()⟩ (some 2)).2 = .ok ∧
    (bracket (chainHandling tab) op ⟨[], ()⟩ (some 2)).1.disk = [1] ∧
    (bracket (chainHandling tab) op ⟨[], ()⟩ none).1.disk = [1, 2] := by
  decide

end FaultOps
