/-
C11 — Database transactions are all-or-nothing, isolated and ordered.

Property theorems about `KV`, the model of walletdb/bdb/db.go (+ `Update`/`View`/`Batch` of walletdb/interface.go)
over bbolt.  Every theorem quantifies over all programs (`runOps`) / histories (`runHistory`), all prior database
states, all byte strings.  Helper lemmas are in `BtcwVerif/Lemmas/KV.lean`.
-/
import BtcwVerif.Lemmas.KV
namespace KV

/-- Inside a transaction the committed state never moves before the commit: the calls only touch the private working
state (isolation of uncommitted writes). -/
theorem C11_uncommitted_invisible (t : Tx) (prog : List Op) (hno : Op.commit ∉ prog) :
    (runOps t prog).1.db = t.db :=
  (runOps_core t prog).db.resolve_right fun h => hno h.1

/-- **Atomicity of `walletdb.Update`.**  Whatever calls the closure makes (puts, deletes, bucket creation and deletion,
sequence and cursor operations, over any keys) — if it returns an error or panics, and did not itself call
`tx.Commit()` on the handle, the database is exactly what it was, the error is handed back, and every later
transaction behaves as if the failed one had never run ("still usable"). -/
theorem C11_update_atomic (db : DB) (prog : List Op) (o : Outcome) (hno : Op.commit ∉ prog) (ho : o ≠ .ok) :
    (update db prog o).1 = db ∧
    (o = .err → (update db prog o).2.2.1 = .err .user) ∧
    (∀ x : Txn, runTxn (update db prog o).1 x = runTxn db x) := by
  have hdb : (update db prog o).1 = db :=
    (finishUpdate_failed _ ho).trans (C11_uncommitted_invisible (Kind.update.begin db) prog hno)
  refine ⟨hdb, ?_, fun x => by rw [hdb]⟩
  rintro rfl
  rfl

/-- The hypothesis of `C11_update_atomic` is needed: bdb hands the closure an *unmanaged* bbolt transaction, so a
closure may call `tx.Commit()` itself and then return an error — the writes stay (bbolt's own `DB.Update` would
panic on such a call; bdb's `Update` does not use it). -/
theorem C11_explicit_commit_escapes :
    ∃ (prog : List Op), (update {} prog .err).1 ≠ ({} : DB) :=
  ⟨[.createBucketIfNotExists [] [1], .commit], fun h => absurd (congrArg (·[([[1]] : Path)]?) h) (by decide)⟩

/-- **Atomicity of `walletdb.Batch`** (bbolt-managed: `Commit`/`Rollback` through the handle panic), any program. -/
theorem C11_batch_atomic (db : DB) (prog : List Op) (o : Outcome) (ho : o ≠ .ok) :
    (runTxn db ⟨.batch, prog, o⟩).1 = db :=
  (finishUpdate_failed _ ho).trans ((runOps_core (Kind.batch.begin db) prog).db.resolve_right fun h => nomatch h.2.2.2)

/-- A hand-made read-write transaction that is dropped (rolled back) without `Commit` changes nothing. -/
theorem C11_manual_rollback (db : DB) (prog : List Op) (o : Outcome) (hno : Op.commit ∉ prog) :
    (runTxn db ⟨.manualRW, prog, o⟩).1 = db :=
  C11_uncommitted_invisible (Kind.manualRW.begin db) prog hno

/-- **Commit makes everything visible together.**  If the closure returns nil (and did not end the transaction
itself), `Update` answers nil, the database becomes exactly the transaction's final working state — every write
applied, in order — and that is what any later transaction of any kind starts from, also after the file has been
closed and reopened. -/
theorem C11_commit_visible (db : DB) (prog : List Op) (h : ∀ op ∈ prog, op ≠ .commit ∧ op ≠ .rollback) :
    let final := (runOps (Kind.update.begin db) prog).1.work
    (update db prog .ok).1 = final ∧
    (update db prog .ok).2.2.1 = .ok ∧
    reopen (update db prog .ok).1 = final ∧
    (∀ k : Kind, (k.begin (reopen (update db prog .ok).1)).work = final ∧ (k.begin (update db prog .ok).1).work = final) := by
  have hopen : (runOps (Kind.update.begin db) prog).1.closed = false := runOps_open _ _ h
  have h1 : (update db prog .ok).1 = (runOps (Kind.update.begin db) prog).1.work := by
    simp [update, runTxn, finish, finishUpdate, hopen]
  refine ⟨h1, ?_, h1, fun k => ⟨?_, ?_⟩⟩
  · simp [update, runTxn, finish, finishUpdate, hopen]
  · simp only [reopen, h1]; rfl
  · simp only [h1]; rfl

/-- `OnCommit` handlers run exactly when the update commits: all of them after a nil return, none after an error or a
panic. -/
theorem C11_oncommit_iff_commit (db : DB) (prog : List Op) (o : Outcome)
    (h : ∀ op ∈ prog, op ≠ .commit ∧ op ≠ .rollback) :
    (update db prog o).2.2.2 = if o = .ok then prog.count .onCommit else 0 := by
  have hno : Op.commit ∉ prog := fun m => (h _ m).1 rfl
  have hopen : (runOps (Kind.update.begin db) prog).1.closed = false := runOps_open _ _ h
  have ⟨hf, hp⟩ := (runOps_core (Kind.update.begin db) prog).handlers hno
  simp only [begin_fired, begin_pending] at hf hp
  cases o <;> simp [update, runTxn, finish, finishUpdate, hopen, hf, hp]

/-- **`walletdb.View` (and `BeginReadTx`) cannot modify anything**: for every program — including every mutator
reached through the concrete types, and `Commit` — and every outcome the database is unchanged. -/
theorem C11_view_readonly (db : DB) (prog : List Op) (o : Outcome) :
    (viewTx db prog o).1 = db ∧ (runTxn db ⟨.manualRO, prog, o⟩).1 = db :=
  ⟨(finishView_db _ o).trans ((runOps_core (Kind.view.begin db) prog).db.resolve_right fun h => nomatch h.2.2.1),
   (runOps_core (Kind.manualRO.begin db) prog).db.resolve_right fun h => nomatch h.2.2.1⟩

/-- …and not even its own working state: every read inside a read-only transaction sees the state it began with. -/
theorem C11_view_snapshot (t : Tx) (prog : List Op) (h : t.writable = false) :
    (runOps t prog).1.work = t.work :=
  (runOps_core t prog).work.resolve_right fun h' => nomatch h.symm.trans h'.2

/-- **Every mutator inside a read-only transaction is refused** with `ErrTxNotWritable` (bbolt's own unconverted
sentinel for `SetSequence`/`NextSequence`, which skip `convertErr`), whatever its arguments, as soon as its target
resolves; and `Commit` on a read transaction is refused too. -/
theorem C11_readonly_refuses (t : Tx) (op : Op) (hro : t.writable = false) (hopen : t.closed = false)
    (hmg : t.managed = false) (hm : op.isMutator = true) :
    (step t op).2 =
      match op with
      | .curDelete i => if (t.cursors.lookup i).isSome then .err .txNotWritable else .noCursor
      | .commit => .err .txNotWritable
      | _ => match op.bucket? with
        | some p => if isBucket t.work p then op.readOnlyAnswer else .noBucket
        | none => .ok := by
  cases op <;> try exact absurd hm Bool.false_ne_true
  case put | delete | createBucket | createBucketIfNotExists | deleteBucket | setSequence | nextSequence =>
    simp only [step_put, step_delete, step_createBucket, step_createBucketIfNotExists, step_deleteBucket,
      step_setSequence, step_nextSequence]
    exact mutate_readonly t _ _ _ hopen hro
  case curDelete i => simp only [step]; cases t.cursors.lookup i <;> simp [hopen, hro]
  case commit => simp [step, hopen, hro, hmg]

example : (step (Kind.view.begin ((({} : DB).insert [[1]] (.bucket 0)))) (.put [[1]] [2] [3])).2
    = .err .txNotWritable := by decide

/-- **Read your writes.**  After a `Put` that answered nil, `Get` on the same bucket and key in the same transaction
returns the value, a cursor / `ForEach` over the bucket shows it, and this stays so across any further calls that
do not write that entry (nor delete a bucket above it). -/
theorem C11_read_your_writes (t : Tx) (p : Path) (k v : Bytes) (h : (step t (.put p k v)).2 = .ok) :
    let t' := (step t (.put p k v)).1
    (step t' (.get p k)).2 = .val (some v) ∧
    (k, some v) ∈ view t'.work p ∧
    (∀ mid, Untouched (p ++ [k]) t' mid →
      getVal (runOps t' mid).1.work p k = some v ∧ (k, some v) ∈ view (runOps t' mid).1.work p) := by
  obtain ⟨hd, hget⟩ := mutator_ok (op := .put p k v) (g := (put · p k v)) rfl (append_singleton_ne_self p k).symm h k
  have h0 : (step t (.put p k v)).1.work[p ++ [k]]? = some (.val v) := by
    rw [(put_ok hd).1, get_insert, if_pos rfl]
  have hread : ∀ d : DB, d[p ++ [k]]? = some (.val v) → getVal d p k = some v ∧ (k, some v) ∈ view d p :=
    fun d hd => ⟨by rw [getVal_eq, hd]; rfl, by rw [mem_view, hd]; rfl⟩
  refine ⟨?_, (hread _ h0).2, fun mid hmid => hread _ ((runOps_untouched _ _ _ hmid).trans h0)⟩
  rw [hget, (hread _ h0).1]

/-- …and after a `Delete` that answered nil the key is gone for the same transaction. -/
theorem C11_read_your_deletes (t : Tx) (p : Path) (k : Bytes) (h : (step t (.delete p k)).2 = .ok) :
    let t' := (step t (.delete p k)).1
    (step t' (.get p k)).2 = .val none ∧
    (∀ s, (k, s) ∉ view t'.work p) ∧
    (∀ mid, Untouched (p ++ [k]) t' mid → getVal (runOps t' mid).1.work p k = none) := by
  obtain ⟨hd, hget⟩ := mutator_ok (op := .delete p k) (g := (delete · p k)) rfl (append_singleton_ne_self p k).symm h k
  have h0 : (step t (.delete p k)).1.work[p ++ [k]]? = none := by rw [(delete_ok hd).1, get_erase, if_pos rfl]
  refine ⟨?_, fun s hs => ?_, fun mid hmid => by rw [getVal_eq, (runOps_untouched _ _ _ hmid).trans h0]; rfl⟩
  · rw [hget, getVal_eq, h0]
    rfl
  · rw [mem_view, h0] at hs
    cases hs

/-- **Frame.**  A call changes nothing but its footprint: the one entry `bucket ++ [key]` for
`Put`/`Delete`/`CreateBucket*`/cursor `Delete`, the bucket's own header for the sequence calls, the subtree for
`DeleteNestedBucket`; reads, cursor moves, `Commit`, `Rollback`, `OnCommit` change no entry at all. -/
theorem C11_frame (t : Tx) (op : Op) (q : Path) (h : ¬ footprint t op q) :
    (step t op).1.work[q]? = t.work[q]? :=
  step_frame t op q h

/-- **Independence.**  A call made on bucket `p` (directly or through a cursor over `p`) changes no read under a
bucket `Q` that is neither `p` nor below `p`: `Get` of every key, the cursor/`ForEach` view, the sequence number
and the existence of `Q` are all unchanged.  In particular sibling buckets, and parents, are unaffected. -/
theorem C11_buckets_independent (t : Tx) (op : Op) (p Q : Path)
    (hp : callBucket t op = some p) (hQ : ¬ p <+: Q) :
    SameUnder Q t.work (step t op).1.work :=
  step_independent t op Q (fun p' hp' => by rw [hp] at hp'; cases hp'; exact hQ)

/-- The same for whole programs: if every writing call is made outside `Q`'s ancestry line, nothing under `Q` moves. -/
theorem C11_buckets_independent_prog (t : Tx) (prog : List Op) (Q : Path) (h : Outside Q t prog) :
    SameUnder Q t.work (runOps t prog).1.work := by
  induction prog generalizing t with
  | nil => exact .refl _ _
  | cons op rest ih =>
    rw [runOps_cons]
    exact (step_independent t op Q h.1).trans (ih _ h.2)

/-- `Put`/`Delete` into `p` do not even disturb the buckets *below* `p` (only `DeleteNestedBucket` reaches down). -/
theorem C11_put_local (t : Tx) (p : Path) (k v : Bytes) (Q : Path) (hQ : Q ≠ p) :
    (∀ k', getVal (step t (.put p k v)).1.work Q k' = getVal t.work Q k') ∧
    view (step t (.put p k v)).1.work Q = view t.work Q :=
  reads_of_shown fun k' => by rw [step_frame t (.put p k v) _ fun e => hQ (append_singleton_inj.mp e).1]

/-- What a cursor or `ForEach` over a bucket sees is strictly ascending in byte order (`bytes.Compare`): keys and
nested bucket names merged, no duplicates. -/
theorem C11_cursor_sorted (d : DB) (p : Path) :
    (view d p).Pairwise (fun a b => compare a.1 b.1 = .lt) :=
  view_sorted d p

/-- `ForEach` on an open transaction, with a callback that never fails, hands it exactly that ascending sequence
(nested buckets with a nil value). -/
theorem C11_foreach_sorted (t : Tx) (p : Path) (ho : t.closed = false) (hb : isBucket t.work p = true) :
    (step t (.forEach p none)).2 = .entries (view t.work p) false ∧
    (view t.work p).Pairwise (fun a b => compare a.1 b.1 = .lt) := by
  refine ⟨?_, view_sorted _ _⟩
  simp [step, ho, hb]

/-- **Forward iteration.**  `First` followed by any number of `Next` on a live cursor returns the entries of the
bucket one by one in strictly ascending order and nil from the end on (the cursor then stays on the last entry). -/
theorem C11_cursor_forward (t : Tx) (i : Nat) (P : Path) (pos : Option Nat) (h : LiveCursor t i P pos) (m : Nat) :
    (runOps t (.curFirst i :: List.replicate m (.curNext i))).2 =
      (List.range (m + 1)).map (fun j => Reply.entry (view t.work P)[j]?) ∧
    (view t.work P).Pairwise (fun a b => compare a.1 b.1 = .lt) := by
  refine ⟨?_, view_sorted _ _⟩
  rw [List.range_eq_range']
  refine cursor_iter (op := .curNext i) (fun a => min a ((view t.work P).length - 1))
    (fun j => .entry (view t.work P)[j]?) (fun _ _ hL h => step_next_live hL h) m t _ 0 rfl ?_
  rw [Nat.zero_min]
  exact curMove_live h rfl false nofun (fun _ _ => (0, true)) rfl

/-- **Backward iteration.**  `Last` followed by any number of `Prev` returns the same entries in the reverse
(strictly descending) order and nil from the beginning on. -/
theorem C11_cursor_backward (t : Tx) (i : Nat) (P : Path) (pos : Option Nat) (h : LiveCursor t i P pos) (m : Nat) :
    (runOps t (.curLast i :: List.replicate m (.curPrev i))).2 =
      (List.range (m + 1)).map (fun j => Reply.entry (view t.work P).reverse[j]?) := by
  have h0 := curMove_live h rfl false nofun (fun l _ => (l.length - 1, true)) rfl
  rw [if_pos rfl, ← List.getLast?_eq_getElem?, ← List.head?_reverse, List.head?_eq_getElem?] at h0
  rw [List.range_eq_range']
  exact cursor_iter (op := .curPrev i) (fun a => (view t.work P).length - 1 - a)
    (fun j => .entry (view t.work P).reverse[j]?) (fun _ _ hL h => step_prev_live hL h) m t _ 0 rfl h0

/-- **Seek.**  `Seek k` answers the entry with the least key `≥ k` in byte order, or nil when every key is smaller. -/
theorem C11_cursor_seek (t : Tx) (i : Nat) (P : Path) (pos : Option Nat) (h : LiveCursor t i P pos) (k : Bytes) :
    ∃ r, (step t (.curSeek i k)).2 = .entry r ∧
      match r with
      | some e => e ∈ view t.work P ∧ compare e.1 k ≠ .lt ∧
          ∀ e' ∈ view t.work P, compare e'.1 k ≠ .lt → e' = e ∨ compare e.1 e'.1 = .lt
      | none => ∀ e' ∈ view t.work P, compare e'.1 k = .lt :=
  ⟨_, (curMove_live h rfl false nofun (fun l _ => (seekPos l k, true)) rfl).reply,
    seekPos_spec (view t.work P) k (view_sorted _ _)⟩

/-- the hypotheses of the cursor theorems are satisfiable: opening a cursor on an existing bucket gives a live one. -/
example : LiveCursor (step (Kind.update.begin (({} : DB).insert [[1]] (.bucket 0))) (.curOpen 0 [[1]])).1 0 [[1]] none :=
  ⟨rfl, ⟨[[1]], none, false⟩, rfl, rfl, rfl, rfl⟩

/-- **Still usable.**  Every transaction of every kind, with any program of API calls and any outcome — commit,
error, panic, explicit `Commit`/`Rollback` — takes a well-formed store (every entry lives in an existing bucket,
no empty keys, nothing at the root path) to a well-formed store.  The empty database is well-formed, so every
reachable database is. -/
theorem C11_wf_preserved (db : DB) (x : Txn) (w : WF db) (hapi : ∀ op ∈ x.prog, op.apiOk = true) :
    WF (runTxn db x).1 := by
  have ⟨wd, ww⟩ := runOps_wf (x.kind.begin db) x.prog w w hapi
  rcases finish_db_or_work x.kind (runOps (x.kind.begin db) x.prog).1 x.outcome with e | e
  · exact e ▸ wd
  · exact e ▸ ww

theorem C11_wf_history (h : List Txn) (hapi : ∀ x ∈ h, ∀ op ∈ x.prog, op.apiOk = true) :
    WF (runHistory {} h).1 := by
  suffices ∀ db, WF db → WF (runHistory db h).1 from this _ WF.empty
  induction h with
  | nil => intro db w; exact w
  | cons x rest ih =>
    intro db w
    rw [runHistory_cons]
    exact ih (fun y hy => hapi y (List.mem_cons_of_mem _ hy)) _
      (C11_wf_preserved db x w (hapi x List.mem_cons_self))

/-- a transaction that cannot have committed leaves the database as it was. -/
theorem C11_inert_txn (db : DB) (x : Txn) (h : x.inert = true) : (runTxn db x).1 = db := by
  obtain ⟨kind, prog, o⟩ := x
  have hc : ∀ {l : List Op}, (!l.contains Op.commit) = true → Op.commit ∉ l := by simp
  cases kind <;> simp only [Txn.inert] at h
  · have ho : o ≠ .ok := by intro e; subst e; simp at h
    have hno : Op.commit ∉ prog := hc (by simp only [Bool.and_eq_true] at h; exact h.2)
    exact (C11_update_atomic db prog o hno ho).1
  · exact (C11_view_readonly db prog o).1
  · have ho : o ≠ .ok := by intro e; subst e; simp at h
    exact C11_batch_atomic db prog o ho
  · exact C11_manual_rollback db prog o (hc h)
  · exact (C11_view_readonly db prog o).2

/-- **Histories.**  In any sequence of transactions (committed, failed, panicking, read-only, hand-made), the ones
that cannot have committed can be erased without changing the final database: the database is a function of the
committing transactions alone. -/
theorem C11_history_failed_erasable (db : DB) (h : List Txn) :
    (runHistory db (h.filter (fun x => !x.inert))).1 = (runHistory db h).1 := by
  induction h generalizing db with
  | nil => rfl
  | cons x rest ih =>
    rw [runHistory_cons]
    by_cases hx : x.inert = true
    · rw [List.filter_cons_of_neg (by simp [hx]), C11_inert_txn db x hx]; exact ih db
    · rw [List.filter_cons_of_pos (by simp [hx]), runHistory_cons]; exact ih _

/-- …and every other transaction of the history gets the very same answers whether or not the failed one ran. -/
theorem C11_history_failed_unobservable (db : DB) (h₁ h₂ : List Txn) (x : Txn) (hx : x.inert = true) :
    (runHistory db (h₁ ++ x :: h₂)).1 = (runHistory db (h₁ ++ h₂)).1 ∧
    ∃ rx, (runHistory db (h₁ ++ x :: h₂)).2 =
            (runHistory db h₁).2 ++ rx :: (runHistory (runHistory db h₁).1 h₂).2 ∧
          (runHistory db (h₁ ++ h₂)).2 = (runHistory db h₁).2 ++ (runHistory (runHistory db h₁).1 h₂).2 := by
  rw [runHistory_append, runHistory_append, runHistory_cons, C11_inert_txn _ x hx]
  exact ⟨rfl, _, rfl, rfl⟩

/-- **Concurrent `walletdb.Batch` callers** writing different entries: each caller gets exactly the answer of a solo run
(nil ⇒ its write is in the database, error/panic ⇒ it is not), and the resulting database does not depend on the order
in which bbolt happened to run (or re-run) them. -/
theorem C11_batch_calls_commute (db : DB) (c₁ c₂ : BatchCall) (hne : c₁.p ++ [c₁.k] ≠ c₂.p ++ [c₂.k]) :
    (batchCall (batchCall db c₁).1 c₂).2 = (batchCall db c₂).2 ∧
    (batchCall (batchCall db c₂).1 c₁).2 = (batchCall db c₁).2 ∧
    (batchCall (batchCall db c₁).1 c₂).1 = (batchCall (batchCall db c₂).1 c₁).1 := by
  -- a caller's write leaves what the other caller reads of the database as it was
  have key : ∀ a b : BatchCall, a.p ++ [a.k] ≠ b.p ++ [b.k] →
      (batchCall (batchCall db a).1 b).2 = (batchCall db b).2 := by
    intro a b hab
    rw [batchCall_fst]
    split
    · exact batchCall_snd_congr (isBucket_insert_val (batchCall_ok ‹_›) _ _) (by rw [get_insert, if_neg hab])
    · rfl
  refine ⟨key _ _ hne, key _ _ hne.symm, ?_⟩
  rw [batchCall_fst (batchCall db c₁).1, batchCall_fst (batchCall db c₂).1, key _ _ hne, key _ _ hne.symm,
    batchCall_fst db, batchCall_fst db]
  split <;> split <;> first | rfl | exact insert_comm db _ _ hne

/-- a `Batch` caller that is answered nil has its write in the database; one that is answered an error or panics has
changed nothing. -/
theorem C11_batch_call_result (db : DB) (c : BatchCall) :
    ((batchCall db c).2 = .ok → getVal (batchCall db c).1 c.p c.k = some c.v) ∧
    ((batchCall db c).2 ≠ .ok → (batchCall db c).1 = db) := by
  rw [batchCall_fst]
  refine ⟨fun h => ?_, fun h => if_neg h⟩
  rw [if_pos h, getVal_eq, get_insert, if_pos rfl]
  rfl

/-- a database with one top-level bucket `01`. -/
def exDB : DB := ({} : DB).insert [[1]] (.bucket 0)

/-- a failing program that really writes: creates bucket `02`, puts `03 ↦ 04` into bucket `01`. -/
def exProg : List Op := [.createBucketIfNotExists [] [2], .put [[1]] [3] [4], .nextSequence [[1]]]

example : Op.commit ∉ exProg ∧ Outcome.panic ≠ Outcome.ok := by decide

/-- the working state of that failing transaction differs from the database (so atomicity discards something). -/
example : (runOps (Kind.update.begin exDB) exProg).1.work[([[1], [3]] : Path)]? = some (.val [4]) ∧
    exDB[([[1], [3]] : Path)]? = none ∧ (update exDB exProg .panic).1 = exDB := by
  refine ⟨by decide, by decide, (C11_update_atomic _ _ _ (by decide) (by decide)).1⟩

/-- the hypothesis of `C11_read_your_writes` holds for a plain `Put` into an existing bucket. -/
example : (step (Kind.update.begin exDB) (.put [[1]] [3] [4])).2 = .ok := by decide

/-- a complete instance of the cursor theorems: three keys inserted out of order come back sorted, both ways. -/
example :
    (runOps (Kind.update.begin exDB)
      [.put [[1]] [9] [0], .put [[1]] [3] [0], .put [[1]] [5, 0] [0], .createBucket [[1]] [5],
       .curOpen 0 [[1]], .curFirst 0, .curNext 0, .curNext 0, .curNext 0, .curNext 0,
       .curLast 0, .curPrev 0, .curSeek 0 [4], .curSeek 0 [9, 1]]).2.drop 5 =
    [.entry (some ([3], some [0])), .entry (some ([5], none)), .entry (some ([5, 0], some [0])),
     .entry (some ([9], some [0])), .entry none,
     .entry (some ([9], some [0])), .entry (some ([5, 0], some [0])),
     .entry (some ([5], none)), .entry none] := by decide

/-- `Untouched`: writing another key of the same bucket and a key of another bucket leaves entry `01/03` alone. -/
example (t : Tx) : Untouched ([[1]] ++ [[3]]) t [.put [[1]] [9] [9], .delete [[2]] [3], .get [[1]] [3]] := by
  simp [Untouched, footprint]

/-- `Outside`: calls on the sibling bucket `02` and on a child `01/05/…` of a *different* branch are outside `01/07`. -/
example (t : Tx) : Outside [[1], [7]] t [.put [[2]] [9] [9], .deleteBucket [[1], [5]] [6], .setSequence [[2]] 4] :=
  ⟨fun _ h => by cases h; decide, fun _ h => by cases h; decide, fun _ h => by cases h; decide, trivial⟩

example : (Txn.mk .update exProg .err).inert = true ∧ (Txn.mk .update exProg .ok).inert = false ∧
    (Txn.mk .view exProg .ok).inert = true := by decide

example : (batchCalls exDB [⟨[[1]], [7], [], .ok⟩, ⟨[[1]], [8], [1], .err⟩, ⟨[[1]], [], [1], .ok⟩]).2
    = [.ok, .err .user, .err .keyRequired] := by decide

end KV
