/-
C18 — Chain notifications are delivered in order, none lost or duplicated; the producer is never blocked by a slow
consumer; stopping the queue terminates its worker.   (chain/queue.go `ConcurrentQueue`)

Every theorem (but the two mutant witnesses at the end) is about `QueueGen.table`, the select table REGENERATED from
chain/queue.go on every run, and holds for every buffer size `cap ≥ 0` and every schedule `tr` (any interleaving of
worker clause firings with producer offers, consumer receives / blocks / gives up, and `Stop()`), by induction over the
schedule.  The proofs are done for `Queue.expectedTable` in `Lemmas/Queue*.lean`; `C18_generated_table` (by `decide`)
transports them.
-/
import BtcwVerif.Lemmas.QueueProgress
import BtcwVerif.Gen.QueueGen
namespace Queue
variable {α : Type}

theorem C18_generated_table : QueueGen.table = expectedTable := by decide

/-- Bookkeeping invariant, all schedules, all `cap`: what was accepted on `ChanIn()` is exactly — in order, without
repetition or omission — what was delivered, then the `chanOut` buffer, then the overflow list, then the item in the
worker's hand, then the (at most one) item dropped by the nested `case <-cq.quit`; and `chanOut` never exceeds `cap`.
When the worker is at the loop head: `delivered ++ out ++ overflow = accepted`. -/
theorem C18_inv (cap : Nat) (tr : List (Label α)) (s : State α) (h : run QueueGen.table (init α cap) tr = some s) :
    s.delivered ++ s.out ++ s.overflow ++ s.held.toList ++ s.lost = s.accepted ∧ s.out.length ≤ cap ∧
    (s.pc = .top → s.delivered ++ s.out ++ s.overflow = s.accepted) ∧
    s.lost.length ≤ 1 ∧ (s.quitClosed = false → s.lost = []) := by
  rw [C18_generated_table] at h
  have hI := inv_reachable ⟨tr, h⟩
  refine ⟨hI.acc.symm, hI.capc ▸ hI.cap, fun hpc => (hI.top_acc hpc).symm, ?_, hI.lost_nil⟩
  cases hq : s.quitClosed with
  | false => simp [hI.lost_nil hq]
  | true =>
    cases hpc : s.pc with
    | top => simp [(hI.top hpc).2.2]
    | inner cs => simp [(hI.inner cs hpc).2.2.2.2]
    | exited => exact (hI.exited hpc).2.2

/-- In order, no duplication, no loss.
(1) At every point of every schedule the delivered sequence, followed by everything still queued, is an initial
    segment of the accepted sequence (so nothing is reordered, invented or delivered twice; if the accepted items are
    pairwise distinct, so are the delivered ones).
(2) As long as `Stop()` has not been called nothing is lost: every accepted item is delivered or still queued, and
(3) from that point a consumer that keeps receiving gets all of it: there is a schedule of worker and consumer steps
    only (no producer, no stop), of length ≤ |out| + 2·|overflow| + 3, after which `delivered = accepted`. -/
theorem C18_order_no_loss_no_dup (cap : Nat) (tr : List (Label α)) (s : State α)
    (h : run QueueGen.table (init α cap) tr = some s) :
    (s.delivered ++ s.out ++ s.overflow) <+: s.accepted ∧ s.delivered <+: s.accepted ∧
    (s.accepted.Nodup → s.delivered.Nodup) ∧
    (s.quitClosed = false → s.accepted = s.delivered ++ s.out ++ s.overflow ++ s.held.toList) ∧
    (s.quitClosed = false → ∃ sched s', (∀ l ∈ sched, Label.isDrain l = true) ∧
        sched.length ≤ s.out.length + 2 * s.overflow.length + 3 ∧
        run QueueGen.table s sched = some s' ∧ s'.delivered = s.accepted ∧ s'.accepted = s.accepted) := by
  rw [C18_generated_table] at h ⊢
  have hI := inv_reachable ⟨tr, h⟩
  have hacc := hI.acc
  have hp1 : (s.delivered ++ s.out ++ s.overflow) <+: s.accepted :=
    ⟨s.held.toList ++ s.lost, by rw [hacc]; simp⟩
  have hp2 : s.delivered <+: s.accepted := ⟨s.out ++ s.overflow ++ s.held.toList ++ s.lost, by rw [hacc]; simp⟩
  refine ⟨hp1, hp2, fun hn => hn.sublist hp2.sublist, ?_, ?_⟩
  · intro hq
    rw [hacc, hI.lost_nil hq]; simp
  · intro hq
    obtain ⟨s', ⟨sched, h1, h2, h3⟩, h4, h5⟩ := drain_all hI hq
    exact ⟨sched, s', h1, h2, h3, h4, h5⟩

/-- No loss under EVERY schedule of the worker and a consumer that keeps receiving (blocks on the empty channel and
never gives up), while no producer offers anything and `Stop()` is not called: such a schedule cannot be longer than
`3·|overflow| + 2·|out| + 5` steps, it never changes `accepted`, and when it cannot be extended any more everything
accepted has been delivered.  (The existence statement of `C18_order_no_loss_no_dup` plus this one: progress is
always possible, and every maximal run ends with `delivered = accepted`.) -/
theorem C18_drain_every_schedule (cap : Nat) (tr : List (Label α)) (s : State α)
    (h : run QueueGen.table (init α cap) tr = some s) (hq : s.quitClosed = false)
    (sched : List (Label α)) (s' : State α) (hd : ∀ l ∈ sched, Label.isDrain l = true)
    (hr : run QueueGen.table s sched = some s') :
    sched.length ≤ 3 * s.overflow.length + 2 * s.out.length + 5 ∧ s'.accepted = s.accepted ∧
    ((∀ l : Label α, Label.isDrain l = true → step QueueGen.table s' l = none) →
      s'.delivered = s.accepted ∧ s'.out = [] ∧ s'.overflow = []) := by
  rw [C18_generated_table] at h hr ⊢
  have hI := inv_reachable ⟨tr, h⟩
  obtain ⟨h1, hI', h2, h3⟩ := drain_bound sched s s' hI hq hd hr
  refine ⟨?_, h3, ?_⟩
  · have : drainMeasure s ≤ 3 * s.overflow.length + 2 * s.out.length + 5 := by
      unfold drainMeasure
      cases s.held <;> split <;> simp +arith
    omega
  · intro hstuck
    have := drain_stuck hI' h2 hstuck
    rw [h3] at this
    exact this

/-- The producer is never blocked by a slow consumer.  In every reachable state whose worker is at the loop head the
clause `item := <-cq.chanIn` is enabled for every offered value — no condition on `out`, `overflow` or the consumer.
If the worker is in the nested select, that select never blocks (some clause is always enabled) and whichever clause
fires, the worker is back at the loop head (or has returned, after `Stop()`) — after ONE step of its own.  Hence
bursts of any length are accepted by worker steps alone, two per item, while the consumer takes no step at all. -/
theorem C18_send_enabled (cap : Nat) (tr : List (Label α)) (s : State α)
    (h : run QueueGen.table (init α cap) tr = some s) :
    (s.pc = .top → ∀ x, ∃ s1, step QueueGen.table s (.w (.recvIn x)) = some s1 ∧ s1.accepted = s.accepted ++ [x]) ∧
    (∀ cs, s.pc = .inner cs → (∃ l s1, step QueueGen.table s (.w l) = some s1) ∧
        ∀ l s1, step QueueGen.table s (.w l) = some s1 → s1.pc = .top ∨ s1.pc = .exited) ∧
    (s.quitClosed = false → ∀ xs : List α, ∃ sched s', (∀ l ∈ sched, Label.isWorker l = true) ∧
        sched.length ≤ 2 * xs.length + 1 ∧ run QueueGen.table s sched = some s' ∧
        s'.accepted = s.accepted ++ xs) := by
  rw [C18_generated_table] at h ⊢
  have hI := inv_reachable ⟨tr, h⟩
  refine ⟨?_, fun cs hpc => inner_nonblocking hI cs hpc, ?_⟩
  · intro hpc x
    obtain ⟨s1, h1, h2, _⟩ := recv_enabled_top hI hpc x
    exact ⟨s1, h1, h2⟩
  · intro hq xs
    obtain ⟨s', ⟨sched, h1, h2, h3⟩, h4, _⟩ := burst_accepted xs s hI hq
    exact ⟨sched, s', h1, Nat.le_succ_of_le h2, h3, h4⟩

/-- `Stop()` terminates the worker.  The worker never returns before `Stop()`.  Once `Stop()` was called, in every
reachable state in which the worker is still running the clause `<-cq.quit` is enabled (every select has one) and
firing it makes the worker return; after that no worker clause is enabled and the environment cannot revive it.
Moreover, in a schedule of worker steps alone (no producer offers anything and the consumer takes nothing out of
`chanOut`) at most `cap + 2` steps are possible after `Stop()`, so the worker then returns under every such schedule.
(A consumer that keeps receiving makes room for one more `sendFront` per overflow entry; with producers still offering,
Go's select chooses among the ready clauses at random: termination then holds with probability 1; this part is the Go
runtime, not the model.) -/
theorem C18_quit_enabled (cap : Nat) (tr : List (Label α)) (s : State α)
    (h : run QueueGen.table (init α cap) tr = some s) :
    (s.quitClosed = false → s.pc ≠ .exited) ∧
    (s.quitClosed = true → s.pc ≠ .exited → ∃ s', step QueueGen.table s (.w .quit) = some s' ∧ s'.pc = .exited) ∧
    (s.pc = .exited → ∀ l, step QueueGen.table s (.w l) = none) ∧
    (s.pc = .exited → ∀ l s', step QueueGen.table s (.e l) = some s' → s'.pc = .exited) ∧
    (s.quitClosed = true → ∀ sched s', (∀ l ∈ sched, Label.isWorkerNoRecv l = true) →
        run QueueGen.table s sched = some s' → sched.length ≤ cap + 2) := by
  rw [C18_generated_table] at h ⊢
  have hI := inv_reachable ⟨tr, h⟩
  refine ⟨?_, quit_enabled hI, exited_dead _, ?_, ?_⟩
  · exact hI.not_exited
  · exact fun hpc l s' hs => (env_step_pc hI hs).trans hpc
  · intro hq sched s' hl hr
    have := stop_bound sched s s' hI hq hl hr
    have := stopMeasure_le hI
    omega

/-- The mechanism: direct hand-off of a fresh item to `chanOut` happens only when the overflow list is empty — as a
fact about the generated table (no clause of the `nextElement != nil` select sends `item`), and as a fact about every
reachable state (whenever `cq.chanOut <- item` fires, `overflow = []`, and the item goes to the consumer or to the
back of `out`). -/
theorem C18_direct_handoff_only_if_overflow_empty :
    (∀ c ∈ QueueGen.table.onNonEmpty, c.sendsItem = false) ∧
    (∃ c ∈ QueueGen.table.onEmpty, c.sendsItem = true) ∧
    (∀ (cap : Nat) (tr : List (Label α)) (s s' : State α), run QueueGen.table (init α cap) tr = some s →
      step QueueGen.table s (.w .sendItem) = some s' →
      s.overflow = [] ∧ ∃ x, s.held = some x ∧ (s'.delivered = s.delivered ++ [x] ∨ s'.out = s.out ++ [x])) := by
  refine ⟨by decide, by decide, ?_⟩
  intro cap tr s s' h hs
  rw [C18_generated_table] at h hs
  exact sendItem_only_if_overflow_empty (inv_reachable ⟨tr, h⟩) hs

/-! ### Non-vacuity: concrete schedules (evaluated by the kernel on the GENERATED table) -/

/-- cap = 1, burst of three: 1 goes to `chanOut`, 2 and 3 overflow; the consumer then gets 1, 2, 3. -/
example :
    (run QueueGen.table (init Nat 1)
      [.w (.recvIn 1), .w .sendItem, .w (.recvIn 2), .w .dflt, .w (.recvIn 3),
       .e .consume, .w .sendFront, .e .consume, .w .sendFront, .e .consume]).map
      (fun s => (s.delivered, s.out, s.overflow, s.accepted)) = some ([1, 2, 3], [], [], [1, 2, 3]) := by decide

/-- cap = 0 (rendez-vous): nothing can be buffered, the item overflows and is handed to the blocked consumer. -/
example :
    (run QueueGen.table (init Nat 0)
      [.w (.recvIn 7), .w .dflt, .w (.recvIn 8), .e .wait, .w .sendFront, .e .wait, .w .sendFront]).map
      (fun s => (s.delivered, s.out, s.overflow)) = some ([7, 8], [], []) := by decide

/-- cap = 0 with the consumer already blocked: direct hand-off through the nested select. -/
example :
    (run QueueGen.table (init Nat 0) [.e .wait, .w (.recvIn 7), .w .sendItem]).map
      (fun s => (s.delivered, s.waiting)) = some ([7], false) := by decide

/-- `default` is not enabled while `chanOut` has room, and a send is not enabled when it is full. -/
example : (run QueueGen.table (init Nat 1) [.w (.recvIn 1), .w .dflt]).isNone = true := by decide
example : (run QueueGen.table (init Nat 1) [.w (.recvIn 1), .w .sendItem, .w (.recvIn 2), .w .sendItem]).isNone = true := by
  decide

/-- Stop: quit is not enabled before `Stop()`, is enabled after, and then nothing is. -/
example : (run QueueGen.table (init Nat 1) [.w .quit]).isNone = true := by decide
example : (run QueueGen.table (init Nat 1) [.e .stop, .w .quit]).map (·.pc) = some .exited := by decide
example : (run QueueGen.table (init Nat 1) [.e .stop, .w .quit, .w (.recvIn 1)]).isNone = true := by decide

/-- What the code does NOT promise (no claim of C18, recorded so the model's honesty is visible): after `Stop()` an
item whose send on `ChanIn()` has completed can be dropped by the nested `case <-cq.quit`, although `chanOut` has
room; and items in the overflow list are abandoned when the worker returns. -/
theorem C18_after_stop_item_may_be_dropped :
    (run QueueGen.table (init Nat 1) [.w (.recvIn 1), .e .stop, .w .quit]).map
      (fun s => (s.accepted, s.delivered, s.out, s.overflow, s.lost, s.pc)) = some ([1], [], [], [], [1], .exited) := by
  rfl

/-! ### Sensitivity of the statements to the table: a mutant table breaks them -/

/-- Under the mutant table item 3 overtakes item 2. -/
theorem C18_mutant_direct_handoff_reorders :
    (run mutantDirectHandoff (init Nat 1)
      [.w (.recvIn 1), .w .sendItem, .w (.recvIn 2), .w .dflt, .e .consume,
       .w (.recvIn 3), .w .sendItem, .e .consume]).map (fun s => (s.delivered, s.accepted)) =
      some ([1, 3], [1, 2, 3]) := by decide

/-- The mutant that forgets `cq.overflow.Remove(nextElement)` delivers an item twice. -/
theorem C18_mutant_no_remove_duplicates :
    (run { expectedTable with onNonEmpty :=
            [⟨.recvIn, [.simple .pushBackItem]⟩, ⟨.sendFront, []⟩, ⟨.quit, [.simple .ret]⟩] } (init Nat 1)
      [.w (.recvIn 1), .w .sendItem, .w (.recvIn 2), .w .dflt, .e .consume, .w .sendFront, .e .consume,
       .w .sendFront, .e .consume]).map (fun s => (s.delivered, s.accepted)) = some ([1, 2, 2], [1, 2]) := by decide

end Queue
