import BtcwVerif.Model.QueueTwo
import BtcwVerif.Gen.QueueStartGen
/-!
# C18 — the caller-side obligation: one worker per `ConcurrentQueue`

`Props/C18.lean` proves order / no loss / no duplication for the transition system with ONE worker goroutine.
`(*ConcurrentQueue).Start` spawns a worker per call, so the property needs "Start is called at most once per queue
instance".  This file ties that to the source and shows that it matters (two workers reorder and duplicate).
-/
namespace QueueStart

/-- The once-obligation on the facts re-extracted from chain/*.go on every run: there is a call site of `Start`, every call
site is a straight-line statement behind a test-and-set guard on the same receiver, no write anywhere in the package
re-opens such a guard, there is a struct field of type `*ConcurrentQueue`, and no use of a queue that the extractor does
not understand (`otherUses` is empty). -/
theorem C18_generated_queue_started_once : startedOnce QueueStartGen.facts = true := by decide

/-- Invariant of the guard: the number of workers is 1 if the guard is set and 0 otherwise. -/
def GInv (s : GState) : Prop := s.workers = if s.started then 1 else 0

theorem gstep_start (s : GState) : (gstep s .start).started = true ∧ (GInv s → GInv (gstep s .start)) := by
  cases h : s.started <;> simp_all [gstep, GInv]

theorem grun_no_reset : ∀ (tr : List GOp) (s : GState), GInv s → (∀ o ∈ tr, o ≠ .reset) →
    GInv (grun s tr) ∧ (s.started = true ∨ tr ≠ [] → (grun s tr).started = true)
  | [], _, h, _ => ⟨h, fun h' => h'.resolve_right (fun h => h rfl)⟩
  | .reset :: _, _, _, hno => absurd rfl (hno .reset List.mem_cons_self)
  | .start :: tr, s, h, hno =>
    have ⟨h1, h2⟩ := grun_no_reset tr (gstep s .start) ((gstep_start s).2 h)
      (fun o ho => hno o (List.mem_cons_of_mem _ ho))
    ⟨h1, fun _ => h2 (.inl (gstep_start s).1)⟩

/-- However often `Start()` is called (concurrently or not — the test-and-set is atomic): if nothing resets the guard,
at most one worker goroutine exists, and exactly one once `Start()` has been called. -/
theorem C18_guarded_start_at_most_one_worker (tr : List GOp) (hno : ∀ o ∈ tr, o ≠ .reset) :
    (grun {} tr).workers ≤ 1 ∧ (tr ≠ [] → (grun {} tr).workers = 1) := by
  have ⟨h, hs⟩ := grun_no_reset tr {} rfl hno
  unfold GInv at h
  exact ⟨by rw [h]; split <;> omega, fun hne => by rw [h, hs (.inr hne)]; rfl⟩

/-- A single reset of the guard between two calls of `Start()` gives two workers on the same queue
(first `Start()` fails after `notificationQueue.Start()`, stores 0 into `started`, the caller retries). -/
theorem C18_guard_reset_two_workers : (grun {} [.start, .reset, .start]).workers = 2 := by decide

theorem startedOnce_false_of_site {f : Facts} {s : StartSite} (hs : s ∈ f.sites) (h : siteOk f s = false) :
    startedOnce f = false := by
  have hall : f.sites.all (siteOk f) = false := List.all_eq_false.mpr ⟨s, hs, by simp [h]⟩
  simp [startedOnce, hall]

/-- Sensitivity of the obligation itself, for ANY extracted facts: one resetting write (`atomic.StoreInt32(&c.started, 0)`,
`c.started = 0`, …) to the guard that protects some call site of `Start` makes `startedOnce` false. -/
theorem C18_started_once_rejects_reset (f : Facts) (s : StartSite) (g : Nat) (w : GuardWrite)
    (hs : s ∈ f.sites) (hg : s.guard = some g) (hw : w ∈ f.writes) (hwg : w.guard = g) (hr : w.resets = true) :
    startedOnce f = false := by
  have hmem : w ∈ resetsOf f g := by simp [resetsOf, List.mem_filter, hw, hwg, hr]
  have hne : (resetsOf f g).isEmpty = false := by
    cases h : resetsOf f g with
    | nil => rw [h] at hmem; cases hmem
    | cons _ _ => rfl
  exact startedOnce_false_of_site hs (by simp [siteOk, hg, hne])

/-- The hypotheses are satisfiable on the current source: the call site in `(*BitcoindClient).Start` is guarded. -/
example : ∃ s ∈ QueueStartGen.facts.sites, s.guard.isSome = true := by decide

/-- Likewise an unguarded or non-straight-line call site is rejected. -/
theorem C18_started_once_rejects_unguarded (f : Facts) (s : StartSite) (hs : s ∈ f.sites)
    (h : s.guard = none ∨ s.straight = false) : startedOnce f = false := by
  exact startedOnce_false_of_site hs (by rcases h with h | h <;> simp [siteOk, h])

end QueueStart

namespace QueueTwo

/-- Schedule: both workers block in the first `select`; worker 0 receives 1, worker 1 receives 2; worker 1 is faster
with its nested `chanOut <- item`. -/
def reorderTrace : List (Label Nat) :=
  [.w 0 .enter, .w 1 .enter, .w 0 (.recvIn 1), .w 1 (.recvIn 2), .w 1 .sendItem, .w 0 .sendItem, .consume, .consume]

/-- Two workers, buffer of 2, two distinct items, no overflow, no `Stop()`: delivered in the wrong order. -/
theorem C18_two_workers_reorder :
    ∃ s, run (init Nat 2 2) reorderTrace = some s ∧ s.accepted = [1, 2] ∧ s.delivered = [2, 1] ∧ s.lost = [] :=
  ⟨_, rfl, rfl, rfl, rfl⟩

/-- Schedule (buffer of 1): worker 0 moves 1 to `chanOut`, then pushes 2 to the overflow list and blocks offering
element #0 (= 2); worker 1 receives 3, pushes it and ALSO blocks offering element #0.  The consumer takes 1; worker 0
delivers 2 and removes element #0; the consumer takes 2; worker 1 delivers its cached 2 again (`Remove` is a no-op). -/
def dupTrace : List (Label Nat) :=
  [.w 0 .enter, .w 1 .enter,
   .w 0 (.recvIn 1), .w 0 .sendItem, .w 0 .enter,
   .w 0 (.recvIn 2), .w 0 .dflt, .w 0 .enter,
   .w 1 (.recvIn 3), .w 1 .dflt, .w 1 .enter,
   .consume, .w 0 .sendFront, .consume, .w 1 .sendFront, .consume]

/-- Two workers, three pairwise distinct items: one of them is delivered twice. -/
theorem C18_two_workers_duplicate :
    ∃ s, run (init Nat 1 2) dupTrace = some s ∧ s.accepted = [1, 2, 3] ∧ s.delivered = [1, 2, 2] ∧
      s.accepted.Nodup ∧ ¬ s.delivered.Nodup :=
  ⟨_, rfl, rfl, rfl, by decide, by decide⟩

/-- Continuing that run to the end: 3 is still delivered, so the consumer sees FOUR notifications for three
accepted ones. -/
theorem C18_two_workers_stale_redelivery :
    ∃ s, run (init Nat 1 2) (dupTrace ++ [.w 0 .enter, .w 0 .sendFront, .consume]) = some s ∧
      s.accepted = [1, 2, 3] ∧ s.delivered = [1, 2, 2, 3] ∧ s.overflow = [] :=
  ⟨_, rfl, rfl, rfl, rfl⟩

/-- Worker 0's part of the duplicate schedule plus what a lone worker has to do for item 3, and a drain. -/
def soloTrace : List (Label Nat) :=
  [.w 0 .enter, .w 0 (.recvIn 1), .w 0 .sendItem, .w 0 .enter, .w 0 (.recvIn 2), .w 0 .dflt, .w 0 .enter,
   .w 0 (.recvIn 3), .w 0 .enter, .consume, .w 0 .sendFront, .w 0 .enter, .consume, .w 0 .sendFront, .w 0 .enter,
   .consume, .stop, .w 0 .quit]

/-- With one worker the hand-written multi-worker step function and the table interpreter of `Model/Queue.lean`
(under `Queue.expectedTable`) end in the same observable state on the same schedule. -/
theorem C18_two_model_one_worker_agrees :
    ∃ s q, run (init Nat 1 1) soloTrace = some s ∧
      Queue.run Queue.expectedTable (Queue.init Nat 1) (soloTrace.flatMap toQueue) = some q ∧
      s.delivered = [1, 2, 3] ∧ q.delivered = s.delivered ∧ q.accepted = s.accepted ∧ q.out = s.out ∧
      q.overflow = s.overflow.map (·.val) ∧ q.pc = .exited ∧ s.workers = [.exited] :=
  ⟨_, _, rfl, rfl, rfl, rfl, rfl, rfl, rfl, rfl, rfl⟩

end QueueTwo
