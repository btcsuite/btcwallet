import BtcwVerif.Lemmas.RefExact
import BtcwVerif.Lemmas.SyncTipHistory
/-!
# C13 — transaction history shows each known transaction once, at its current status

Store-level theorems about the query functions of the model (`TxDetails`, `minedTxDetails`, `RangeTransactions`) on an
ARBITRARY store: a hash is reported iff a record with that hash exists; it is reported as unconfirmed exactly when it
is in the unconfirmed bucket, otherwise under the block of its record; the spent flag of a listed credit is
"spent by a mined transaction (stored flag) or by an unconfirmed one (unmined-inputs index)"; the position of the
unconfirmed batch in a range query follows the −1 rule in both directions.
Ledger level (second half of the file): after EVERY chain-consistent history of events (`ConsistentHistory`, block
disconnections included) the history queries answer the sentences of C13 read on the specification `Ledger`, as lists,
order included — `C13_details_exact`, `C13_credit_exact`, `C13_debit_exact`, `C13_range_exact`, `C13_range_blocks_exact`
(every bucket is in bbolt key order after every sequence of store calls: Lemmas/SortedStore.lean; Lemmas/RefExact.lean)
— and, read as sets, `C13_once`, `C13_credit`, `C13_debit`, `C13_range`, `C13_removed`.  Inside the unconfirmed batch of a
range query the order is the store's (hash order), the ledger's is arrival order.
-/
namespace TxStore.C13

/-- **removed ⇒ not reported, known ⇒ reported**: direct lookup answers "none" exactly when neither the unconfirmed
bucket nor the mined records hold the hash. -/
theorem C13_details_none_iff (s : Store) (h : Nat) :
    txDetails s h = .ok none ↔ s.unmined.find? h = none ∧ latestTxRecord s h = none := by
  unfold txDetails
  cases hu : s.unmined.find? h with
  | some rec =>
    simp only [reduceCtorEq, false_and, iff_false]
    cases unminedTxDetails s h rec <;> simp [bind, Except.bind]
  | none =>
    cases hl : latestTxRecord s h with
    | none => simp
    | some p =>
      obtain ⟨k, rec⟩ := p
      simp only [reduceCtorEq, and_false, iff_false]
      cases minedTxDetails s k rec <;> simp [bind, Except.bind]

/-- **current status**: a reported transaction is shown as unconfirmed exactly when it is in the unconfirmed bucket
(then with that record); otherwise it is shown under the block of its latest mined record, with that record. -/
theorem C13_details_status (s : Store) (h : Nat) (d : Details) (hd : txDetails s h = .ok (some d)) :
    (d.block = none ↔ (s.unmined.find? h).isSome) ∧
    (∀ rec, s.unmined.find? h = some rec → d.tx = rec) ∧
    (s.unmined.find? h = none → ∃ k rec t, latestTxRecord s h = some (k, rec) ∧ d.block = some ⟨k.block, t⟩ ∧ d.tx = rec) := by
  unfold txDetails at hd
  cases hu : s.unmined.find? h with
  | some rec =>
    rw [hu] at hd
    obtain ⟨d', hx, hd⟩ := bind_ok_iff.mp hd
    cases hd
    obtain ⟨_, _, _, rfl⟩ := unminedTxDetails_eq_ok.mp hx
    exact ⟨⟨fun _ => rfl, fun _ => rfl⟩, fun r hr => (by cases hr; rfl), fun hn => (by cases hn)⟩
  | none =>
    rw [hu] at hd
    cases hl : latestTxRecord s h with
    | none => rw [hl] at hd; cases hd
    | some p =>
      obtain ⟨k, rec⟩ := p
      rw [hl] at hd
      obtain ⟨d', hx, hd⟩ := bind_ok_iff.mp hd
      cases hd
      obtain ⟨br, _, _, _, rfl⟩ := minedTxDetails_eq_ok.mp hx
      exact ⟨⟨fun h => (by cases h), fun h => (by cases h)⟩, fun r hr => (by cases hr), fun _ => ⟨k, rec, _, rfl, rfl, rfl⟩⟩

/-- the latest mined record really is a record with that hash (so the block shown is a block recording it) -/
theorem C13_latest_is_record (s : Store) (h : Nat) (k : TxKey) (rec : Tx) (hl : latestTxRecord s h = some (k, rec)) :
    (k, rec) ∈ s.txrecs ∧ k.hash = h :=
  latestTxRecord_mem hl

/-- **credits of a mined record**: every listed credit is a stored credit of that record with its amount and change
flag, and its spent flag is true exactly when a mined transaction spent it (stored flag) or an unconfirmed
transaction spends it (unmined-inputs index). -/
theorem C13_mined_credit_flags (s : Store) (k : TxKey) (rec : Tx) (d : Details)
    (hd : minedTxDetails s k rec = .ok d) (c : CreditRecord) (hc : c ∈ d.credits) :
    ∃ ck cv, (ck, cv) ∈ s.credits ∧ ck.hash = k.hash ∧ ck.block = k.block ∧ ck.index = c.index ∧
      c.index < rec.outs.length ∧ c.amount = cv.amount ∧ c.change = cv.change ∧
      c.spent = (cv.spent || spentByUnmined s ⟨k.hash, c.index⟩) := by
  obtain ⟨_, _, hlt, _, rfl⟩ := minedTxDetails_eq_ok.mp hd
  obtain ⟨⟨ck, cv⟩, hmem, rfl⟩ := List.mem_map.mp hc
  obtain ⟨hm, hk⟩ := List.mem_filter.mp hmem
  exact ⟨ck, cv, hm, (of_decide_eq_true hk).1, (of_decide_eq_true hk).2, rfl, Nat.not_le.mp (hlt _ hmem), rfl, rfl, rfl⟩

/-- **credits of an unconfirmed record**: spent exactly when an unconfirmed transaction spends the output -/
theorem C13_unmined_credit_flags (s : Store) (h : Nat) (rec : Tx) (d : Details)
    (hd : unminedTxDetails s h rec = .ok d) (c : CreditRecord) (hc : c ∈ d.credits) :
    ∃ op uc, (op, uc) ∈ s.unminedCredits ∧ op.hash = h ∧ op.index = c.index ∧ c.index < rec.outs.length ∧
      c.amount = uc.amount ∧ c.change = uc.change ∧ c.spent = spentByUnmined s op := by
  obtain ⟨hlt, _, _, rfl⟩ := unminedTxDetails_eq_ok.mp hd
  obtain ⟨⟨op, uc⟩, hmem, rfl⟩ := List.mem_map.mp hc
  obtain ⟨hm, hk⟩ := List.mem_filter.mp hmem
  exact ⟨op, uc, hm, of_decide_eq_true hk, rfl, Nat.not_le.mp (hlt _ hmem), rfl, rfl, rfl⟩

/-- **the −1 rule, both directions**: the unconfirmed batch comes first when the range begins at −1, last when it
ends at −1 (and does not begin there), and is absent otherwise; the block batches lie in between. -/
theorem C13_range_unmined_position (s : Store) (b e : Int) (bs : List (List Details))
    (h : rangeTransactions s b e = .ok bs) :
    ∃ mid un, rangeBlockTransactions s b e = .ok mid ∧
      (b < 0 → rangeUnmined s = .ok un ∧ bs = un ++ mid) ∧
      (¬ b < 0 → e < 0 → rangeUnmined s = .ok un ∧ bs = mid ++ un) ∧
      (¬ b < 0 → ¬ e < 0 → bs = mid) := by
  unfold rangeTransactions at h
  by_cases hb : b < 0
  · simp only [hb, if_true, decide_true, Bool.not_true, Bool.false_and, Bool.false_eq_true, if_false, bind_ok_iff,
      pure_eq, Except.ok.injEq, exists_eq_left', List.append_nil] at h
    obtain ⟨un, hu, mid, hm, rfl⟩ := h
    exact ⟨mid, un, hm, fun _ => ⟨hu, rfl⟩, fun hn => absurd hb hn, fun hn => absurd hb hn⟩
  · by_cases he : e < 0
    · simp only [hb, he, if_false, if_true, decide_true, decide_false, Bool.not_false, Bool.true_and, bind_ok_iff,
        pure_eq, Except.ok.injEq, exists_eq_left', List.nil_append] at h
      obtain ⟨mid, hm, un, hu, rfl⟩ := h
      exact ⟨mid, un, hm, fun hn => absurd hn hb, fun _ _ => ⟨hu, rfl⟩, fun _ hn => absurd he hn⟩
    · simp only [hb, he, if_false, decide_false, Bool.not_false, Bool.true_and, Bool.false_eq_true, bind_ok_iff,
        pure_eq, Except.ok.injEq, exists_eq_left', List.nil_append, List.append_nil] at h
      obtain ⟨mid, hm, rfl⟩ := h
      exact ⟨mid, [], hm, fun hn => absurd hn hb, fun _ hn => absurd hn he, fun _ _ => rfl⟩

/-- the unconfirmed batch holds one entry per record of the unconfirmed bucket (each exactly once, bucket order), and
is not delivered at all when the bucket is empty -/
theorem C13_unmined_batch (s : Store) (un : List (List Details)) (h : rangeUnmined s = .ok un) :
    (s.unmined = [] → un = []) ∧
    (s.unmined ≠ [] → ∃ ds, un = [ds] ∧ ds.length = s.unmined.length ∧ s.unmined.mapM (fun (h, rec) => unminedTxDetails s h rec) = .ok ds) := by
  unfold rangeUnmined at h
  obtain ⟨ds, hm, h⟩ := bind_ok_iff.mp h
  cases h
  have hlen : ds.length = s.unmined.length := by
    have := congrArg List.length (mapM_eq_ok.mp hm)
    rw [List.length_map, List.length_map] at this
    exact this.symm
  cases ds with
  | nil => exact ⟨fun _ => rfl, fun hne => absurd (List.eq_nil_of_length_eq_zero hlen.symm) hne⟩
  | cons d t =>
    exact ⟨fun he => (by rw [he] at hlen; cases hlen), fun _ => ⟨d :: t, rfl, hlen, hm⟩⟩

def exStore : Store :=
  { blocks := [(5, ⟨55, 1000, [9]⟩)], txrecs := [(⟨9, ⟨5, 55⟩⟩, ⟨9, [⟨1, 0⟩], [700, 800]⟩)],
    credits := [(⟨9, ⟨5, 55⟩, 1⟩, ⟨800, false, false, none⟩)], unspent := [(⟨9, 1⟩, ⟨5, 55⟩)],
    unmined := [(12, ⟨12, [⟨9, 1⟩], [750]⟩)], unminedCredits := [(⟨12, 0⟩, ⟨750, true⟩)],
    unminedInputs := [(⟨9, 1⟩, [12])], minedBalance := 800 }

example : txDetails exStore 9 = .ok (some ⟨⟨9, [⟨1, 0⟩], [700, 800]⟩, some ⟨⟨5, 55⟩, 1000⟩, [⟨1, 800, true, false⟩], []⟩) := by decide
example : txDetails exStore 12 = .ok (some ⟨⟨12, [⟨9, 1⟩], [750]⟩, none, [⟨0, 750, false, true⟩], [⟨0, 800⟩]⟩) := by decide
example : txDetails exStore 13 = .ok none := by decide
example : (rangeTransactions exStore (-1) 0).map (·.map (·.map (·.tx.hash))) = .ok [[12], [9]] := by decide
example : (rangeTransactions exStore 0 (-1)).map (·.map (·.map (·.tx.hash))) = .ok [[9], [12]] := by decide

open Ledger

/-- **C13, the whole record, exactly**: after every chain-consistent history `TxDetails h` answers exactly the ledger's
`details h` — nothing for an unknown hash, otherwise the transaction, its current block, its credit records in
ascending output index and its debit records in ascending input index (equality of lists, not of sets) -/
theorem C13_details_exact (es : List Event) (hc : ConsistentHistory {} es) (h : Nat) :
    ∃ s, storeAfter Store.empty {} es = .ok s ∧ txDetails s h = .ok (Ledger.details (ledgerAfter {} es) h) := by
  obtain ⟨s, h1, hg, hn, hs⟩ := good_sorted_reachable es hc
  exact ⟨s, h1, details_refines_exact hg hn hs h⟩

/-- **C13, each known transaction once, at its current status**: after every chain-consistent history, `TxDetails h`
succeeds; it reports a record exactly when a known transaction has hash `h`; the record is that transaction, under its
current block (height, hash, time) or as unconfirmed -/
theorem C13_once (es : List Event) (hc : ConsistentHistory {} es) (h : Nat) :
    ∃ s o, storeAfter Store.empty {} es = .ok s ∧ txDetails s h = .ok o ∧
      (o.isSome = true ↔ isKnown (ledgerAfter {} es) h = true) ∧
      (∀ d, o = some d → ∃ t ob, (t, ob) ∈ known (ledgerAfter {} es) ∧ t.hash = h ∧ d.tx = t ∧ d.block = ob) := by
  obtain ⟨s, h1, h2⟩ := C13_details_exact es hc h
  refine ⟨s, _, h1, h2, details_isSome_iff, fun d hd => ?_⟩
  obtain ⟨t, ob, hp, hh, rfl⟩ := details_eq_some hd
  exact ⟨t, ob, hp, hh, rfl, rfl⟩

/-- **C13, credit records, exactly**: for a known transaction `t` the credit records `TxDetails` reports are, as a LIST,
the credited outputs of `t` in ascending output index — one record per credited output `i`, with the output's value, its
change flag and `spent` set exactly when some known transaction spends it -/
theorem C13_credit_exact (es : List Event) (hc : ConsistentHistory {} es) (t : Tx) (ob : Option BlockMeta)
    (ht : (t, ob) ∈ known (ledgerAfter {} es)) :
    ∃ s d, storeAfter Store.empty {} es = .ok s ∧ txDetails s t.hash = .ok (some d) ∧
      d.credits = ((withIdx t.outs).filterMap fun (i, v) =>
        match lookup (ledgerAfter {} es).credit ⟨t.hash, i⟩ with
        | some chg => some (⟨i, v, Ledger.spent (ledgerAfter {} es) ⟨t.hash, i⟩, chg⟩ : CreditRecord)
        | none => none) ∧
      (d.credits.map (·.index)).Pairwise (· < ·) := by
  obtain ⟨s, h1, hg, hn, hs⟩ := good_sorted_reachable es hc
  have hd := details_refines_exact hg hn hs t.hash
  rw [details_known hg.lwf ht] at hd
  exact ⟨s, _, h1, hd, rfl, detailsOf_credits_sorted _ t ob⟩

/-- **C13, debit records, exactly**: the debit records are, as a LIST, the inputs of `t` that spend a credited output of
a known transaction, in ascending input index, each with that output's value -/
theorem C13_debit_exact (es : List Event) (hc : ConsistentHistory {} es) (t : Tx) (ob : Option BlockMeta)
    (ht : (t, ob) ∈ known (ledgerAfter {} es)) :
    ∃ s d, storeAfter Store.empty {} es = .ok s ∧ txDetails s t.hash = .ok (some d) ∧
      d.debits = ((withIdx t.ins).filterMap fun (j, inp) =>
        match creditValue (ledgerAfter {} es) inp with
        | some v => some (⟨j, v⟩ : DebitRecord)
        | none => none) ∧
      (d.debits.map (·.index)).Pairwise (· < ·) := by
  obtain ⟨s, h1, hg, hn, hs⟩ := good_sorted_reachable es hc
  have hd := details_refines_exact hg hn hs t.hash
  rw [details_known hg.lwf ht] at hd
  exact ⟨s, _, h1, hd, rfl, detailsOf_debits_sorted _ t ob⟩

/-- **C13, credit records**: for a known transaction `t`, the record `TxDetails` reports lists a credit for output `i`
exactly when `(t, i)` is credited — once —, with the value of that output, its change flag, and `spent` set exactly
when some known transaction (confirmed or not) spends it -/
theorem C13_credit (es : List Event) (hc : ConsistentHistory {} es) (t : Tx) (ob : Option BlockMeta)
    (ht : (t, ob) ∈ known (ledgerAfter {} es)) :
    ∃ s d, storeAfter Store.empty {} es = .ok s ∧ txDetails s t.hash = .ok (some d) ∧
      (d.credits.map (·.index)).Nodup ∧
      (∀ c, c ∈ d.credits ↔ ∃ chg, lookup (ledgerAfter {} es).credit ⟨t.hash, c.index⟩ = some chg ∧
        t.outs[c.index]? = some c.amount ∧ c.change = chg ∧ c.spent = Ledger.spent (ledgerAfter {} es) ⟨t.hash, c.index⟩) := by
  obtain ⟨s, d, h1, h2, e, hs⟩ := C13_credit_exact es hc t ob ht
  exact ⟨s, d, h1, h2, nodup_of_sorted hs, fun c => e ▸ mem_detailsOf_credits (ob := ob)⟩

/-- **C13, debit records**: the record lists a debit for input `j` exactly when the output that input spends is a
credited output of a known transaction — once —, with that output's value -/
theorem C13_debit (es : List Event) (hc : ConsistentHistory {} es) (t : Tx) (ob : Option BlockMeta)
    (ht : (t, ob) ∈ known (ledgerAfter {} es)) :
    ∃ s d, storeAfter Store.empty {} es = .ok s ∧ txDetails s t.hash = .ok (some d) ∧
      (d.debits.map (·.index)).Nodup ∧
      (∀ x, x ∈ d.debits ↔ ∃ inp, t.ins[x.index]? = some inp ∧ creditValue (ledgerAfter {} es) inp = some x.amount) := by
  obtain ⟨s, d, h1, h2, e, hs⟩ := C13_debit_exact es hc t ob ht
  exact ⟨s, d, h1, h2, nodup_of_sorted hs, fun x => e ▸ mem_detailsOf_debits (ob := ob)⟩

/-- **C13, range queries, exactly**: `RangeTransactions begin end` answers exactly `Ledger.range` in which the
unconfirmed batch lists the pool in ASCENDING HASH order (`rangeWith … pool'`, `pool'` a permutation of the pool with
strictly ascending hashes — which determines `pool'`; `rangeWith L L.pool = Ledger.range L`): the same batches in the same
order (unconfirmed batch first / last by the −1 rule, blocks ascending / descending), every block batch EQUAL to the
ledger's — the block's transactions in the order the wallet learned them (the block record's list is appended to in
delivery order, and so is the ledger's) — and every record equal to the ledger's, record order included -/
theorem C13_range_exact (es : List Event) (hc : ConsistentHistory {} es) (b e : Int) :
    ∃ s pool', storeAfter Store.empty {} es = .ok s ∧ pool'.Perm (ledgerAfter {} es).pool ∧
      (pool'.map (·.hash)).Pairwise (· < ·) ∧
      rangeTransactions s b e = .ok (rangeWith (ledgerAfter {} es) pool' b e) := by
  obtain ⟨s, h1, hg, hn, hs⟩ := good_sorted_reachable es hc
  exact ⟨s, _, h1, unmined_txs_perm hg, unmined_sorted hg hs, range_refines_exact hg hn hs b e⟩

/-- the block batches alone (no −1 bound: no unconfirmed batch): the answer IS `Ledger.range` -/
theorem C13_range_blocks_exact (es : List Event) (hc : ConsistentHistory {} es) (b e : Int) (hb : ¬ b < 0)
    (he : ¬ e < 0) :
    ∃ s, storeAfter Store.empty {} es = .ok s ∧ rangeTransactions s b e = .ok (Ledger.range (ledgerAfter {} es) b e) := by
  obtain ⟨s, pool', h1, _, _, h2⟩ := C13_range_exact es hc b e
  refine ⟨s, h1, ?_⟩
  rw [h2, range_eq]
  unfold rangeWith
  simp [hb, he]

/-- **C13, range queries**: `RangeTransactions begin end` succeeds and reports the ledger's batches in the ledger's
order — the unconfirmed batch first when `begin = −1`, last when only `end = −1`; the blocks with height in the range,
ascending or descending as asked, each batch holding exactly the transactions of that block in the order the wallet
learned them (resp. the unconfirmed transactions), each record agreeing with the ledger's as in `C13_credit/_debit` -/
theorem C13_range (es : List Event) (hc : ConsistentHistory {} es) (b e : Int) :
    ∃ s bs, storeAfter Store.empty {} es = .ok s ∧ rangeTransactions s b e = .ok bs ∧
      BatchesAgree bs (Ledger.range (ledgerAfter {} es) b e) := by
  obtain ⟨s, h1, hg, hn⟩ := good_reachable es hc
  obtain ⟨bs, h2, h3⟩ := range_refines hg hn b e
  exact ⟨s, bs, h1, h2, h3⟩

/-- **C13, removed transactions disappear**: when, after a chain-consistent history, no known transaction has hash `h`
— whether the transaction never arrived or an event removed it (abandoned, conflicted by a confirmation, depending on a
disconnected coinbase) — `TxDetails h` answers "none" and no batch of any range query holds a record with that hash -/
theorem C13_removed (es : List Event) (hc : ConsistentHistory {} es) (h : Nat)
    (hgone : isKnown (ledgerAfter {} es) h = false) (b e : Int) :
    ∃ s bs, storeAfter Store.empty {} es = .ok s ∧ txDetails s h = .ok none ∧
      rangeTransactions s b e = .ok bs ∧ ∀ ds ∈ bs, ∀ d ∈ ds, d.tx.hash ≠ h := by
  obtain ⟨s, h1, hg, hn, hs⟩ := good_sorted_reachable es hc
  have hk := isKnown_false_iff.mp hgone
  refine ⟨s, _, h1, txDetails_unknown hg hk, range_refines_exact hg hn hs b e, fun ds hds d hd e' => ?_⟩
  obtain ⟨ob, hob⟩ := rangeWith_known _ (fun t ht => (unmined_txs_perm hg).subset ht) b e ds hds d hd
  exact hk _ hob e'

/-- non-vacuity: credits delivered in the order output 1, output 0 are listed in ascending output index; two
unconfirmed transactions delivered in the order hash 9, hash 4 are listed in ascending hash order -/
def exOrder : List Event :=
  [.confirmed ⟨⟨1, 11⟩, 100⟩ ⟨2, [⟨77, 0⟩], [300, 400]⟩ [(1, true), (0, false)],
   .seen ⟨9, [⟨2, 1⟩], [150]⟩ [(0, false)],
   .seen ⟨4, [⟨2, 0⟩], [250]⟩ [(0, true)]]

example : (storeAfter Store.empty {} exOrder >>= fun s => txDetails s 2) =
    .ok (some ⟨⟨2, [⟨77, 0⟩], [300, 400]⟩, some ⟨⟨1, 11⟩, 100⟩, [⟨0, 300, true, false⟩, ⟨1, 400, true, true⟩], []⟩) := by
  decide
example : (storeAfter Store.empty {} exOrder >>= fun s => rangeTransactions s 0 (-1)).map
    (·.map (·.map (·.tx.hash))) = .ok [[2], [4, 9]] := by decide
example : (ledgerAfter {} exOrder).pool.map (·.hash) = [9, 4] := by decide
example : ConsistentHistory {} exOrder := consistentHistory_of_b _ _ (by decide)

end TxStore.C13

/-! ## Wallet level: `Wallet.GetTransactions` on the wallet model of engine `walletchain-sync`

`SyncTip.getTransactions w from to` (Model/SyncTip.lean) is `wallet.GetTransactions` on the record-level wallet model
(`w.mined` = wtxmgr's mined records `(tx, height, block hash)`, `w.unmined` = its unmined records): one entry of
`MinedTransactions` per block record the store visits — ascending when `from' < to'`, descending otherwise, a negative
bound standing for the mempool height — holding the transactions recorded at that height, and `UnminedTransactions` iff a
bound is negative.  The engine compares it with the real `Wallet.GetTransactions` after every `gettxs` op; the theorems
say that this answer reports every record in the range exactly once, under its block, for EVERY wallet state and range. -/
namespace SyncTip

/-- **soundness**: every transaction id listed under a reported block belongs to a mined record at that height, and the
    height is in the range. -/
theorem C13_wallet_history_sound (w : Wallet) (f t : Int) (h : Nat) (ids : List Nat)
    (hm : (h, ids) ∈ (getTransactions w f t).mined) (id : Nat) (hid : id ∈ ids) :
    InRange f t h ∧ ∃ r ∈ w.mined, r.height = h ∧ r.tx.id = id := by
  obtain ⟨hh, rfl⟩ := (mem_mined_iff w f t h ids).1 hm
  exact ⟨((mem_reportedHeights w f t h).1 hh).2, (mem_txsAt w h id).1 hid⟩

/-- **exactly once**: when no transaction has two mined records (a transaction is confirmed in one block), a mined
    record whose height is in the range is reported under its block, that block occurs once in the answer, the
    transaction occurs once in that block's list, and it is listed under no other block — in both directions and for
    every pair of bounds. -/
theorem C13_wallet_history_once (w : Wallet) (f t : Int) (hnd : (w.mined.map (·.tx.id)).Nodup) (r : Mined)
    (hr : r ∈ w.mined) (hin : InRange f t r.height) :
    (r.height, txsAt w r.height) ∈ (getTransactions w f t).mined ∧
    (reportedHeights w f t).count r.height = 1 ∧
    (txsAt w r.height).count r.tx.id = 1 ∧
    ∀ h ids, (h, ids) ∈ (getTransactions w f t).mined → r.tx.id ∈ ids → h = r.height := by
  have hh : r.height ∈ reportedHeights w f t := (mem_reportedHeights w f t r.height).2 ⟨⟨r, hr, rfl⟩, hin⟩
  refine ⟨(mem_mined_iff w f t _ _).2 ⟨hh, rfl⟩, ?_, ?_, ?_⟩
  · rw [(nodup_reportedHeights w f t).count, if_pos hh]
  · rw [(txsAt_perm w r.height).count_eq]
    have hsub : ((w.mined.filter (fun q => q.height == r.height)).map (·.tx.id)).Nodup :=
      hnd.sublist (List.filter_sublist.map _)
    rw [hsub.count, if_pos]
    exact List.mem_map.2 ⟨r, List.mem_filter.2 ⟨hr, by simp⟩, rfl⟩
  · intro h ids hm hid
    obtain ⟨_, q, hq, hqh, hqi⟩ := C13_wallet_history_sound w f t h ids hm _ hid
    have := List.Nodup.inj_of_map (f := fun m : Mined => m.tx.id) hnd hq hr hqi
    rw [← hqh, this]

/-- **blocks**: a height is reported iff a mined record exists at it and it lies in the range; no height twice. -/
theorem C13_wallet_history_blocks (w : Wallet) (f t : Int) :
    (∀ h, h ∈ reportedHeights w f t ↔ (∃ r ∈ w.mined, r.height = h) ∧ InRange f t h) ∧
    (reportedHeights w f t).Nodup :=
  ⟨mem_reportedHeights w f t, nodup_reportedHeights w f t⟩

/-- **order**: ascending iff `from' < to'`, otherwise descending. -/
theorem C13_wallet_history_order (w : Wallet) (f t : Int) :
    (rangeBound f < rangeBound t → (reportedHeights w f t).Pairwise (· < ·)) ∧
    (¬ rangeBound f < rangeBound t → (reportedHeights w f t).Pairwise (· > ·)) := by
  have hp : (recordHeights w).Pairwise (· < ·) := pairwise_heightsOf _
  rw [reportedHeights_eq]
  exact ⟨fun hbe => if_pos hbe ▸ hp.filter _, fun hbe => if_neg hbe ▸ List.pairwise_reverse.2 (hp.filter _)⟩

/-- **unconfirmed**: the unmined records are reported (each as often as it is stored) iff one of the bounds is
    negative. -/
theorem C13_wallet_history_unmined (w : Wallet) (f t : Int) :
    (f < 0 ∨ t < 0 → (getTransactions w f t).unmined.Perm (w.unmined.map (·.id))) ∧
    (¬ (f < 0 ∨ t < 0) → (getTransactions w f t).unmined = []) := by
  constructor
  · intro h; simp only [getTransactions, if_pos h]; exact perm_sortNat _
  · intro h; simp only [getTransactions, if_neg h]

/-! Non-vacuity: blocks with 2, 1, 1 wallet transactions (cf. seeded/C13-6), forwards and backwards. -/
example :
    let w : Wallet := { genesisWallet ⟨fun _ => 0, fun _ => []⟩ with
      mined := [⟨⟨1, false⟩, 2, some [2, 1]⟩, ⟨⟨2, false⟩, 2, some [2, 1]⟩, ⟨⟨3, false⟩, 3, some [3, 2, 1]⟩,
                ⟨⟨4, false⟩, 4, some [4, 3, 2, 1]⟩]
      unmined := [⟨9, false⟩] }
    (w.mined.map (·.tx.id)).Nodup ∧
    getTransactions w 0 (-1) = ⟨[(2, [1, 2]), (3, [3]), (4, [4])], [9]⟩ ∧
    getTransactions w (-1) 0 = ⟨[(4, [4]), (3, [3]), (2, [1, 2])], [9]⟩ ∧
    getTransactions w 3 2 = ⟨[(3, [3]), (2, [1, 2])], []⟩ := by
  refine ⟨by decide, by decide, by decide, by decide⟩

end SyncTip

