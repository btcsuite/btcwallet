import BtcwVerif.Lemmas.Crypto
/-!
# C17 — stored ciphertexts are authenticated and bound to the right passphrase

Theorems about `Model/Crypto.lean` (snacl + the key layer of waddrmgr.Manager). Everything the wallet's own code
does (layout, length checks, use of the authenticator verdict, parameter encoding, digest comparison, key
selection) is proved for ALL inputs. The strength of `secretbox` / `scrypt` / `sha256` enters only through the
hypotheses `AEAD.Correct` (functional, true of secretbox by construction), `AEAD.Binding`, `AEAD.Distance`,
`KDF.Binding` (idealised cryptographic assumptions; see Lemmas/Crypto.lean). `Toy.aead` is proved to satisfy
`Correct`, `Binding` and `Distance` (non-vacuity); the `example`s below instantiate the theorems with it.

FINDING (real code and model agree, property false as literally stated): `DeriveKey` accepts every passphrase with
the same HMAC-SHA256 key block as the creating one, e.g. the passphrase followed by NUL bytes
(`C17_counterexample_trailing_nul`); the exact-passphrase clause is therefore proved as
`C17_derive_wrong_pass_partial` for passphrases with a different key block.
-/
namespace Crypto

/-! ## Parameter encoding (unconditional, byte level) -/

theorem C17_marshal_length (p : Params) (h : p.WF) : (marshal p).length = marshalledLen := by
  simp [marshal, leBytes_length, h.salt_len, h.digest_len, marshalledLen, keySize, digestSize]

/-- `Unmarshal(Marshal(p)) = p` for every value of the Go type: 32-byte salt and digest, any 64-bit N, R, P
(negative ones included). -/
theorem C17_marshal_roundtrip (p : Params) (h : p.WF) : unmarshal (marshal p) = .ok p := by
  obtain ⟨hs, hd, nl, nh, rl, rh, pl, ph⟩ := h
  rw [marshal, unmarshal_append _ _ _ _ _ hs hd (leBytes_length ..) (leBytes_length ..) (leBytes_length ..),
    field_roundtrip _ nl nh, field_roundtrip _ rl rh, field_roundtrip _ pl ph]

/-- Exact behaviour of the length test: anything but 88 bytes is ErrMalformed (shorter AND longer). -/
theorem C17_unmarshal_length (b : Bytes) (h : b.length ≠ marshalledLen) : unmarshal b = .error .malformed :=
  if_pos h

/-- All parameter encodings: every 88-byte string decodes to a well-formed `Params` that re-encodes to exactly the
same bytes (so Marshal/Unmarshal are mutually inverse bijections between 88-byte strings and Go `Parameters`). -/
theorem C17_unmarshal_marshal (b : Bytes) (h : b.length = 88) :
    ∃ p, unmarshal b = .ok p ∧ p.WF ∧ marshal p = b := by
  obtain ⟨s, d, n, r, q, rfl, hs, hd, hn, hr, hq⟩ := split_fields b h
  have rn := ofU64_range _ (leNat_lt_two64 n hn)
  have rr := ofU64_range _ (leNat_lt_two64 r hr)
  have rq := ofU64_range _ (leNat_lt_two64 q hq)
  refine ⟨_, unmarshal_append s d n r q hs hd hn hr hq, ⟨hs, hd, rn.1, rn.2, rr.1, rr.2, rq.1, rq.2⟩, ?_⟩
  simp only [marshal]
  rw [field_roundtrip' n hn, field_roundtrip' r hr, field_roundtrip' q hq]

theorem C17_unmarshal_ok_iff (b : Bytes) : (∃ p, unmarshal b = .ok p) ↔ b.length = 88 := by
  refine ⟨fun ⟨p, h⟩ => Decidable.byContradiction fun hl => ?_,
    fun h => (C17_unmarshal_marshal b h).imp fun _ hp => hp.1⟩
  rw [C17_unmarshal_length b hl] at h
  cases h

theorem C17_short_malformed (A : AEAD) (k c : Bytes) (h : c.length < nonceSize) :
    decrypt A k c = .error .malformed :=
  if_pos h

/-- The boundary is exactly 24: a 24-byte input (nonce, empty box) is NOT malformed (it is a decrypt failure
under `Correct`, see `C17_tamper_truncate`). -/
theorem C17_malformed_iff (A : AEAD) (k c : Bytes) : decrypt A k c = .error .malformed ↔ c.length < 24 := by
  refine ⟨fun h => Decidable.byContradiction fun hl => ?_, C17_short_malformed A k c⟩
  rw [decrypt_of_le A k c (Nat.le_of_not_lt hl)] at h
  split at h <;> cases h

/-! ## Round trip, wrong key, tampering (conditional on the AEAD laws) -/

theorem C17_encrypt_length (A : AEAD) (hA : A.Correct) (n k m : Bytes) (hn : n.length = nonceSize) :
    (encryptWith A n k m).length = m.length + nonceSize + overhead := by
  simp [encryptWith, hA.seal_length, hn]; omega

/-- decrypt ∘ encrypt = id for every key, nonce and plaintext (the empty one included). -/
theorem C17_roundtrip (A : AEAD) (hA : A.Correct) (n k m : Bytes) (hn : n.length = nonceSize) :
    decrypt A k (encryptWith A n k m) = .ok m := by
  unfold encryptWith
  rw [decrypt_of_le _ _ _ (by simp [hn]), List.take_left' hn, List.drop_left' hn, hA.open_seal]

/-- The ONLY inputs `Decrypt` accepts under key `k` are genuine ciphertexts `nonce ‖ Seal(k, nonce, m')` — it
honours the authenticator verdict, uses the nonce from the input, and returns exactly the sealed message. -/
theorem C17_tamper (A : AEAD) (hA : A.Correct) (k c' m' : Bytes) :
    decrypt A k c' = .ok m' ↔ (nonceSize ≤ c'.length ∧ c' = encryptWith A (c'.take nonceSize) k m') := by
  constructor
  · intro h
    have hl : nonceSize ≤ c'.length := Decidable.byContradiction fun hl => by
      rw [C17_short_malformed A k c' (Nat.lt_of_not_le hl)] at h
      cases h
    rw [decrypt_of_le A k c' hl] at h
    split at h
    · next m hm =>
      cases h
      exact ⟨hl, by rw [encryptWith, ← hA.open_sound _ _ _ _ hm, List.take_append_drop]⟩
    · cases h
  · intro ⟨hl, he⟩
    rw [he]
    exact C17_roundtrip A hA _ k m' (List.length_take_of_le hl)

/-- Any input that is not itself a sealed box under `k` fails, with the error kind the length dictates; no data
is returned (the result is `.error`). -/
theorem C17_tamper_fails (A : AEAD) (hA : A.Correct) (k c' : Bytes)
    (hns : ∀ n m, n.length = nonceSize → c' ≠ encryptWith A n k m) :
    decrypt A k c' = .error (if c'.length < nonceSize then .malformed else .decryptFailed) := by
  by_cases hl : c'.length < nonceSize
  · rw [if_pos hl]; exact C17_short_malformed A k c' hl
  · rw [if_neg hl]
    have hl := Nat.le_of_not_lt hl
    cases hd : decrypt A k c' with
    | ok m' => exact absurd ((C17_tamper A hA k c' m').mp hd).2 (hns _ _ (List.length_take_of_le hl))
    | error e =>
      rw [decrypt_of_le A k c' hl] at hd
      split at hd <;> cases hd
      rfl

/-- Decryption under any other key (of the class for which key binding is assumed) fails. -/
theorem C17_wrong_key (A : AEAD) (hA : A.Correct) (K : Bytes → Prop) (hB : A.Binding K)
    (n k k' m : Bytes) (hn : n.length = nonceSize) (hk : K k) (hk' : K k') (hne : k ≠ k') :
    decrypt A k' (encryptWith A n k m) = .error .decryptFailed := by
  have h := C17_tamper_fails A hA k' (encryptWith A n k m) (by
    intro n' m' hn' he
    obtain ⟨rfl, h2⟩ := List.append_inj he (hn.trans hn'.symm)
    exact hne (hB k k' n m m' hk hk' h2))
  rw [h, if_neg (by simp [encryptWith, hn])]

/-- The general statement behind `C17_tamper_bitflip` and `C17_tamper_truncate`: what `Distance` rules out (`ht`), applied
to any `c'` that is no longer than the genuine ciphertext and differs from it. -/
theorem tamper_rejected (A : AEAD) (hA : A.Correct) (k : Bytes) (hD : A.Distance k)
    (n m : Bytes) (hn : n.length = nonceSize) (hm : m.length < maxLen) (c' : Bytes)
    (hlen : c'.length ≤ (encryptWith A n k m).length) (hne : c' ≠ encryptWith A n k m)
    (ht : isBitFlip (encryptWith A n k m) c' ∨ isTruncation (encryptWith A n k m) c') :
    decrypt A k c' = .error (if c'.length < nonceSize then .malformed else .decryptFailed) := by
  refine C17_tamper_fails A hA k c' fun n' m' hn' he => ?_
  subst he
  have hm' : m'.length < maxLen := by
    rw [C17_encrypt_length A hA n' k m' hn', C17_encrypt_length A hA n k m hn] at hlen
    omega
  exact ht.elim (hD n m n' m' hn hn' hm hm' hne).1 (hD n m n' m' hn hn' hm hm' hne).2

/-- EVERY single-bit flip of a genuine ciphertext (nonce, tag or body, any position) is rejected with
ErrDecryptFailed. -/
theorem C17_tamper_bitflip (A : AEAD) (hA : A.Correct) (k : Bytes) (hD : A.Distance k)
    (n m : Bytes) (hn : n.length = nonceSize) (hm : m.length < maxLen)
    (i : Nat) (hi : i < 8 * (encryptWith A n k m).length) :
    decrypt A k (flipBit (encryptWith A n k m) i) = .error .decryptFailed := by
  have hlen := flipBit_length (encryptWith A n k m) i
  rw [tamper_rejected A hA k hD n m hn hm _ (Nat.le_of_eq hlen) (flipBit_ne _ _ hi) (Or.inl ⟨i, hi, rfl⟩),
    if_neg (by rw [hlen, C17_encrypt_length A hA n k m hn]; omega)]

/-- EVERY truncation length `j < len(c)` of a genuine ciphertext is rejected: ErrMalformed for `j < 24`,
ErrDecryptFailed otherwise. -/
theorem C17_tamper_truncate (A : AEAD) (hA : A.Correct) (k : Bytes) (hD : A.Distance k)
    (n m : Bytes) (hn : n.length = nonceSize) (hm : m.length < maxLen)
    (j : Nat) (hj : j < (encryptWith A n k m).length) :
    decrypt A k ((encryptWith A n k m).take j) = .error (if j < nonceSize then .malformed else .decryptFailed) := by
  have hlen : ((encryptWith A n k m).take j).length = j := List.length_take_of_le (Nat.le_of_lt hj)
  rw [tamper_rejected A hA k hD n m hn hm _ (Nat.le_trans (Nat.le_of_eq hlen) (Nat.le_of_lt hj))
    (fun e => Nat.ne_of_lt hj (by rw [← hlen, e])) (Or.inr ⟨j, hj, rfl⟩), hlen]

/-- Truncations that cut into the authenticator (fewer than 40 bytes left) fail under `Correct` alone — no
idealised assumption needed. -/
theorem C17_tamper_truncate_short (A : AEAD) (hA : A.Correct) (k c : Bytes) (hl : c.length < nonceSize + overhead) :
    ∃ e, decrypt A k c = .error e :=
  ⟨_, C17_tamper_fails A hA k c fun n m hn he => by
    have := C17_encrypt_length A hA n k m hn
    rw [← he] at this
    omega⟩

/-- Encrypting twice (fresh nonces) never yields equal ciphertexts — whatever the keys and plaintexts. -/
theorem C17_fresh (A : AEAD) (n₁ n₂ k₁ k₂ m₁ m₂ : Bytes) (h1 : n₁.length = nonceSize) (h2 : n₂.length = nonceSize)
    (hne : n₁ ≠ n₂) : encryptWith A n₁ k₁ m₁ ≠ encryptWith A n₂ k₂ m₂ :=
  fun he => hne (List.append_inj he (h1.trans h2.symm)).1

/-- The general statement behind `C17_fresh_calls`, `_concurrent` and `_many`: `sched` is any order in which the calls
complete. -/
theorem fresh_of_perm (A : AEAD) {calls sched : List EncCall} (hp : sched.Perm calls)
    (hlen : ∀ c ∈ calls, c.nonce.length = nonceSize) (hne : calls.Pairwise fun a b => a.nonce ≠ b.nonce) :
    (encryptCalls A sched).Pairwise (· ≠ ·) := by
  unfold encryptCalls
  rw [List.pairwise_map]
  exact ((hp.pairwise_iff fun h => h.symm).2 hne).imp_of_mem fun ha hb h =>
    C17_fresh A _ _ _ _ _ _ (hlen _ (hp.mem_iff.1 ha)) (hlen _ (hp.mem_iff.1 hb)) h

/-- `n` encryptions whose nonces are pairwise distinct give pairwise distinct ciphertexts — whatever the keys and
plaintexts (in particular `n` times the same plaintext under the same key). -/
theorem C17_fresh_calls (A : AEAD) (calls : List EncCall) (hlen : ∀ c ∈ calls, c.nonce.length = nonceSize)
    (hne : calls.Pairwise fun a b => a.nonce ≠ b.nonce) : (encryptCalls A calls).Pairwise (· ≠ ·) :=
  fresh_of_perm A (.refl _) hlen hne

/-- `encryptMany` element by element (the form the driver evaluates). -/
theorem encryptMany_eq_map (A : AEAD) (key msg : Bytes) (nonces : List Bytes) :
    encryptMany A key msg nonces = nonces.map fun n => encryptWith A n key msg := by
  simp [encryptMany, encryptCalls, List.map_map, Function.comp_def]

/-- Concurrency form: several goroutines each make a sequence of `Encrypt` calls; for EVERY interleaving of them,
if the nonces drawn by all the calls are pairwise distinct (what a fresh random 24-byte nonce per call gives, and
what a Load-then-Store message counter does NOT give), all ciphertexts produced are pairwise distinct. -/
theorem C17_fresh_concurrent (A : AEAD) (threads : List (List EncCall)) (sched : List EncCall)
    (hs : Interleave threads sched)
    (hlen : ∀ c ∈ threads.flatten, c.nonce.length = nonceSize)
    (hne : threads.flatten.Pairwise fun a b => a.nonce ≠ b.nonce) :
    (encryptCalls A sched).Pairwise (· ≠ ·) :=
  fresh_of_perm A hs.perm hlen hne

/-- The `encpar` instance: one plaintext, one key, `nonces` in any order of completion. -/
theorem C17_fresh_many (A : AEAD) (key msg : Bytes) (nonces sched : List Bytes) (hp : sched.Perm nonces)
    (hlen : ∀ n ∈ nonces, n.length = nonceSize) (hne : nonces.Pairwise (· ≠ ·)) :
    (encryptMany A key msg sched).Pairwise (· ≠ ·) ∧ (encryptMany A key msg sched).length = nonces.length :=
  ⟨fresh_of_perm A (hp.map _) (fun c hc => by obtain ⟨n, hn, rfl⟩ := List.mem_map.1 hc; exact hlen n hn)
      (List.pairwise_map.mpr hne),
    by simp [encryptMany, encryptCalls, hp.length_eq]⟩

/-- Necessity (cf. seeded/C17-5): if two of the calls got the SAME nonce — e.g. two goroutines that
both executed the counter's atomic load before either executed its store — the two ciphertexts of the equal
plaintexts are byte-for-byte equal. -/
theorem C17_nonce_reuse_collides (A : AEAD) (key msg : Bytes) (nonces : List Bytes) (h : ¬ nonces.Nodup) :
    ¬ (encryptMany A key msg nonces).Nodup := by
  intro hn
  apply h
  unfold encryptMany encryptCalls at hn
  rw [List.map_map, List.Nodup, List.pairwise_map] at hn
  exact hn.imp fun hab e => hab (by rw [e])

/-- non-vacuity: three goroutines' calls, the toy nonces 0…5, one of the interleavings. -/
example : Interleave [[(⟨Toy.nonceOfId 0, Toy.keyOfId 1, [1, 2]⟩ : EncCall), ⟨Toy.nonceOfId 1, Toy.keyOfId 1, [1, 2]⟩],
      [⟨Toy.nonceOfId 2, Toy.keyOfId 1, [1, 2]⟩]]
    [⟨Toy.nonceOfId 0, Toy.keyOfId 1, [1, 2]⟩, ⟨Toy.nonceOfId 2, Toy.keyOfId 1, [1, 2]⟩, ⟨Toy.nonceOfId 1, Toy.keyOfId 1, [1, 2]⟩] := by
  refine .step _ 0 _ _ _ rfl (.step _ 1 _ _ _ rfl (.step _ 0 _ _ _ rfl (.done _ (by simp))))

example : (encryptMany Toy.aead (Toy.keyOfId 1) [1, 2] [Toy.nonceOfId 0, Toy.nonceOfId 2, Toy.nonceOfId 1]).Pairwise (· ≠ ·) :=
  (C17_fresh_many Toy.aead _ _ [Toy.nonceOfId 0, Toy.nonceOfId 1, Toy.nonceOfId 2] _
    (.cons _ (.swap _ _ _)) (by decide) (by decide)).1

example : ¬ (encryptMany Toy.aead (Toy.keyOfId 1) [1, 2] [Toy.nonceOfId 7, Toy.nonceOfId 7]).Nodup :=
  C17_nonce_reuse_collides _ _ _ _ (by simp)

/-- `DeriveKey` returns nil exactly when scrypt accepts the stored parameters and sha256 of the derived key equals
the FULL stored digest. -/
theorem C17_derive_iff (K : KDF) (sk : SecretKey) (pass : Bytes) :
    (sk.deriveKey K pass).2 = .ok () ↔
      (scryptCheck sk.params.N sk.params.R sk.params.P = .ok ∧
       K.hash (K.kdf (hmacBlock K.hash pass) sk.params.salt sk.params.N sk.params.R sk.params.P) = sk.params.digest) := by
  cases hc : scryptCheck sk.params.N sk.params.R sk.params.P
  · rw [deriveKey_of_check K sk pass hc]
    split <;> simp [*]
  all_goals simp [SecretKey.deriveKey, SecretKey.deriveKeyRaw, hc]

/-- Restart: the stored parameters round-trip and the creating passphrase re-derives exactly the same key. -/
theorem C17_derive_restart (K : KDF) (hH : ∀ x, (K.hash x).length = digestSize)
    (salt pass : Bytes) (N R P : Int) (sk : SecretKey) (hs : salt.length = keySize)
    (hN : -(two63 : Int) ≤ N ∧ N < (two63 : Int)) (hR : -(two63 : Int) ≤ R ∧ R < (two63 : Int))
    (hP : -(two63 : Int) ≤ P ∧ P < (two63 : Int))
    (h : newSecretKey K salt pass N R P = .ok sk) :
    SecretKey.unmarshal sk.marshal = .ok sk.zero ∧ sk.zero.deriveKey K pass = (sk, .ok ()) := by
  refine ⟨?_, rederive K salt pass pass N R P sk h rfl⟩
  obtain ⟨_, rfl⟩ := newSecretKey_ok K salt pass N R P sk h
  have hm := C17_marshal_roundtrip ⟨salt, K.hash (K.kdf (hmacBlock K.hash pass) salt N R P), N, R, P⟩
    ⟨hs, hH _, hN.1, hN.2, hR.1, hR.2, hP.1, hP.2⟩
  simp only [SecretKey.unmarshal, SecretKey.marshal, hm]
  rfl

/-- A passphrase with a different HMAC key block is rejected with ErrInvalidPassword, whatever was in the key field
before, and the key it leaves in the object is NOT the right key (snacl does not zero it: quirk mirrored; the
manager zeroes it in `lock()`). `_partial`: the property says "only the exact passphrase"; that is false
(`C17_counterexample_trailing_nul`), so the hypothesis is on the key blocks, and collision resistance of
sha256∘scrypt is the assumption `KDF.Binding`. -/
theorem C17_derive_wrong_pass_partial (K : KDF) (B : Bytes → Prop) (salt pass pass' : Bytes) (N R P : Int)
    (hB : K.Binding salt N R P B) (hb : B (hmacBlock K.hash pass)) (hb' : B (hmacBlock K.hash pass'))
    (hne : hmacBlock K.hash pass' ≠ hmacBlock K.hash pass)
    (sk sk0 : SecretKey) (h : newSecretKey K salt pass N R P = .ok sk) (h0 : sk0.params = sk.params) :
    (sk0.deriveKey K pass').2 = .error .invalidPassword ∧ (sk0.deriveKey K pass').1.key ≠ sk.key := by
  obtain ⟨hc, rfl⟩ := newSecretKey_ok K salt pass N R P sk h
  have hd : K.hash (K.kdf (hmacBlock K.hash pass') salt N R P) ≠ K.hash (K.kdf (hmacBlock K.hash pass) salt N R P) :=
    fun e => hne (hB _ _ hb' hb e)
  rw [deriveKey_of_check K sk0 pass' (by rw [h0]; exact hc), h0]
  exact ⟨if_neg hd, fun e => hd (congrArg K.hash e)⟩

/-- COUNTER-EXAMPLE to "accepts only the exact passphrase" — for EVERY KDF instance, so also for the real scrypt:
a key created from `pass` (shorter than 64 bytes) is re-derived, with ErrInvalidPassword NOT raised, from
`pass ‖ 0x00`. Reproduced on the real code by engine `crypto` (oracle key `DeriveKey.trailing-NUL-passphrase`). -/
theorem C17_counterexample_trailing_nul (K : KDF) (salt pass : Bytes) (N R P : Int) (sk : SecretKey)
    (hl : pass.length < 64) (h : newSecretKey K salt pass N R P = .ok sk) :
    pass ++ [0] ≠ pass ∧ sk.zero.deriveKey K (pass ++ [0]) = (sk, .ok ()) :=
  ⟨fun e => by simpa using congrArg List.length e,
    rederive K salt pass _ N R P sk h (hmacBlock_trailing_nul K.hash pass hl)⟩

/-- On passphrases of at most 64 bytes that do not end in NUL, the HMAC key block determines the passphrase: these
are the passphrases for which "only the exact passphrase" can (and, by `C17_derive_wrong_pass_partial`, does) hold. -/
theorem C17_hmacBlock_inj (hash : Bytes → Bytes) (p p' : Bytes) (hl : p.length ≤ 64) (hl' : p'.length ≤ 64)
    (hz : p.getLast? ≠ some 0) (hz' : p'.getLast? ≠ some 0) (h : hmacBlock hash p = hmacBlock hash p') : p = p' := by
  rw [hmacBlock_short _ _ hl, hmacBlock_short _ _ hl'] at h
  exact pad_inj p p' _ _ h hz hz'

theorem C17_mgr_roundtrip (A : AEAD) (hA : A.Correct) (m : Mgr) (kt : Nat) (n msg c : Bytes)
    (hn : n.length = nonceSize) (h : m.encrypt A kt n msg = .ok c) : m.decrypt A kt c = .ok msg := by
  cases hk : m.selectCryptoKey kt with
  | error e => simp [Mgr.encrypt, hk] at h
  | ok k =>
    rw [Mgr.encrypt_of_select hk] at h
    cases h
    simp [Mgr.decrypt, hk, C17_roundtrip A hA n k msg hn]

/-- Private and script key types are refused while locked or watching-only; nothing is encrypted/decrypted. -/
theorem C17_mgr_locked_denies (A : AEAD) (m : Mgr) (kt : Nat) (n x : Bytes)
    (hl : m.locked = true ∨ m.watchOnly = true) (hk : kt = 0 ∨ kt = 1) :
    m.encrypt A kt n x = .error .locked ∧ m.decrypt A kt x = .error .locked := by
  have : m.selectCryptoKey kt = .error .locked := by
    unfold Mgr.selectCryptoKey
    rcases hk with rfl | rfl <;> rcases hl with h | h <;> simp [h]
  simp [Mgr.encrypt, Mgr.decrypt, this]

/-- The manager returns data only for genuine ciphertexts under the key of the requested type — with ONE documented
exception (/repo b81a3ff, `decryptLegacyScript`): for CKTScript a box sealed under the all-zero key (a row written by a
version that never restored the script key) is still readable. Nothing else opens. -/
theorem C17_mgr_tamper (A : AEAD) (hA : A.Correct) (m : Mgr) (kt : Nat) (c' p : Bytes)
    (h : m.decrypt A kt c' = .ok p) :
    ∃ k, m.selectCryptoKey kt = .ok k ∧ nonceSize ≤ c'.length ∧
      (c' = encryptWith A (c'.take nonceSize) k p ∨
       (kt = 1 ∧ c' = encryptWith A (c'.take nonceSize) zeroKey p)) := by
  unfold Mgr.decrypt at h
  cases hk : m.selectCryptoKey kt with
  | error e => simp [hk] at h
  | ok k =>
    simp only [hk] at h
    cases hd : decrypt A k c' with
    | ok p' =>
      simp only [hd, Except.ok.injEq] at h
      have := (C17_tamper A hA k c' p).mp (h ▸ hd)
      exact ⟨k, rfl, this.1, Or.inl this.2⟩
    | error e =>
      simp only [hd] at h
      by_cases h1 : kt = 1
      · subst h1
        simp only [beq_self_eq_true, if_true, decryptLegacyScript] at h
        cases hz : decrypt A zeroKey c' with
        | error e' => simp [hz] at h
        | ok p' =>
          simp only [hz, Except.ok.injEq] at h
          have := (C17_tamper A hA zeroKey c' p).mp (h ▸ hz)
          exact ⟨k, rfl, this.1, Or.inr ⟨rfl, this.2⟩⟩
      · simp [h1] at h

/-- For every key type other than CKTScript there is no fallback: data comes back only for genuine ciphertexts under
that type's key. -/
theorem C17_mgr_tamper_strict (A : AEAD) (hA : A.Correct) (m : Mgr) (kt : Nat) (c' p : Bytes) (hkt : kt ≠ 1)
    (h : m.decrypt A kt c' = .ok p) :
    ∃ k, m.selectCryptoKey kt = .ok k ∧ nonceSize ≤ c'.length ∧ c' = encryptWith A (c'.take nonceSize) k p := by
  obtain ⟨k, h1, h2, h3 | ⟨h4, _⟩⟩ := C17_mgr_tamper A hA m kt c' p h
  · exact ⟨k, h1, h2, h3⟩
  · exact absurd h4 hkt

/-- `lock()` zeroes every private key of the hierarchy. -/
theorem C17_mgr_lock_zeroes (m : Mgr) :
    m.lock.locked = true ∧ m.lock.cryptoKeyPriv = zeroKey ∧ m.lock.cryptoKeyScript = zeroKey ∧
    m.lock.masterKeyPriv.key = zeroKey ∧ m.lock.privPass = none :=
  ⟨rfl, rfl, rfl, rfl, rfl⟩

/-- A failed `Unlock` (any error) always leaves the manager locked, with the private crypto key and the private master key
zeroed. -/
theorem C17_mgr_unlock_failure_locks (A : AEAD) (K : KDF) (m : Mgr) (pass : Bytes) (e : MgrErr)
    (hw : m.watchOnly = false) (h : (m.unlock A K pass).2 = .error e) :
    (m.unlock A K pass).1.locked = true ∧ (m.unlock A K pass).1.cryptoKeyPriv = zeroKey ∧
    (m.unlock A K pass).1.masterKeyPriv.key = zeroKey := by
  rcases Mgr.unlock_cases A K m pass hw rfl with ⟨m0, _, hr⟩ | ⟨_, hr⟩ | ⟨_, _, _, _, _, _, _, hr⟩
  · rw [hr]
    exact ⟨rfl, rfl, rfl⟩
  all_goals
    rw [hr] at h
    cases h

/-- Restart + unlock: what `Create` stored re-opens with the public passphrase (locked, public crypto key restored,
private ones zero) and `Unlock` with the private passphrase restores exactly the private AND the script crypto key
that were created (/repo b81a3ff); from then on `Encrypt(CKTScript, …)` seals under the created script key — never
under the all-zero key unless the created key itself were zero. -/
theorem C17_mgr_restart_unlock (A : AEAD) (hA : A.Correct) (K : KDF) (hH : ∀ x, (K.hash x).length = digestSize)
    (r : CreateRand) (pubPass privPass : Bytes) (N R P : Int)
    (hN : -(two63 : Int) ≤ N ∧ N < (two63 : Int)) (hR : -(two63 : Int) ≤ R ∧ R < (two63 : Int))
    (hP : -(two63 : Int) ≤ P ∧ P < (two63 : Int))
    (hs1 : r.saltPub.length = keySize) (hs2 : r.saltPriv.length = keySize)
    (hn1 : r.nPub.length = nonceSize) (hn2 : r.nPriv.length = nonceSize) (hn3 : r.nScript.length = nonceSize)
    (d : MgrDisk) (h : Mgr.create A K r pubPass (some privPass) N R P = .ok d) :
    ∃ m, Mgr.open_ A K d pubPass = .ok m ∧ m.locked = true ∧ m.cryptoKeyPub = r.keyPub ∧ m.cryptoKeyPriv = zeroKey ∧
      ∃ m', m.unlock A K privPass = (m', .ok ()) ∧ m'.locked = false ∧ m'.cryptoKeyPriv = r.keyPriv ∧
        m'.cryptoKeyPub = r.keyPub ∧ m'.cryptoKeyScript = r.keyScript ∧
        ∀ n x, m'.encrypt A 1 n x = .ok (encryptWith A n r.keyScript x) := by
  unfold Mgr.create at h
  cases h1 : newSecretKey K r.saltPub pubPass N R P with
  | error e => simp [h1] at h
  | ok mPub =>
    cases h2 : newSecretKey K r.saltPriv privPass N R P with
    | error e => simp [h1, h2] at h
    | ok mPriv =>
      simp only [h1, h2, Except.ok.injEq] at h
      subst h
      obtain ⟨u1, d1⟩ := C17_derive_restart K hH r.saltPub pubPass N R P mPub hs1 hN hR hP h1
      obtain ⟨u2, d2⟩ := C17_derive_restart K hH r.saltPriv privPass N R P mPriv hs2 hN hR hP h2
      have r1 := C17_roundtrip A hA r.nPub mPub.key r.keyPub hn1
      have r2 := C17_roundtrip A hA r.nPriv mPriv.key r.keyPriv hn2
      have r3 := C17_roundtrip A hA r.nScript mPriv.key r.keyScript hn3
      apply Exists.intro
      refine ⟨?_, ?_⟩
      · simp only [Mgr.open_, Bool.false_eq_true, if_false, u1, u2, d1, SecretKey.decrypt, SecretKey.encryptWith, r1]
        rfl
      refine ⟨rfl, rfl, rfl, ?_⟩
      apply Exists.intro
      refine ⟨?_, ?_⟩
      · simp only [Mgr.unlock, Bool.false_eq_true, if_false, Bool.not_true, d2, SecretKey.decrypt, r2, r3]
        rfl
      exact ⟨rfl, rfl, rfl, rfl, Mgr.encrypt_script A _ rfl rfl⟩

/-- After ANY successful `Unlock` of a locked manager the script key in memory is what the private master key opens
from `cryptoKeyScriptEncrypted`, and every `Encrypt(CKTScript, …)` seals under exactly that key (the all-zero key of
the locked state is gone). -/
theorem C17_mgr_script_key_after_unlock (A : AEAD) (K : KDF) (m m' : Mgr) (pass : Bytes)
    (hw : m.watchOnly = false) (hl : m.locked = true) (h : m.unlock A K pass = (m', .ok ())) :
    (m.masterKeyPriv.deriveKey K pass).1.decrypt A m.cryptoKeyScriptEncrypted = .ok m'.cryptoKeyScript ∧
    (m.masterKeyPriv.deriveKey K pass).1.decrypt A m.cryptoKeyPrivEncrypted = .ok m'.cryptoKeyPriv ∧
    m'.locked = false ∧
    ∀ n x, m'.encrypt A 1 n x = .ok (encryptWith A n m'.cryptoKeyScript x) := by
  rcases Mgr.unlock_cases A K m pass hw h with ⟨_, _, hr⟩ | ⟨hu, _⟩ | ⟨_, sk, k, ks, hd, hk, hks, hr⟩
  · cases hr
  · rw [hl] at hu
    cases hu
  · cases hr
    rw [hd]
    exact ⟨hks, hk, rfl, Mgr.encrypt_script A _ rfl hw⟩

/-- A private passphrase with a different key block: ErrWrongPassphrase, manager locked, private keys zero.
`_partial` for the same reason as `C17_derive_wrong_pass_partial`. -/
theorem C17_mgr_unlock_wrong_pass_partial (A : AEAD) (K : KDF) (B : Bytes → Prop) (salt pass pass' : Bytes) (N R P : Int)
    (hB : K.Binding salt N R P B) (hb : B (hmacBlock K.hash pass)) (hb' : B (hmacBlock K.hash pass'))
    (hne : hmacBlock K.hash pass' ≠ hmacBlock K.hash pass)
    (mPriv : SecretKey) (h : newSecretKey K salt pass N R P = .ok mPriv)
    (m : Mgr) (hw : m.watchOnly = false) (hl : m.locked = true) (hp : m.masterKeyPriv.params = mPriv.params) :
    (m.unlock A K pass').2 = .error .wrongPassphrase ∧ (m.unlock A K pass').1.locked = true ∧
    (m.unlock A K pass').1.cryptoKeyPriv = zeroKey ∧ (m.unlock A K pass').1.masterKeyPriv.key = zeroKey := by
  have hd := (C17_derive_wrong_pass_partial K B salt pass pass' N R P hB hb hb' hne mPriv m.masterKeyPriv h hp).1
  have he : (m.unlock A K pass').2 = .error .wrongPassphrase := by
    unfold Mgr.unlock
    simp only [hw, hl, Bool.false_eq_true, if_false, Bool.not_true]
    cases hr : m.masterKeyPriv.deriveKey K pass' with
    | mk sk res =>
      rw [hr] at hd
      cases hd
      rfl
  exact ⟨he, C17_mgr_unlock_failure_locks A K m pass' _ hw he⟩

/-- A failing `ChangePassphrase` changes nothing, neither in memory nor on disk. -/
theorem C17_mgr_changepass_failure_unchanged (A : AEAD) (K : KDF) (m : Mgr) (d : MgrDisk) (r : ChangeRand)
    (old new : Bytes) (priv : Bool) (N R P : Int) (e : MgrErr)
    (h : (m.changePassphrase A K d r old new priv N R P).2.2 = .error e) :
    (m.changePassphrase A K d r old new priv N R P).1 = m ∧ (m.changePassphrase A K d r old new priv N R P).2.1 = d := by
  rcases Mgr.changePassphrase_cases A K m d r old new priv N R P rfl with ⟨_, hr⟩ | ⟨hr, _⟩
  · rw [hr]
    exact ⟨rfl, rfl⟩
  · rw [hr] at h
    cases h

/-- After the private passphrase was changed on an UNLOCKED manager, the still-unlocked manager accepts exactly the new
passphrase: `Unlock(new)` succeeds and leaves it unlocked, `Unlock(p)` for any other `p` (the old one included) fails
with ErrWrongPassphrase and locks. -/
theorem C17_mgr_changepass_unlocked (A : AEAD) (K : KDF) (m : Mgr) (d : MgrDisk) (r : ChangeRand)
    (old new : Bytes) (N R P : Int) (hu : m.locked = false)
    (h : (m.changePassphrase A K d r old new true N R P).2.2 = .ok ()) :
    let m' := (m.changePassphrase A K d r old new true N R P).1
    m'.unlock A K new = (m', .ok ()) ∧ m'.locked = false ∧
    ∀ p, p ≠ new → (m'.unlock A K p).2 = .error .wrongPassphrase ∧ (m'.unlock A K p).1.locked = true := by
  rcases Mgr.changePassphrase_cases A K m d r old new true N R P rfl with ⟨_, hr⟩ | ⟨_, hr⟩
  · rw [hr] at h
    cases h
  · obtain ⟨h1, h2, h3'⟩ := hr rfl
    rw [hu] at h1 h2
    intro m'
    refine ⟨?_, h2, ?_⟩
    · simp [Mgr.unlock, m', h1, h2, h3']
    · intro p hp
      have : ¬ (new = p) := fun e => hp e.symm
      simp [Mgr.unlock, m', h1, h2, h3', this, Mgr.lock]

example : Toy.aead.Correct := Toy.aead_correct
example : Toy.aead.Binding Toy.GoodKey := Toy.aead_binding
example (k : Bytes) : Toy.aead.Distance k := Toy.aead_distance k

/-- every bit flip / truncation theorem instantiates on the toy, for every key, nonce, message, position. -/
example (k n m : Bytes) (hn : n.length = nonceSize) (hm : m.length < maxLen) (i : Nat)
    (hi : i < 8 * (encryptWith Toy.aead n k m).length) :
    decrypt Toy.aead k (flipBit (encryptWith Toy.aead n k m) i) = .error .decryptFailed :=
  C17_tamper_bitflip _ Toy.aead_correct k (Toy.aead_distance k) n m hn hm i hi

/-- the theorems instantiate: round trip and wrong key on the toy, for all messages/nonces. -/
example (n m : Bytes) (hn : n.length = nonceSize) :
    decrypt Toy.aead (Toy.keyOfId 1) (encryptWith Toy.aead n (Toy.keyOfId 1) m) = .ok m :=
  C17_roundtrip _ Toy.aead_correct n _ m hn

example (n m : Bytes) (hn : n.length = nonceSize) :
    decrypt Toy.aead Crypto.zeroKey (encryptWith Toy.aead n (Toy.keyOfId 1) m) = .error .decryptFailed :=
  C17_wrong_key _ Toy.aead_correct _ Toy.aead_binding n _ _ m hn (Toy.keyOfId_good 1) Toy.zeroKey_good (by decide)

/-- `KDF.Binding` is satisfiable: the identity KDF binds on all blocks. -/
example : (KDF.mk (fun b _ _ _ _ => b) id).Binding [] 16 8 1 (fun _ => True) := by
  intro b b' _ _ h; exact h

/-- a well-formed `Params` with negative and extreme fields. -/
example : ({ salt := List.replicate 32 7, digest := List.replicate 32 9, N := -1, R := 9223372036854775807,
             P := -9223372036854775808 } : Params).WF := by
  constructor <;> decide

/-- the byte layout on a concrete value: salt ‖ digest ‖ N ‖ R ‖ P, little endian (N = 16384 = 0x4000). -/
example : marshal { salt := List.replicate 32 0xaa, digest := List.replicate 32 0xbb, N := 16384, R := 8, P := 1 }
    = List.replicate 32 0xaa ++ List.replicate 32 0xbb ++ [0, 0x40, 0, 0, 0, 0, 0, 0] ++ [8, 0, 0, 0, 0, 0, 0, 0]
      ++ [1, 0, 0, 0, 0, 0, 0, 0] := rfl

/-- negative N is stored as its two's complement. -/
example : leBytes 8 (toU64 (-2)) = [0xfe, 0xff, 0xff, 0xff, 0xff, 0xff, 0xff, 0xff] := by decide

/-- scrypt's parameter check on the production and test parameters, and the divide-by-zero quirk. -/
example : scryptCheck 16384 8 1 = .ok ∧ scryptCheck 16 8 1 = .ok := by decide
example : scryptCheck 16 0 1 = .panic ∧ scryptCheck 16 8 0 = .panic ∧ scryptCheck 15 8 1 = .err ∧
    scryptCheck 16 (-1) (-1) = .err := by decide

end Crypto
