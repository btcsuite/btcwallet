/-
C14 — Unconfirmed transactions are returned parents-first, each exactly once.

Property theorems about `Kahn.dependencySort` (model of wtxmgr/kahnsort.go: `makeGraph`, `graphRoots`,
`DependencySort`, as called by `Store.UnminedTxs` and `Wallet.resendUnminedTxs`).

Quantification: `S` is ANY finite list of transactions with pairwise distinct hashes whose spend graph is acyclic
(chains, diamonds, several edges between the same pair, the same outpoint spent by two siblings or twice by one
transaction, independent components, inputs that refer to transactions outside `S`); `txOrder` is ANY order in
which Go's `range set` may visit the map (a permutation of `S`), `rootOrder` ANY order in which `range graph` may
visit the graph's keys (a permutation of the hashes).  No bound on sizes.
-/
import BtcwVerif.Lemmas.Kahn
namespace Kahn

theorem C14_perm (S txOrder : List Tx) (rootOrder : List Nat)
    (hnd : (hashes S).Nodup) (hdag : Acyclic S)
    (htx : txOrder.Perm S) (hroot : rootOrder.Perm (hashes S)) :
    (dependencySort txOrder rootOrder).Perm S :=
  (dependencySort_spec hnd hdag htx hroot).1

theorem C14_each_exactly_once (S txOrder : List Tx) (rootOrder : List Nat)
    (hnd : (hashes S).Nodup) (hdag : Acyclic S)
    (htx : txOrder.Perm S) (hroot : rootOrder.Perm (hashes S)) :
    (∀ t ∈ S, (dependencySort txOrder rootOrder).count t = 1) ∧
    (∀ t ∈ dependencySort txOrder rootOrder, t ∈ S) ∧
    (dependencySort txOrder rootOrder).length = S.length := by
  have hp := C14_perm S txOrder rootOrder hnd hdag htx hroot
  exact ⟨fun t ht => by rw [hp.count_eq, (nodup_of_hashes hnd).count, if_pos ht], fun t ht => hp.mem_iff.mp ht,
    hp.length_eq⟩

/-- **Parents first.**  If `c ∈ S` has an input spending an output of `p ∈ S`, then `p` is placed before `c`. -/
theorem C14_parents_first (S txOrder : List Tx) (rootOrder : List Nat)
    (hnd : (hashes S).Nodup) (hdag : Acyclic S)
    (htx : txOrder.Perm S) (hroot : rootOrder.Perm (hashes S)) :
    ∀ c ∈ S, ∀ i ∈ c.ins, ∀ p ∈ S, p.hash = i.1 →
      (hashes (dependencySort txOrder rootOrder)).idxOf p.hash
        < (hashes (dependencySort txOrder rootOrder)).idxOf c.hash := by
  intro c hc i hi p hp hpi
  exact (dependencySort_spec hnd hdag htx hroot).2 _ (mem_edges.mpr ⟨c, hc, rfl, hash_mem hp, i, hi, hpi.symm⟩)

/-- The verdict functions evaluated by the driver on the real code's output (`perm=`, `pf=`) hold of the model's
output: they are the executable form of the two theorems above. -/
theorem C14_spec_checkers (S txOrder : List Tx) (rootOrder : List Nat)
    (hnd : (hashes S).Nodup) (hdag : Acyclic S)
    (htx : txOrder.Perm S) (hroot : rootOrder.Perm (hashes S)) :
    isPerm S (hashes (dependencySort txOrder rootOrder)) = true ∧
    parentsFirst S (hashes (dependencySort txOrder rootOrder)) = true := by
  obtain ⟨hperm, hpf⟩ := dependencySort_spec hnd hdag htx hroot
  constructor
  · simp only [isPerm, Bool.and_eq_true, beq_iff_eq, List.all_eq_true]
    exact ⟨by rw [length_hashes, hperm.length_eq],
      fun h hh => by rw [(hashes_perm hperm).count_eq, hnd.count, if_pos hh]⟩
  · simpa only [parentsFirst, List.all_eq_true, decide_eq_true_eq] using hpf

/-- **Cyclic input** (cannot occur for real transactions: a hash commits to the hashes it spends).  Without the
acyclicity hypothesis — only "no transaction spends its own output" — the result still has no repeats, contains only
members of `S` and is parents-first among what it contains; but it may be incomplete (see the examples below: every
transaction on or below a cycle is silently dropped). -/
theorem C14_cyclic_sound_partial (S : List Tx) (rootOrder : List Nat)
    (hnd : (hashes S).Nodup) (hns : ∀ c ∈ S, ∀ i ∈ c.ins, i.1 ≠ c.hash)
    (hroot : rootOrder.Perm (hashes S)) :
    (∀ t ∈ dependencySort S rootOrder, t ∈ S) ∧ (hashes (dependencySort S rootOrder)).Nodup ∧
    ∀ e ∈ edges S, e.2 ∈ hashes (dependencySort S rootOrder) →
      (hashes (dependencySort S rootOrder)).idxOf e.1 < (hashes (dependencySort S rootOrder)).idxOf e.2 :=
  let ⟨_, h⟩ := dependencySort_inv hnd hns hroot
  ⟨fun t ht => h.mem t (Or.inl ht), by simpa using h.nodup, h.closed⟩

/-- The acyclicity hypothesis is decidable: `Kahn.acyclicB` (peel off, |S| times, the hashes without a remaining
parent; acyclic iff nothing is left) decides it, so `decide` can discharge `Acyclic S` on concrete sets. -/
theorem C14_acyclic_decidable (S : List Tx) : Acyclic S ↔ acyclicB S = true := (acyclicB_iff S).symm

/-- diamond with a double edge, a conflicting pair of siblings (2 and 3 both spend outpoint (1,0)), an outside input
and an independent transaction -/
def exS : List Tx :=
  [⟨4, [(2, 0), (3, 0), (2, 1)]⟩, ⟨2, [(1, 0), (77, 3)]⟩, ⟨1, [(99, 0)]⟩, ⟨3, [(1, 0)]⟩, ⟨5, []⟩]

example : (hashes exS).Nodup := by decide
example : Acyclic exS := acyclic_of_rank id (by decide)   -- by a ranking …
example : Acyclic exS := by decide                         -- … or by the decision procedure
example : ¬ Acyclic [⟨1, [(2, 0)]⟩, ⟨2, [(1, 0)]⟩, ⟨3, [(2, 1)]⟩, ⟨4, []⟩] := by decide
-- all hypotheses of the theorems hold of a concrete non-trivial instance (orders are arbitrary permutations)
example : (dependencySort exS.reverse [5, 3, 1, 2, 4]).Perm exS :=
  C14_perm exS exS.reverse [5, 3, 1, 2, 4] (by decide) (by decide) (List.reverse_perm _) (by decide)
example : edges exS = [(2, 4), (3, 4), (2, 4), (1, 2), (1, 3)] := by decide
-- two different pairs of iteration orders, two different (both correct) results
example : hashes (dependencySort exS [4, 2, 1, 3, 5]) = [1, 5, 2, 3, 4] := by decide
example : hashes (dependencySort exS.reverse [5, 3, 1, 2, 4]) = [5, 1, 3, 2, 4] := by decide
-- the double edge 2 → 4 is recorded twice on both sides (the "skip duplicate edges" test is ineffective)
example : ((makeGraph exS).get 2).outEdges = [4, 4] ∧ ((makeGraph exS).get 4).inDegree = 3 := by decide
-- the no-edges shortcut returns the roots in `rootOrder`
example : hashes (dependencySort [⟨1, [(9, 0)]⟩, ⟨2, []⟩, ⟨3, [(9, 0)]⟩] [3, 1, 2]) = [3, 1, 2] := by decide

/-- On a cyclic set the transactions on the cycle (1, 2) and below it (3) are dropped; only 4 is returned. -/
theorem C14_cyclic_drops :
    hashes (dependencySort [⟨1, [(2, 0)]⟩, ⟨2, [(1, 0)]⟩, ⟨3, [(2, 1)]⟩, ⟨4, []⟩] [1, 2, 3, 4]) = [4] := by decide

/-- The only input on which the "skip duplicate edges" test fires: a transaction spending two of its own outputs
(edge 7 → 7 recorded once, in-degree 1); it is never emitted. -/
example : ((makeGraph [⟨7, [(7, 0), (7, 1)]⟩]).get 7).inDegree = 1 ∧
    dependencySort [⟨7, [(7, 0), (7, 1)]⟩] [7] = [] := by decide

end Kahn
