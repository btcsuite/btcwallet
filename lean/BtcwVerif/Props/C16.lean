/-
C16 — Recovery from seed finds every used address within the look-ahead window; the birthday block is not late.
Property theorems about `Recovery` (model of wallet/recovery.go BranchRecoveryState, expandScopeHorizons,
RecoveryManager.Resurrect and wallet.go locateBirthdayBlock).

Quantification: the `C16_complete*` theorems hold for every window, every chain satisfying the look-ahead hypothesis,
every set of invalid children, every batch size and every set of resume points; the branch clauses for every reachable
branch state, also after `Resurrect`; the birthday clauses for every timestamp sequence, birthday and delta.

The look-ahead hypothesis is `LookAhead` (Lemmas/RecoveryDefs.lean): the payments of a block are all measured
against the next index after the EARLIER blocks (`nextAfter`), exactly as the property says.  That this is the right
reading — the real loop does not re-filter a block after a find in the same block (`batch = batch[BatchIndex+1:]`) —
is shown by `C16_same_block_jump_is_missed`.

Invalid children (`invalid`, `inv` below): which child indexes derive to an invalid key is an input; the model marks such
a child and extends the horizon by one, as `expandScopeHorizons` (wallet/wallet.go) and `Resurrect` (wallet/recovery.go)
do when `DeriveFromKeyPath` fails with `hdkeychain.ErrInvalidChild` (recognised with `errors.Is` since /repo d8ace74).
Locked/unlocked: the model has no lock state because a recovery that runs to its end scans identically in both; what
LOCKING THE WALLET WHILE IT RUNS does — it ends the run — is the subject of the interrupted-run theorems below.
-/
import BtcwVerif.Lemmas.RecoveryInterrupt
namespace Recovery

/-- After `expandScopeHorizons` every valid child index below `nextUnfound + window` is watched, at least `window`
    valid indices at or above `nextUnfound` are watched (invalid children extend the horizon), and the bookkeeping
    invariant is kept. -/
theorem C16_branch_horizon (inv : List Nat) (b : Branch) (h : BranchOK inv b) :
    let b' := expand inv b
    BranchOK inv b' ∧ b'.nextUnfound = b.nextUnfound ∧ b'.nextUnfound + b'.window ≤ b'.horizon ∧
      (∀ i, i < b'.nextUnfound + b'.window → Valid inv i → i ∈ b'.addrs) ∧
      b'.window ≤ ((List.range b'.horizon).filter (fun i => decide (b'.nextUnfound ≤ i) && !inv.contains i)).length := by
  have e := expand_spec h
  exact ⟨e.ok, e.nextUnfound_eq, e.horizon_le, fun i hi => e.ok.watched i (Nat.lt_of_lt_of_le hi e.horizon_le), e.count⟩

/-- The invariant holds initially and is kept by `ReportFound` (any index), so it holds in every state the recovery
    loop reaches. -/
theorem C16_branch_invariant_reachable (inv : List Nat) (w : Nat) :
    BranchOK inv (Branch.new w) ∧ ∀ b i, BranchOK inv b → BranchOK inv (b.reportFound i) :=
  ⟨branchOK_new inv w, fun _ i h => branchOK_reportFound h i⟩

/-- Resumed recovery (`Resurrect` with `count` keys already issued, then the first horizon expansion) watches every
    valid index below `count + window`. -/
theorem C16_resume_horizon (w : Nat) (inv : List Nat) (count : Nat) :
    let b' := expand inv (resurrectBranch w inv count)
    b'.nextUnfound = count ∧ (∀ i, i < count + w → Valid inv i → i ∈ b'.addrs) := by
  obtain ⟨h1, h3, h4⟩ := resurrect_ok w inv count
  have e := expand_spec h1
  exact ⟨e.nextUnfound_eq.trans h3, fun i hi => e.watched i (by rw [h3, h4]; exact hi)⟩

/-- Per-branch core of completeness: if a block pays index `i` on a branch whose state is expanded and `i` is within
    the look-ahead hypothesis (`i < nextUnfound + window`, `i` valid), then `i` is in the watched set handed to
    `FilterBlocks`, hence found.  (The whole loop is `C16_complete`.) -/
theorem C16_complete_step_partial (inv : List Nat) (b : Branch) (h : BranchOK inv b) (i : Nat)
    (hi : i < b.nextUnfound + b.window) (hv : Valid inv i) : i ∈ (expand inv b).addrs :=
  (expand_spec h).watched i hi hv

/-- C16, whole loop.  For every window `W` (for `W = 0` the hypothesis admits no payment at all), every set of
    invalid child indices, every chain that is well-formed (`ChainWF`: unique transaction ids, wallet outputs are
    spent only by later transactions and at most once, paid child indices are valid) and satisfies the look-ahead
    hypothesis, every batch size and every set of resume points (`cuts n` = the process is interrupted after the
    n-th batch and resumed through `Resurrect`): recovery from seed finds every used address, records every
    transaction paying to or spending from them, ends with exactly the right credits and balance, and leaves each
    branch's next index above the highest used one.
    (`recover` starts from the empty database of a wallet just created from its seed; recovery itself leases nothing
    and stores no unmined transaction, `quiet_recover`, so the balance clause is unconditional here.) -/
theorem C16_complete (invalid : BranchId → List Nat) (W batchSize : Nat) (scopes : List Nat) (c : Chain)
    (cuts : Nat → Bool) (hwf : ChainWF scopes invalid c) (hla : LookAhead W scopes c) :
    Complete scopes c (recover invalid W batchSize scopes c cuts) ∧
    balance (recover invalid W batchSize scopes c cuts) = ledgerBalance scopes (allTxs c) :=
  ⟨complete_of_pinv (recover_inv hwf hla batchSize cuts).1,
   (complete_of_pinv (recover_inv hwf hla batchSize cuts).1).2.2.2 (quiet_recover invalid W batchSize scopes c cuts).hidden⟩

/-- A later recovery (wallet restarted when the chain has grown by `rest`, possibly with another window `W'`),
    starting from what ANY complete earlier run left in the database (`PInv`, e.g. `C16_recover_leaves_pinv`): the
    conclusion holds for the whole chain, provided the NEW blocks satisfy the look-ahead hypothesis with `W'`
    relative to everything before them (`LookAheadFrom … p.length`; nothing is asked of the old blocks again).
    Recovered outputs may be leased (`LeaseOutput`) and the store may hold unmined transactions spending them at the
    restart — `st0.leased`, `st0.unmined` are arbitrary: `resurrect` watches such outputs too (`OutputsToWatch`; what
    happens otherwise: `C16_resumed_misses_spend_of_hidden_output`).
    The balance clause of `Complete` is conditional on nothing being hidden at the end, because `CalculateBalance`
    itself leaves hidden outputs out. -/
theorem C16_complete_resumed (invalid : BranchId → List Nat) (W' batchSize : Nat) (scopes : List Nat) (p rest : Chain)
    (cuts : Nat → Bool) (st0 : State) (hp : PInv scopes p p st0) (hwf : ChainWF scopes invalid (p ++ rest))
    (hla : LookAheadFrom W' scopes p.length (p ++ rest)) :
    Complete scopes (p ++ rest)
      (recoverChain invalid batchSize (rest.length + 1) (resurrect invalid { st0 with window := W' }) rest cuts 0) := by
  exact complete_of_pinv
    (recoverChain_spec batchSize cuts (rest.length + 1) rest p _ 0 rfl (Nat.lt_succ_self _)
      ⟨hwf, hla, resurrect_inv rfl (pinv_window W' (pinv_extend hwf hp)) rfl⟩).inv.1

/-- …and a finished `recover` leaves such a database. -/
theorem C16_recover_leaves_pinv (invalid : BranchId → List Nat) (W batchSize : Nat) (scopes : List Nat) (c : Chain)
    (cuts : Nat → Bool) (hwf : ChainWF scopes invalid c) (hla : LookAhead W scopes c) :
    PInv scopes c c (recover invalid W batchSize scopes c cuts) :=
  (recover_inv hwf hla batchSize cuts).1

/-! ### Interrupted-and-resumed recoveries

A run of `Wallet.recovery` can end early: the wallet is locked (`Wallet.Lock`, the unlock timeout) or stopped while
the block loop is running (`endRecovery` sets the quit flag, looked at once per height), or `FilterBlocks` fails inside
a batch.  What is on disk then is what the batches completed before committed — the sync point is stored in the SAME
database transaction as the batch's findings — i.e. the result of a run over a prefix `c.take n` of the chain
(`recoverInterrupted`, `recoverChainFail`).  The next run (`syncWithChain` retried, or the wallet reopened) starts
above the stored sync point through `Resurrect`.  The conclusion of C16 holds for the final state, for every `n`. -/

/-- C16 for a from-seed recovery (window `W`, any resume points `cuts`) that got through the first `n` blocks only —
    whatever ended it — and is resumed later with window `W'` (any resume points `cuts'`): every used address is
    found, every transaction recorded, credits and next indices right, for every well-formed chain satisfying the
    look-ahead hypothesis (with `W` on the whole chain, with `W'` on the blocks above `n`; for `W' = W` the second
    follows from the first, `LookAhead.from`). -/
theorem C16_complete_interrupted (invalid : BranchId → List Nat) (W W' batchSize : Nat) (scopes : List Nat) (c : Chain)
    (n : Nat) (cuts cuts' : Nat → Bool) (hwf : ChainWF scopes invalid c) (hla : LookAhead W scopes c)
    (hla' : LookAheadFrom W' scopes n c) :
    Complete scopes c
      (recoverChain invalid batchSize ((c.drop n).length + 1)
        (resurrect invalid { recover invalid W batchSize scopes (c.take n) cuts with window := W' })
        (c.drop n) cuts' 0) := by
  have e : c.take n ++ c.drop n = c := List.take_append_drop n c
  have hwfp : ChainWF scopes invalid (c.take n) := ChainWF.prefix (q := c.drop n) (by rw [e]; exact hwf)
  have hlap : LookAhead W scopes (c.take n) := LookAhead.prefix (q := c.drop n) (by rw [e]; exact hla)
  have hp := C16_recover_leaves_pinv invalid W batchSize scopes (c.take n) cuts hwfp hlap
  have h := C16_complete_resumed invalid W' batchSize scopes (c.take n) (c.drop n) cuts' _ hp (by rw [e]; exact hwf)
    (by rw [e, List.length_take]; exact hla'.min_len)
  rw [e] at h
  exact h

/-- A recovery interrupted by Lock, the unlock timeout or Stop.  The wallet is locked / its unlock timeout fires / it is stopped while `recovery()` fetches
    the `k`-th block: the run ends before block `k+1`, the batches completed by then (`committedAt batchSize k`
    blocks) are on disk (`recoverInterrupted`), and the recovery is resumed above them.  The final state is complete.
    (What `syncWithChain` must NOT do is treat the interrupted run as finished and mark the wallet synced to the tip
    after the ordinary rescan: the blocks above `committedAt batchSize k` would never be scanned with the look-ahead
    window — oracle keys `*.interrupted-by-lock`, `*.interrupted-by-unlock-timeout`, `*.after-stop-interrupt`.) -/
theorem C16_complete_lock_interrupted (invalid : BranchId → List Nat) (W batchSize : Nat) (scopes : List Nat) (c : Chain)
    (k : Nat) (cuts cuts' : Nat → Bool) (hwf : ChainWF scopes invalid c) (hla : LookAhead W scopes c) :
    Complete scopes c
      (recoverChain invalid batchSize ((c.drop (committedAt batchSize k)).length + 1)
        (resurrect invalid
          { recoverInterrupted invalid batchSize (resurrect invalid (State.init W scopes)) c cuts k with window := W })
        (c.drop (committedAt batchSize k)) cuts' 0) := by
  rw [recoverInterrupted_eq_recover]
  exact C16_complete_interrupted invalid W W batchSize scopes c (committedAt batchSize k) cuts cuts' hwf hla (hla.from _)

/-- A recovery ended by a failed batch and a process restart.  `FilterBlocks` fails inside a batch (request number `target`), the process is stopped
    before any in-process retry and restarted: on disk is what the EARLIER batches committed (`recoverChainFail`
    returns that state and the number `n` of blocks it covers — the failed batch's transaction, which also holds the
    batch's sync points, is rolled back), the new process resumes above block `n`.  The final state is complete.
    (Committing the batch's sync points before the batch is scanned breaks exactly this — oracle keys
    `*.after-failed-batch`.  The IN-PROCESS retry after a failed batch is outside the model: KNOWN-FINDING
    retry-after-failed-batch.) -/
theorem C16_complete_after_failed_batch (invalid : BranchId → List Nat) (W W' batchSize : Nat) (scopes : List Nat)
    (c : Chain) (target : Nat) (st1 : State) (n : Nat) (cuts' : Nat → Bool)
    (hf : recoverChainFail invalid batchSize target (c.length + 1) (resurrect invalid (State.init W scopes)) c 0 =
      some (st1, n))
    (hwf : ChainWF scopes invalid c) (hla : LookAhead W scopes c) (hla' : LookAheadFrom W' scopes n c) :
    Complete scopes c
      (recoverChain invalid batchSize ((c.drop n).length + 1) (resurrect invalid { st1 with window := W' })
        (c.drop n) cuts' 0) := by
  obtain ⟨m, hn, hm, hst⟩ := recoverChainFail_spec invalid batchSize target _ _ _ _ _ _ hf
  rw [Nat.zero_add] at hn
  subst hn
  have hrec : st1 = recover invalid W batchSize scopes (c.take n) (fun _ => false) := by
    rw [hst, recover, List.length_take, Nat.min_eq_left hm]
  rw [hrec]
  exact C16_complete_interrupted invalid W W' batchSize scopes c n (fun _ => false) cuts' hwf hla hla'

/-- The hypotheses are decidable: `checkWF` / `checkLA` (run by the driver on every generated chain) imply them. -/
theorem C16_complete_checked (invalid : BranchId → List Nat) (W batchSize : Nat) (scopes : List Nat) (c : Chain)
    (cuts : Nat → Bool) (h1 : checkWF scopes invalid c = true) (h2 : checkLA W scopes c = true) :
    Complete scopes c (recover invalid W batchSize scopes c cuts) ∧
    balance (recover invalid W batchSize scopes c cuts) = ledgerBalance scopes (allTxs c) :=
  C16_complete invalid W batchSize scopes c cuts (checkWF_sound scopes invalid c h1) (checkLA_sound W scopes c h2)

/-! The hypotheses can be met, and the look-ahead hypothesis is tight.  Window 2, scope 0.  Block 1: tx 1 pays external index 1 (a jump of W-1 = 1 over
    index 0).  Block 2: tx 2 spends that output and pays internal index 0 and external index 3 (= next index 2 + W − 1);
    tx 3 (same block) spends tx 2's change.  Child 2 of the external branch is invalid. -/
def exInvalid : BranchId → List Nat := fun br => if br = (0, false) then [2] else []
def exChain : Chain :=
  [(1, [⟨1, [], [⟨some ⟨0, false, 1⟩, 50⟩, ⟨none, 7⟩]⟩]),
   (2, [⟨2, [(1, 0)], [⟨some ⟨0, true, 0⟩, 30⟩, ⟨some ⟨0, false, 3⟩, 15⟩]⟩, ⟨3, [(2, 0)], [⟨none, 29⟩]⟩])]

example : ChainWF [0] exInvalid exChain := checkWF_sound _ _ _ (by decide)
example : LookAhead 2 [0] exChain := checkLA_sound _ _ _ (by decide)
example : ledgerBalance [0] (allTxs exChain) = 15 := by decide
example : balance (recover exInvalid 2 1 [0] exChain (fun _ => true)) = 15 :=
  (C16_complete_checked exInvalid 2 1 [0] exChain (fun _ => true) (by decide) (by decide)).2.trans (by decide)

/-- …and the restart form: block 1 recovered with window 2, the wallet restarted when block 2 exists. -/
example : Complete [0] exChain
    (recoverChain exInvalid 1 2 (resurrect exInvalid
      { recover exInvalid 2 1 [0] (exChain.take 1) (fun _ => false) with window := 2 }) (exChain.drop 1) (fun _ => false) 0) :=
  C16_complete_resumed exInvalid 2 1 [0] (exChain.take 1) (exChain.drop 1) (fun _ => false) _
    (C16_recover_leaves_pinv exInvalid 2 1 [0] (exChain.take 1) (fun _ => false)
      (checkWF_sound _ _ _ (by decide)) (checkLA_sound _ _ _ (by decide)))
    (checkWF_sound _ _ _ (by decide)) (checkLAFrom_sound _ _ _ _ (by decide))

/-- …and the interrupted forms (batch size 1): the wallet is locked while block 1 is fetched — block 1's batch is
    committed, block 2 is scanned by the resumed run; the 2nd FilterBlocks request (made by block 2's batch) fails —
    block 1 stays, block 2 is scanned after the restart. -/
example : committedAt 1 1 = 1 := by decide
example : Complete [0] exChain
    (recoverChain exInvalid 1 ((exChain.drop (committedAt 1 1)).length + 1)
      (resurrect exInvalid
        { recoverInterrupted exInvalid 1 (resurrect exInvalid (State.init 2 [0])) exChain (fun _ => false) 1 with window := 2 })
      (exChain.drop (committedAt 1 1)) (fun _ => false) 0) :=
  C16_complete_lock_interrupted exInvalid 2 1 [0] exChain 1 (fun _ => false) (fun _ => false)
    (checkWF_sound _ _ _ (by decide)) (checkLA_sound _ _ _ (by decide))
example : (recoverChainFail exInvalid 1 2 3 (resurrect exInvalid (State.init 2 [0])) exChain 0).map (·.2) = some 1 := by
  decide
example : ∀ st1, recoverChainFail exInvalid 1 2 (exChain.length + 1) (resurrect exInvalid (State.init 2 [0])) exChain 0 =
      some (st1, 1) →
    Complete [0] exChain
      (recoverChain exInvalid 1 ((exChain.drop 1).length + 1) (resurrect exInvalid { st1 with window := 2 })
        (exChain.drop 1) (fun _ => false) 0) :=
  fun st1 h => C16_complete_after_failed_batch exInvalid 2 2 1 [0] exChain 2 st1 1 (fun _ => false) h
    (checkWF_sound _ _ _ (by decide)) (checkLA_sound _ _ _ (by decide)) ((checkLA_sound _ _ _ (by decide)).from _)

/-- The look-ahead hypothesis is tight: a jump of `W` beyond the next index (here: window 2, first payment at
    index 2) is outside it, and is indeed missed. -/
theorem C16_lookahead_is_tight :
    let c : Chain := [(1, [⟨1, [], [⟨some ⟨0, false, 2⟩, 50⟩]⟩])]
    ¬ LookAhead 2 [0] c ∧ (recover (fun _ => []) 2 1 [0] c (fun _ => false)).used = [] := by
  refine ⟨?_, by decide⟩
  intro h
  have := h [] 1 _ [] rfl ⟨0, false, 2⟩ (by decide) (by decide)
  revert this; decide

/-- Payments of ONE block are measured against the earlier blocks, not against each other: a block paying indices 1
    and 2 with window 2 (2 is within the window of 1, but not of the next index 0 before the block) violates the
    hypothesis, and the real loop — which does not re-filter a block after a find in it — misses index 2: its
    address is never marked used, the next index stays at 2 and the 5 coins are not credited.  (Outside the
    property's hypothesis as worded: "less than W beyond the highest index paid in EARLIER blocks".) -/
theorem C16_same_block_jump_is_missed :
    let c : Chain := [(1, [⟨1, [], [⟨some ⟨0, false, 1⟩, 50⟩]⟩, ⟨2, [], [⟨some ⟨0, false, 2⟩, 5⟩]⟩])]
    ¬ LookAhead 2 [0] c ∧
    (recover (fun _ => []) 2 1 [0] c (fun _ => false)).used = [⟨0, false, 1⟩] ∧
    (recover (fun _ => []) 2 1 [0] c (fun _ => false)).nextOf (0, false) = 2 ∧
    balance (recover (fun _ => []) 2 1 [0] c (fun _ => false)) = 50 ∧ ledgerBalance [0] (allTxs c) = 55 := by
  refine ⟨?_, by decide⟩
  intro h
  have := h [] 1 _ [] rfl ⟨0, false, 2⟩ (by decide) (by decide)
  revert this; decide

/-- The code before /repo 50a099b — `Wallet.recovery` rebuilt the watched outpoints of a resumed recovery from
    `TxStore.UnspentOutputs` (`resurrectOld`), which omits outputs that are leased (`LeaseOutput`) and outputs spent by
    an unmined transaction — misses spends of such outputs.  Block 1 pays wallet address 0 (50); recovery finds it.
    Then (i) the output is leased, or (ii) an unmined transaction 2 spending it reaches the wallet; the wallet stops,
    block 2 confirms transaction 2 (paying somebody else), the wallet restarts: the old resumed recovery does not
    notice transaction 2.  In (i) the output is unspent for the wallet once the lease ends (balance 50, truth 0); in
    (ii) transaction 2 stays unmined for ever.  The fixed code (`resurrect`, `OutputsToWatch`) records transaction 2
    in both cases — an instance of `C16_complete_resumed`. -/
theorem C16_resumed_misses_spend_of_hidden_output :
    let p : Chain := [(1, [⟨1, [], [⟨some ⟨0, false, 0⟩, 50⟩]⟩])]
    let rest : Chain := [(2, [⟨2, [(1, 0)], [⟨none, 49⟩]⟩])]
    let noInv : BranchId → List Nat := fun _ => []
    let st0 := recover noInv 2 1 [0] p (fun _ => false)
    let resumeOld := fun (st : State) => recoverChain noInv 1 2 (resurrectOld noInv st) rest (fun _ => false) 0
    let resume := fun (st : State) => recoverChain noInv 1 2 (resurrect noInv st) rest (fun _ => false) 0
    let t2 : Tx := ⟨2, [(1, 0)], [⟨none, 49⟩]⟩
    checkWF [0] noInv (p ++ rest) = true ∧ checkLAFrom 2 [0] 1 (p ++ rest) = true ∧
    ledgerBalance [0] (allTxs (p ++ rest)) = 0 ∧
    -- control: nothing hidden ⇒ the old code finds the spend, too
    ((2, 2) ∈ (resumeOld st0).txs ∧ balance (resumeOld st0) = 0) ∧
    -- (i) leased output: old code misses, fixed code finds
    (∃ st1, leaseOutput st0 (1, 0) = some st1 ∧ (2, 2) ∉ (resumeOld st1).txs ∧
      (∃ st3, releaseOutput (resumeOld st1) (1, 0) = some st3 ∧ balance st3 = 50) ∧
      (2, 2) ∈ (resume st1).txs ∧ balance (resume st1) = 0) ∧
    -- (ii) spent by an unmined transaction: old code misses, fixed code finds and the unmined record is gone
    ((2, 2) ∉ (resumeOld (addUnmined st0 t2)).txs ∧
      (resumeOld (addUnmined st0 t2)).unmined.any (fun t => t.id == 2) = true ∧
      (2, 2) ∈ (resume (addUnmined st0 t2)).txs ∧ (resume (addUnmined st0 t2)).unmined = []) := by
  refine ⟨by decide, by decide, by decide, by decide,
    ⟨_, rfl, by decide, ⟨_, rfl, by decide⟩, by decide⟩, by decide⟩

/-- The binary search always returns a block (no timestamp assumption). -/
theorem C16_birthday_terminates (ts : Nat → Int) (b delta : Int) (best : Nat) :
    ∃ r, locateBirthdayBlock ts b delta best = some r ∧ r ≤ best :=
  (locateBirthdayBlock_spec ts b delta best).imp fun _ h => ⟨h.1, h.2.1⟩

/-- The returned block is the genesis block or its timestamp is at most birthday + delta. -/
theorem C16_birthday_not_late (ts : Nat → Int) (b delta : Int) (hd : 0 ≤ delta) (best : Nat) (hm : Mono ts best)
    (r : Nat) (h : locateBirthdayBlock ts b delta best = some r) : r = 0 ∨ ts r ≤ b + delta := by
  have _ := hm  -- not needed: the search invariant `left = 0 ∨ ts left - b < -delta` gives this clause by itself
  obtain ⟨r', hr', _, hp⟩ := locateBirthdayBlock_spec ts b delta best
  cases hr'.symm.trans h
  exact (hp hd).1

/-- Hence, for monotone timestamps, every block up to and including the returned one (scanning starts right above
    it) has a timestamp ≤ birthday + delta: no block that could pay the wallet is skipped. -/
theorem C16_birthday_skips_nothing (ts : Nat → Int) (b delta : Int) (hd : 0 ≤ delta) (best : Nat) (hm : Mono ts best)
    (r : Nat) (h : locateBirthdayBlock ts b delta best = some r) : ∀ k, k ≤ r → r ≠ 0 → ts k ≤ b + delta := by
  obtain ⟨r', hr', hrb, hp⟩ := locateBirthdayBlock_spec ts b delta best
  cases hr'.symm.trans h
  exact fun k hk hr0 => Int.le_trans (hm k r hk hrb) ((hp hd).1.resolve_left hr0)

/-- **Backend still catching up when the wallet connects** (a full node in initial block download: `IsCurrent()` false,
    `GetBestBlock` at its download height).  `syncWithChain` waits for the backend BEFORE `recovery()` reads the best
    height, so the recovery runs over the whole chain and `C16_complete` applies whatever the node's download height at
    connect time was. -/
theorem C16_backend_catching_up (invalid : BranchId → List Nat) (W batchSize : Nat) (scopes : List Nat) (c : Chain)
    (cuts : Nat → Bool) (download : Nat) (hwf : ChainWF scopes invalid c) (hla : LookAhead W scopes c) :
    Complete scopes c (startupRecover invalid W batchSize scopes true download c cuts) ∧
    balance (startupRecover invalid W batchSize scopes true download c cuts) = ledgerBalance scopes (allTxs c) := by
  rw [startupRecover_waitFirst]
  exact C16_complete invalid W batchSize scopes c cuts hwf hla

/-- … and the order matters: were `recovery()` run before the wait (the rescan that follows the wait watches only
    addresses that are already derived), a payment above the node's download height to an address reachable only
    through the look-ahead is lost although the chain satisfies the hypotheses of `C16_complete`. -/
theorem C16_recovery_before_wait_misses_payment :
    let noInv : BranchId → List Nat := fun _ => []
    let c : List (Nat × Block) :=
      [(1, [⟨1, [], [⟨some ⟨0, false, 0⟩, 50⟩]⟩]), (2, [⟨2, [], [⟨some ⟨0, false, 1⟩, 70⟩]⟩])]
    checkWF [0] noInv c = true ∧ checkLA 2 [0] c = true ∧
    (2, 2) ∈ (startupRecover noInv 2 2000 [0] true 1 c (fun _ => false)).txs ∧
    balance (startupRecover noInv 2 2000 [0] true 1 c (fun _ => false)) = 120 ∧
    (2, 2) ∉ (startupRecover noInv 2 2000 [0] false 1 c (fun _ => false)).txs ∧
    (startupRecover noInv 2 2000 [0] false 1 c (fun _ => false)).nextOf (0, false) = 1 := by
  decide

example : locateBirthdayBlock (fun h => 10 * h) 31 2 5 = some 3 := by decide
example : BranchOK [2, 3] (expand [2, 3] ((Branch.new 2).reportFound 1)) :=
  (C16_branch_horizon [2, 3] _ (branchOK_reportFound (branchOK_new [2, 3] 2) 1)).1

end Recovery
