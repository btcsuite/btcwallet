import BtcwVerif.Lemmas.AddrIdxRun
import BtcwVerif.Lemmas.AddrDeriveCache
/-!
# C03 — every issued address is the seed's BIP32 child and the wallet can sign for it

Theorems about the `AddrDerive` model (see `Model/AddrDerive*.lean`).  Elliptic-curve and HMAC arithmetic is the
abstract `HD`; the theorems over histories assume its two BIP32 laws.

The theorems over histories are for the official tree, `Cfg.fixed`, and ALL histories `run Cfg.fixed hd ops` — any list of
the 23 operations of `Op`.  They
rest on the consistency invariant `Inv` (Lemmas/AddrInv.lean) and, for the issued indices, on `IdxInv`
(Lemmas/AddrNodup.lean).  `C03_rename_*` and `C03_derive_cache_independent` hold from any state, without hypotheses
on `HD`.  Hypotheses on the abstract key algebra: `HD.Lawful` (public derivation commutes with neutering below the
hardened range) and `HD.NoHardPub` (no public derivation of hardened children).
-/
set_option linter.unusedSectionVars false
namespace AddrDerive

variable {K P : Type} [DecidableEq K] [DecidableEq P]

/-- **Indices issued by `nextAddresses`.**  A call that asks for `n` addresses on a branch whose next index is
    `start` hands out exactly `n` indices: they are the valid children from `start` on, in increasing order
    (hence no repetition), no valid child in between is skipped, invalid children are skipped, and the new next
    index (`getLast l start`) is one past the last index handed out — so the following call continues
    consecutively.  From a fresh account `start = 0`. -/
theorem C03_indices_next (valid : Nat → Bool) (n start : Nat) (l : List Nat) (h : nextIdxs valid n start = some l) :
    l.length = n ∧ IsValidRun valid start (getLast l start) l ∧ start ≤ getLast l start :=
  let r := nextIdxs_spec valid n start l h
  ⟨r.1, r.2.2, r.2.1⟩

/-- **Indices issued by `extendAddresses`** (recovery): every valid child from the old next index through
    `last` is derived, in order, without repetition, and the new next index is beyond `last`. -/
theorem C03_indices_extend (valid : Nat → Bool) (last fuel start : Nat) (l : List Nat)
    (h : extendIdxs valid last fuel start = some l) (hs : start ≤ last) :
    IsValidRun valid start (getLast l start) l ∧ last < getLast l start :=
  let r := extendIdxs_spec valid last fuel start l h
  ⟨r.2.2, r.2.1 hs⟩

/-- non-vacuity: with children 1 and 2 invalid, three addresses from index 0 are 0, 3, 4 and the next index is 5 -/
example : nextIdxs (fun i => i != 1 && i != 2) 3 0 = some [0, 3, 4] ∧ getLast [0, 3, 4] 0 = 5 := by decide
example : extendIdxs (fun i => i != 1 && i != 2) 3 5 0 = some [0, 3] := by decide

theorem reach_inv (hd : HD K P) (hlaw : hd.Lawful) (hn : hd.NoHardPub) (ops : List (Op K P)) :
    Inv hd (run Cfg.fixed hd ops).1 := (run_inv hlaw hn ops).1

/-- **Every address object ever handed out is the seed's child.**  After any history, every chained (non-imported)
    address object in the manager's heap — issued by `nextAddresses`, derived by `extendAddresses` /
    `DeriveFromKeyPath`, looked up, or re-loaded from its row after a restart — belongs to an account row of the
    database whose key is `m/purpose'/coin'/account'` of the seed (`RowKeyOK`, default rows) or the account key
    given to `NewAccountWatchingOnly` (watch-only rows); its public key is child `branch/index` of that account
    key, and (seed accounts) it is the public key of the private child `m/purpose'/coin'/account'/branch/index`.
    (The heap only grows between restarts, so this covers every object at every moment of the history.) -/
theorem C03_issued_is_child (hd : HD K P) (hlaw : hd.Lawful) (hn : hd.NoHardPub) (ops : List (Op K P)) (o : KeyObj K P)
    (ho : Obj.key o ∈ (run Cfg.fixed hd ops).1.mem.heap) (hni : o.imported = false) :
    ∃ row, acctRow (run Cfg.fixed hd ops).1 o.scope o.acct = some row ∧ o.acctPub = some (rowPub row) ∧
      RowKeyOK hd (run Cfg.fixed hd ops).1 o.scope o.acct row ∧
      (o.branch < H → o.index < H → ∃ p, derive2pub hd (rowPub row) o.branch o.index = some p ∧ o.pub = .hd p) ∧
      (∀ root ak, (run Cfg.fixed hd ops).1.root = some root → acctKeyAt hd root o.scope o.acct = some ak →
        hd.neuter ak = rowPub row → o.branch < H → o.index < H →
        ∃ k, derive2 hd ak o.branch o.index = some k ∧ o.pub = .hd (hd.neuter k)) := by
  have h := reach_inv hd hlaw hn ops
  obtain ⟨row, h1, h2, _, h4, _⟩ := (h.heap o ho).chained hni
  refine ⟨row, h1, h2, h.disk.row _ _ _ h1, h4, ?_⟩
  intro root ak _ _ hneu hb hi
  obtain ⟨p, hp1, hp2⟩ := h4 hb hi
  have := derive2_neuter hd hlaw ak o.branch o.index hb hi
  rw [hneu, hp1] at this
  cases hk : derive2 hd ak o.branch o.index with
  | none => simp [hk] at this
  | some k => simp [hk] at this; exact ⟨k, rfl, by rw [hp2, this]⟩

/-- **The reported derivation path is the true one.**  What `DerivationInfo()` / `Internal()` report for any
    chained object of any reachable state are the very scope, account, branch and index its public key was derived
    with (from the key of that account's row), and `Internal()` is `branch = 1`. -/
theorem C03_reported_path (hd : HD K P) (hlaw : hd.Lawful) (hn : hd.NoHardPub) (ops : List (Op K P)) (o : KeyObj K P)
    (ho : Obj.key o ∈ (run Cfg.fixed hd ops).1.mem.heap) (hni : o.imported = false) :
    (infoOfKey o).internal = ((infoOfKey o).branch == 1) ∧ (infoOfKey o).imported = false ∧
    ∃ row, acctRow (run Cfg.fixed hd ops).1 (infoOfKey o).scope (infoOfKey o).acct = some row ∧
      RowKeyOK hd (run Cfg.fixed hd ops).1 (infoOfKey o).scope (infoOfKey o).acct row ∧
      ((infoOfKey o).branch < H → (infoOfKey o).index < H →
        ∃ p, derive2pub hd (rowPub row) (infoOfKey o).branch (infoOfKey o).index = some p ∧ o.pub = .hd p) := by
  have h := reach_inv hd hlaw hn ops
  obtain ⟨row, h1, h2, h3, h4, _⟩ := (h.heap o ho).chained hni
  simp only [infoOfKey, hni, Bool.false_eq_true, if_false]
  exact ⟨h3, trivial, row, h1, h.disk.row _ _ _ h1, h4⟩

/-- **Never a wrong key.**  Whatever `PrivKey()` returns for any address object of any reachable state (chained or
    imported, key attached at creation, by derive-on-unlock, or re-loaded) is the private key of the object's
    public key. -/
theorem C03_privkey (hd : HD K P) (hlaw : hd.Lawful) (hn : hd.NoHardPub) (ops : List (Op K P)) (o : KeyObj K P)
    (ho : Obj.key o ∈ (run Cfg.fixed hd ops).1.mem.heap) (k : Priv K) (hk : privKeyOf (run Cfg.fixed hd ops).1 o = .ok k) :
    pubOf hd k = o.pub := by
  have h := reach_inv hd hlaw hn ops
  unfold privKeyOf at hk
  split at hk
  · cases hk
  · split at hk
    · cases hk
    · split at hk
      · cases hk
      · rename_i k' hk'
        cases hk
        exact (h.heap o ho).priv _ hk'

theorem Inv.canSign {hd : HD K P} {s : State K P} (h : Inv hd s) (hu : s.mem.locked = false) (hw : s.mem.watchOnly = false)
    {idx : Nat} {o : KeyObj K P} (ho : s.mem.heap[idx]? = some (.key o)) (hni : o.imported = false)
    {row : AcctRow K P} (hrow : acctRow s o.scope o.acct = some row) (hpriv : (rowPriv row).isSome) :
    ∃ k, privKeyOf s o = .ok k ∧ pubOf hd k = o.pub := by
  have hmem : Obj.key o ∈ s.mem.heap := List.mem_of_getElem? ho
  obtain ⟨row', h1, _, _, _, h5⟩ := (h.heap o hmem).chained hni
  rw [hrow] at h1; cases h1
  rcases h.sign idx o ho hni (by rw [h5 (by rw [← h.woEq]; exact hw)]; exact hpriv) hw with h1 | ⟨h1, _⟩
  · cases hp : o.privEnc with
    | none => simp [hp] at h1
    | some k => exact ⟨k, by simp [privKeyOf, hu, hw, hp], (h.heap o hmem).priv k hp⟩
  · rw [hu] at h1; cases h1

/-- **A key is returned whenever the manager is unlocked and the account has a private key.**  In every reachable
    unlocked, non-watching-only state, every chained address object whose account row holds a private key answers
    `PrivKey()` — whether it was created while unlocked, created while locked and completed by derive-on-unlock,
    extended, derived from a key path or re-loaded after a restart — and the key is the key of its public key. -/
theorem C03_can_sign (hd : HD K P) (hlaw : hd.Lawful) (hn : hd.NoHardPub) (ops : List (Op K P))
    (hu : (run Cfg.fixed hd ops).1.mem.locked = false) (hw : (run Cfg.fixed hd ops).1.mem.watchOnly = false)
    (idx : Nat) (o : KeyObj K P) (ho : (run Cfg.fixed hd ops).1.mem.heap[idx]? = some (.key o)) (hni : o.imported = false)
    (row : AcctRow K P) (hrow : acctRow (run Cfg.fixed hd ops).1 o.scope o.acct = some row) (hpriv : (rowPriv row).isSome) :
    ∃ k, privKeyOf (run Cfg.fixed hd ops).1 o = .ok k ∧ pubOf hd k = o.pub :=
  (reach_inv hd hlaw hn ops).canSign hu hw ho hni hrow hpriv

/-- the same through a handle: `PrivKey()` of the object bound to handle `hh` answers with its key -/
theorem C03_can_sign_handle (hd : HD K P) (hlaw : hd.Lawful) (hn : hd.NoHardPub) (ops : List (Op K P))
    (hu : (run Cfg.fixed hd ops).1.mem.locked = false) (hw : (run Cfg.fixed hd ops).1.mem.watchOnly = false)
    (hh : Nat) (o : KeyObj K P) (ho : objOfHandle (run Cfg.fixed hd ops).1 hh = some (.key o)) (hni : o.imported = false)
    (row : AcctRow K P) (hrow : acctRow (run Cfg.fixed hd ops).1 o.scope o.acct = some row) (hpriv : (rowPriv row).isSome) :
    ∃ k, (opPrivKey (run Cfg.fixed hd ops).1 hh).2.1 = .key k ∧ pubOf hd k = o.pub := by
  unfold objOfHandle at ho
  cases hi : alookup (run Cfg.fixed hd ops).1.mem.handles hh with
  | none => simp [hi] at ho
  | some idx =>
    simp [hi] at ho
    obtain ⟨k, hk1, hk2⟩ := C03_can_sign hd hlaw hn ops hu hw idx o ho hni row hrow hpriv
    refine ⟨k, ?_, hk2⟩
    simp [opPrivKey, objOfHandle, hi, ho, hk1]

/-- **Derive-on-unlock.**  A successful `Unlock` in any reachable state leaves every address object in place with
    the same public key and path, fills in private keys only where they are the key of the object's public key,
    and afterwards every chained object whose account has a private key answers `PrivKey()` (instance of
    `C03_can_sign` for the state after the unlock). -/
theorem C03_derive_on_unlock (hd : HD K P) (hlaw : hd.Lawful) (hn : hd.NoHardPub) (ops : List (Op K P)) (pass : Nat)
    (hok : (opUnlock Cfg.fixed hd (run Cfg.fixed hd ops).1 pass).2.1 = .ok)
    (idx : Nat) (o : KeyObj K P) (ho : (run Cfg.fixed hd ops).1.mem.heap[idx]? = some (.key o)) :
    ∃ o', (opUnlock Cfg.fixed hd (run Cfg.fixed hd ops).1 pass).1.mem.heap[idx]? = some (.key o') ∧
      o'.pub = o.pub ∧ o'.scope = o.scope ∧ o'.acct = o.acct ∧ o'.branch = o.branch ∧ o'.index = o.index ∧
      (∀ k, o'.privEnc = some k → pubOf hd k = o.pub) ∧
      (o.imported = false → ∀ row, acctRow (run Cfg.fixed hd ops).1 o.scope o.acct = some row → (rowPriv row).isSome →
        ∃ k, privKeyOf (opUnlock Cfg.fixed hd (run Cfg.fixed hd ops).1 pass).1 o' = .ok k ∧ pubOf hd k = o.pub) := by
  obtain ⟨h, hnd⟩ := run_inv hlaw hn ops
  have hupd := opUnlock_privUpd hlaw hn h hnd pass
  have h' := opUnlock_inv hlaw hn h hnd pass
  obtain ⟨hul, huw⟩ := opUnlock_ok_unlocked _ pass hok
  obtain ⟨o', ho', hcase⟩ := hupd.obj' ho
  have hmem' : Obj.key o' ∈ (opUnlock Cfg.fixed hd (run Cfg.fixed hd ops).1 pass).1.mem.heap := List.mem_of_getElem? ho'
  have hid : o'.pub = o.pub ∧ o'.scope = o.scope ∧ o'.acct = o.acct ∧ o'.branch = o.branch ∧ o'.index = o.index ∧
      o'.imported = o.imported := by
    rcases hcase with e | ⟨k, e, _⟩ <;> rw [e] <;> exact ⟨rfl, rfl, rfl, rfl, rfl, rfl⟩
  refine ⟨o', ho', hid.1, hid.2.1, hid.2.2.1, hid.2.2.2.1, hid.2.2.2.2.1, ?_, ?_⟩
  · intro k hk; rw [← hid.1]; exact (h'.heap o' hmem').priv k hk
  · intro hni row hrow hpriv
    obtain ⟨k, hk1, hk2⟩ := h'.canSign hul huw ho' (by rw [hid.2.2.2.2.2]; exact hni)
      (by rw [hid.2.1, hid.2.2.1, opUnlock_acctRow]; exact hrow) hpriv
    exact ⟨k, hk1, hid.1 ▸ hk2⟩

/-- **Imported keys are returned unchanged.**  In every reachable state an imported key object stands for one
    imported key `id`: its public key is that key's, and whatever `PrivKey()` returns is exactly the imported key. -/
theorem C03_imported_unchanged (hd : HD K P) (hlaw : hd.Lawful) (hn : hd.NoHardPub) (ops : List (Op K P)) (o : KeyObj K P)
    (ho : Obj.key o ∈ (run Cfg.fixed hd ops).1.mem.heap) (hi : o.imported = true) :
    ∃ id, o.pub = .imp id ∧ ∀ k, privKeyOf (run Cfg.fixed hd ops).1 o = .ok k → k = .imp id := by
  have h := reach_inv hd hlaw hn ops
  obtain ⟨id, hid⟩ := (h.heap o ho).imported hi
  refine ⟨id, hid, fun k hk => ?_⟩
  have := C03_privkey hd hlaw hn ops o ho k hk
  rw [hid] at this
  cases k with
  | hd k' => simp [pubOf] at this
  | imp j => simp [pubOf] at this; rw [this]

/-- imported scripts are returned unchanged (`Script()` yields the script the row / object stands for) -/
theorem C03_imported_script_unchanged (cfg : Cfg) (s : State K P) (o : ScrObj) (k : Nat) (h : scriptOf cfg s o = .ok k) :
    k = o.id := by
  have bad : ∀ e : Err, Except.error e = Except.ok k → k = o.id := nofun
  revert h
  unfold scriptOf
  dsimp only
  refine ite_ind (P := fun r : Except Err Nat => r = .ok k → k = o.id) (fun _ => bad _) fun _ =>
    ite_ind (P := fun r : Except Err Nat => r = .ok k → k = o.id) (fun _ => bad _) fun _ => ?_
  split
  · exact bad _
  · exact ite_ind (P := fun r : Except Err Nat => r = .ok k → k = o.id) (fun _ e => by cases e; rfl) fun _ => bad _

/-- **An address re-loaded from the database is the address that was issued.**  In any reachable state (e.g. right
    after a restart, when nothing is cached), looking up an address id whose row says "account `a`, branch `b`,
    index `i`" builds an object whose public key is the one in the id and whose path is `a/b/i`. -/
theorem C03_loaded_is_issued (hd : HD K P) (hlaw : hd.Lawful) (hn : hd.NoHardPub) (ops : List (Op K P)) (sc : Scope)
    (id : AddrId P) (hh a b i : Nat) (sm : ScopeMem K P) (hsm : getSM (run Cfg.fixed hd ops).1 sc = some sm)
    (hnc : alookup sm.addrs id = none) (hrow : addrRowAt (run Cfg.fixed hd ops).1 sc id = some (.chain a b i))
    (info : Info) (hres : (opLookup hd (run Cfg.fixed hd ops).1 sc id hh).2.1 = .addr info) :
    ∃ o, objOfHandle (opLookup hd (run Cfg.fixed hd ops).1 sc id hh).1 hh = some (.key o) ∧ info = infoOfKey o ∧
      (∃ cls, id = .key o.pub cls true) ∧ o.scope = sc ∧ o.acct = a ∧ o.branch = b ∧ o.index = i ∧ o.imported = false := by
  have h := reach_inv hd hlaw hn ops
  generalize (run Cfg.fixed hd ops).1 = s at *
  obtain ⟨row, p, cls, hr1, hr2, hr3⟩ := h.disk.addr sc id a b i hrow
  obtain ⟨sd, hsd, hrow'⟩ := Option.bind_eq_some_iff.mp hrow
  unfold opLookup at hres ⊢
  simp only [hsm, hsd, hnc, hrow'] at hres ⊢
  cases hl : loadAcct hd s sc a with
  | error e => simp [hl] at hres
  | ok r =>
    obtain ⟨s1, ai⟩ := r
    obtain ⟨x1, hc, hf, sm1, sd1, hsm1, hsd1⟩ := loadAcct_spec h hl
    simp only [hl] at hres ⊢
    cases hm : mkChained hd sc a ai (!s1.mem.locked && !s1.mem.watchOnly && ai.keyPriv.isSome) b i
        (accountAddrType sm.schema ai (b == 1)) ai.childIdx ai.fp with
    | none => simp [hm] at hres
    | some o =>
      simp only [hm, getSM_alloc, hsm1] at hres ⊢
      have c := mkChained_ok hlaw x1.inv hc hm
      obtain ⟨row', hr', _, _, hchild, _⟩ := c.ok.chained c.notImp
      rw [c.scope, c.acct, hf.acctRow, hr1] at hr'
      cases hr'
      obtain ⟨hb, hi⟩ := derive2pub_nonhard hd hn _ _ _ _ hr2
      obtain ⟨p', hp1, hp2⟩ := hchild (by rw [c.branch]; exact hb) (by rw [c.index]; exact hi)
      rw [c.branch, c.index, hr2] at hp1
      cases hp1
      refine ⟨o, ?_, by simpa using hres.symm, ⟨cls, by rw [hp2]; exact hr3⟩, c.scope, c.acct, c.branch, c.index, c.notImp⟩
      simp [objOfHandle, bindH, alookup_aset, putSM, alloc]

/-- **Indices are consecutive over the valid children, across the whole history.**  `(runLog hd ops).2` lists, in
    issue order, every address object `nextAddresses` / `extendAddresses` allocated since the wallet was created —
    through locks, unlocks, restarts, passphrase changes, imports, new accounts / scopes and watching-only
    conversion.  For every account row and branch, the indices issued are exactly the valid children below the
    row's stored next index, in strictly increasing order: they start at 0, skip invalid children only, never
    repeat, and the stored next index is one past the last index issued (so the next call continues there). -/
theorem C03_indices (hd : HD K P) (hlaw : hd.Lawful) (hn : hd.NoHardPub) (ops : List (Op K P)) (sc : Scope) (a : Nat)
    (row : AcctRow K P) (hr : acctRow (run Cfg.fixed hd ops).1 sc a = some row) (int : Bool) :
    IsValidRun (validAt hd (rowPub row) (branchOf int)) 0 (rowNext row int) (idxOf (runLog hd ops).2 sc a (branchOf int)) := by
  obtain ⟨_, _, x⟩ := runLog_inv hlaw hn ops
  rw [← runLog_fst] at hr
  exact x.run sc a row hr int

/-- no index is ever issued twice on a branch (corollary of `C03_indices`) -/
theorem C03_indices_no_repeat (hd : HD K P) (hlaw : hd.Lawful) (hn : hd.NoHardPub) (ops : List (Op K P)) (sc : Scope) (a : Nat)
    (row : AcctRow K P) (hr : acctRow (run Cfg.fixed hd ops).1 sc a = some row) (int : Bool) :
    (idxOf (runLog hd ops).2 sc a (branchOf int)).Nodup :=
  (C03_indices hd hlaw hn ops sc a row hr int).1.imp (fun h => Nat.ne_of_lt h)

/-- every issued object belongs to an account that exists, on branch 0 or 1 — nothing else is in the log -/
theorem C03_issued_known (hd : HD K P) (hlaw : hd.Lawful) (hn : hd.NoHardPub) (ops : List (Op K P)) (o : KeyObj K P)
    (ho : o ∈ (runLog hd ops).2) : (acctRow (run Cfg.fixed hd ops).1 o.scope o.acct).isSome ∧ (o.branch = 0 ∨ o.branch = 1) := by
  obtain ⟨_, _, x⟩ := runLog_inv hlaw hn ops
  rw [← runLog_fst]
  exact x.known o ho

/-- the cached next indices of a loaded account always equal the stored ones (so a restart continues where the
    running manager would have) -/
theorem C03_next_index_cached (hd : HD K P) (hlaw : hd.Lawful) (hn : hd.NoHardPub) (ops : List (Op K P)) (sc : Scope) (a : Nat)
    (ai : AcctInfo K P) (row : AcctRow K P) (hc : cacheAt (run Cfg.fixed hd ops).1 sc a = some ai)
    (hr : acctRow (run Cfg.fixed hd ops).1 sc a = some row) :
    ai.nextExt = rowNext row false ∧ ai.nextInt = rowNext row true := by
  obtain ⟨_, _, x⟩ := runLog_inv hlaw hn ops
  rw [← runLog_fst] at hc hr
  exact x.next sc a ai row hc hr

/-- what `nextAddresses` reports to its caller are exactly the objects it appended to the issue log, in order -/
theorem C03_next_reports_issued (hd : HD K P) (hlaw : hd.Lawful) (hn : hd.NoHardPub) (ops : List (Op K P)) (sc : Scope)
    (acct n : Nat) (int : Bool) (hb : Nat) (infos : List Info)
    (hres : (opNext hd (run Cfg.fixed hd ops).1 sc acct n int hb).2.1 = .addrs infos) :
    infos = (newObjs (run Cfg.fixed hd ops).1 (opNext hd (run Cfg.fixed hd ops).1 sc acct n int hb).1).map infoOfKey :=
  opNext_reports (reach_inv hd hlaw hn ops) sc acct n int hb infos hres

/-- **A wallet re-created from the same seed behaves identically**: whatever happened before, after
    `Create(root)` the state — hence every address subsequently issued, looked up or derived, and every key
    returned — is a function of the seed's root key and the operations that follow alone. -/
theorem C03_recreate_same (hd : HD K P) (root : K) (pre ops : List (Op K P)) :
    (run Cfg.fixed hd (pre ++ .create root :: ops)).1 = (run Cfg.fixed hd (.create root :: ops)).1 := by
  -- `Create` does not read the state it starts from
  rw [run_fst_eq, run_fst_eq, runState_append]
  rfl

def demoHD03 : HD (List Nat) (List Nat) :=
  { child := fun k i => some (k ++ [i]), neuter := id, pubChild := fun p i => if i < H then some (p ++ [i]) else none }

/-- the hypotheses of the theorems above are satisfiable: the demo key algebra is lawful -/
theorem demoHD03_lawful : demoHD03.Lawful := by intro k i h; simp [demoHD03, h]
theorem demoHD03_noHardPub : demoHD03.NoHardPub := by intro p i h; simp [demoHD03, Nat.not_lt.mpr h]

/-- extend while unlocked, look the address up, ask for its key -/
def demoExtend : List (Op (List Nat) (List Nat)) :=
  [.create [0], .unlock 0, .extend (84, 0) 0 1 false, .lookup (84, 0) (.key (.hd [0, 84 + H, 0 + H, 0 + H, 0, 1]) 0 true) 1]

/-- **F3 (unfixed tree).**  With the inverted watch-only test an address created by `ExtendExternalAddresses`
    while unlocked has no private key: `PrivKey()` fails with `ErrWatchingOnly` although the wallet is unlocked. -/
theorem C03_can_sign_counterexample_f3 :
    (match (step { f3 := true } demoHD03 (run { f3 := true } demoHD03 demoExtend).1 (.privKey 1)).2.1 with
      | .err .watchOnly => true | _ => false) = true := by decide

/-- on the fixed tree the same history returns the key, and it is the key of the address's public key -/
example : (match (step {} demoHD03 (run {} demoHD03 demoExtend).1 (.privKey 1)).2.1 with
      | .key (.hd k) => k == [0, 84 + H, 0 + H, 0 + H, 0, 1] | _ => false) = true := by decide

/-- derived while locked, then unlocked: the key is there (derive-on-unlock) -/
example : (match (step {} demoHD03 (run {} demoHD03
      [.create [0], .next (84, 0) 0 2 false 1, .unlock 0]).1 (.privKey 2)).2.1 with
      | .key (.hd k) => k == [0, 84 + H, 0 + H, 0 + H, 0, 1] | _ => false) = true := by decide

/-- after a restart the looked-up address has its key too -/
example : (match (step {} demoHD03 (run {} demoHD03
      [.create [0], .next (49, 0) 0 1 true 1, .restart, .unlock 0,
       .lookup (49, 0) (.key (.hd [0, 49 + H, 0 + H, 0 + H, 1, 0]) 0 true) 9]).1 (.privKey 9)).2.1 with
      | .key (.hd k) => k == [0, 49 + H, 0 + H, 0 + H, 1, 0] | _ => false) = true := by decide

/-- non-vacuity of `C03_indices`: a history with a lock, a restart and an extension in between; the external branch
    of account 0 of scope 84:0 has issued 0,1,2,3,4 and the stored next index is 5 -/
example : idxOf (runLog demoHD03 [.create [0], .next (84, 0) 0 2 false 1, .unlock 0, .extend (84, 0) 0 2 false, .restart,
      .next (84, 0) 0 2 false 5, .next (84, 0) 0 1 true 9]).2 (84, 0) 0 0 = [0, 1, 2, 3, 4] := by decide

/-- **The key `DeriveFromKeyPathCache` returns is the seed's child.**  After any history, whatever key the fast path
    returns for scope / `InternalAccount = a` / branch `b` / index `i` is child `b/i` of the private key stored in the
    row of account `a` of that scope — by `RowKeyOK` the seed's `m/purpose'/coin'/a'` — and (non-hardened `b`, `i`) its
    public key is the public child `b/i` of that account's key, i.e. the public key of the address at that path
    (`C03_issued_is_child`).  The `Account` field of the derivation path is no argument of the lookup at all. -/
theorem C03_derive_cache (hd : HD K P) (hlaw : hd.Lawful) (hn : hd.NoHardPub) (ops : List (Op K P)) (sc : Scope) (a b i : Nat)
    (k : Priv K) (hk : (opDeriveCache hd (run Cfg.fixed hd ops).1 sc a b i).2.1 = .key k) :
    ∃ row ak k', acctRow (run Cfg.fixed hd ops).1 sc a = some row ∧ rowPriv row = some ak ∧
      RowKeyOK hd (run Cfg.fixed hd ops).1 sc a row ∧ derive2 hd ak b i = some k' ∧ k = .hd k' ∧
      (b < H → i < H → derive2pub hd (rowPub row) b i = some (hd.neuter k')) := by
  obtain ⟨row, ak, k', h1, h2, h3, h4, h5⟩ := opDeriveCache_child (reach_inv hd hlaw hn ops) hk
  refine ⟨row, ak, k', h1, h2, h3, h4, h5, fun hb hi => ?_⟩
  have hneu := h3.neuter h2
  have := derive2_neuter hd hlaw ak b i hb hi
  rw [h4, hneu] at this
  exact this.symm

/-- **Paths that differ only in the informational `Account` field get the same answer** (state, result and writes);
    the account whose key is used is `InternalAccount`. -/
theorem C03_derive_cache_account_field (cfg : Cfg) (hd : HD K P) (s : State K P) (sc : Scope) (a ac ac' b i : Nat) :
    step cfg hd s (.deriveCache sc a ac b i) = step cfg hd s (.deriveCache sc a ac' b i) := rfl

/-- **The fast path and the slow path agree.**  After any history, if `DeriveFromKeyPathCache` returns a key for a
    path, then `DeriveFromKeyPath` for the same `InternalAccount/branch/index` (whatever the `Account` field) builds
    the address object of that path and its `PrivKey()` returns the very same key. -/
theorem C03_derive_cache_agrees (hd : HD K P) (hlaw : hd.Lawful) (hn : hd.NoHardPub) (ops : List (Op K P)) (sc : Scope)
    (a b i : Nat) (k : Priv K) (hk : (opDeriveCache hd (run Cfg.fixed hd ops).1 sc a b i).2.1 = .key k) (ac hh : Nat) :
    ∃ o, objOfHandle (opDerive hd (run Cfg.fixed hd ops).1 sc a ac b i hh).1 hh = some (.key o) ∧
      (opDerive hd (run Cfg.fixed hd ops).1 sc a ac b i hh).2.1 = .addr (infoOfKey o) ∧
      privKeyOf (opDerive hd (run Cfg.fixed hd ops).1 sc a ac b i hh).1 o = .ok k ∧
      o.scope = sc ∧ o.acct = a ∧ o.branch = b ∧ o.index = i ∧ o.imported = false :=
  opDeriveCache_agrees (reach_inv hd hlaw hn ops) hk ac hh

/-- **What a caller does with a key it was given cannot change a later answer.**  In the model a returned key is a value
    (not a reference into the manager), and a `DeriveFromKeyPathCache` request changes nothing at all — not the
    database, not the account cache, not the address objects.  So from ANY state, after any number of such requests (any
    scopes, accounts, paths, in any order, each result used, wiped or kept by its caller), the next request gets — state,
    answer and writes — exactly what it would have got as the very first one.  (Go: a cache hit must hand out a copy of
    the cached key; oracle keys `deriveFromKeyPathCache.cached-key-aliased`, `….returned-key-changed-by-lock`.) -/
theorem C03_derive_cache_independent (cfg : Cfg) (hd : HD K P) (s : State K P) (qs : List (Op K P))
    (hq : ∀ op ∈ qs, IsDeriveCache op) (sc : Scope) (a ac b i : Nat) :
    step cfg hd (qs.foldl (fun st op => (step cfg hd st op).1) s) (.deriveCache sc a ac b i) =
      step cfg hd s (.deriveCache sc a ac b i) := by
  rw [foldl_deriveCache_state cfg hd qs hq s]

/-- the same over histories: look-ups appended to any history reach the state of that history, so (with
    `C03_derive_cache`) the key answered for a path after any number of earlier look-ups of it is still child
    `b/i` of the seed's account key -/
theorem C03_derive_cache_repeat (hd : HD K P) (hlaw : hd.Lawful) (hn : hd.NoHardPub) (ops qs : List (Op K P))
    (hq : ∀ op ∈ qs, IsDeriveCache op) (sc : Scope) (a b i : Nat) (k : Priv K)
    (hk : (opDeriveCache hd (run Cfg.fixed hd (ops ++ qs)).1 sc a b i).2.1 = .key k) :
    (run Cfg.fixed hd (ops ++ qs)).1 = (run Cfg.fixed hd ops).1 ∧
    (opDeriveCache hd (run Cfg.fixed hd ops).1 sc a b i).2.1 = .key k ∧
    ∃ row ak k', acctRow (run Cfg.fixed hd ops).1 sc a = some row ∧ rowPriv row = some ak ∧
      derive2 hd ak b i = some k' ∧ k = .hd k' := by
  have hs : (run Cfg.fixed hd (ops ++ qs)).1 = (run Cfg.fixed hd ops).1 := by
    rw [run_fst_eq, run_fst_eq, runState_append]
    exact foldl_deriveCache_state _ hd qs hq _
  rw [hs] at hk
  obtain ⟨row, ak, k', h1, h2, _, h4, h5, _⟩ := C03_derive_cache hd hlaw hn ops sc a b i k hk
  exact ⟨hs, hk, row, ak, k', h1, h2, h4, h5⟩

/-- **`RenameAccount` changes the name and nothing else.**  From any state, after a rename (successful or refused)
    every account row is the row it was up to its name: same public and private key, same next indices and — for an
    imported account — the same overriding address schema. -/
theorem C03_rename_keeps_row (s : State K P) (sc : Scope) (acct name : Nat) (sc' : Scope) (a : Nat) :
    (acctRow (opRename s sc acct name).1 sc' a).map (fun r => (rowKey r, rowSchema r, rowNext r false, rowNext r true)) =
      (acctRow s sc' a).map (fun r => (rowKey r, rowSchema r, rowNext r false, rowNext r true)) := by
  obtain ⟨g, hg⟩ := opRename_rowSetName s sc acct name sc' a
  rw [hg]
  cases acctRow s sc' a with
  | none => rfl
  | some r => simp

/-- **A renamed account read back from the database issues in the same format.**  Rename, close, reopen: every account
    loads (`loadAccountInfo`) exactly when it would have loaded without the rename, with the same keys, the same next
    indices and the same overriding address schema — so `accountAddrType`, the format of every address of either
    branch issued, extended or looked up afterwards, is the same. -/
theorem C03_rename_reload_same_format (hd : HD K P) (s : State K P) (sc : Scope) (acct name : Nat) (sc' : Scope) (a : Nat)
    {st : State K P} {ai : AcctInfo K P}
    (hl : loadAcct hd (opRestart (opRename s sc acct name).1).1 sc' a = .ok (st, ai)) :
    ∃ st0 ai0, loadAcct hd (opRestart s).1 sc' a = .ok (st0, ai0) ∧ ai.keyPub = ai0.keyPub ∧ ai.keyEnc = ai0.keyEnc ∧
      ai.nextExt = ai0.nextExt ∧ ai.nextInt = ai0.nextInt ∧ ai.schema = ai0.schema ∧
      ∀ scSchema internal, accountAddrType scSchema ai internal = accountAddrType scSchema ai0 internal := by
  obtain ⟨g, hg⟩ := opRename_rowSetName s sc acct name sc' a
  obtain ⟨st0, ai0, n, h0, rfl⟩ := loadAcct_fresh_setName hd s (opRename s sc acct name).1 sc' a g hg hl
  exact ⟨st0, ai0, h0, rfl, rfl, rfl, rfl, rfl, fun _ _ => rfl⟩

/-- non-vacuity of `C03_derive_cache`: two cached accounts of one scope, the same branch/index, the same (constant)
    `Account` field: each look-up returns the child of ITS account's key -/
example : (match (step {} demoHD03 (run {} demoHD03 [.create [0], .unlock 0, .newAccount (84, 0) 2, .props (84, 0) 0,
      .props (84, 0) 1, .deriveCache (84, 0) 0 0 0 0]).1 (.deriveCache (84, 0) 1 0 0 0)).2.1 with
      | .key (.hd k) => k == [0, 84 + H, 0 + H, 1 + H, 0, 0] | _ => false) = true := by decide
example : (match (step {} demoHD03 (run {} demoHD03 [.create [0], .unlock 0, .newAccount (84, 0) 2, .props (84, 0) 0,
      .props (84, 0) 1, .deriveCache (84, 0) 1 0 0 0]).1 (.deriveCache (84, 0) 0 0 0 0)).2.1 with
      | .key (.hd k) => k == [0, 84 + H, 0 + H, 0 + H, 0, 0] | _ => false) = true := by decide

/-- non-vacuity of `C03_derive_cache_independent` / `_repeat`: the fourth look-up of a path (after look-ups of this and of
    another account's path) answers what the first one answered: the child of the seed's account key -/
example : (match (step {} demoHD03 (run {} demoHD03 [.create [0], .unlock 0, .newAccount (84, 0) 2, .props (84, 0) 0,
      .props (84, 0) 1, .deriveCache (84, 0) 0 0 0 0, .deriveCache (84, 0) 0 0 0 0, .deriveCache (84, 0) 1 0 0 0,
      .deriveCache (84, 0) 0 0 0 0]).1 (.deriveCache (84, 0) 0 0 0 0)).2.1 with
      | .key (.hd k) => k == [0, 84 + H, 0 + H, 0 + H, 0, 0] | _ => false) = true := by decide

/-- a traditional BIP49 account (nested P2WPKH on both branches) imported into the BIP0049Plus scope, renamed, read
    back after a restart: the next internal address is still nested P2WPKH (type code 3), index 1 -/
example : (match (step {} demoHD03 (run {} demoHD03 [.create [0], .newAccountWO (49, 0) 2 [7] (1 + H) 7 (some ⟨.np2wkh, .np2wkh⟩),
      .next (49, 0) 1 1 true 1, .rename (49, 0) 1 3, .restart]).1 (.next (49, 0) 1 1 true 2)).2.1 with
      | .addrs [i] => i.typ == 3 && i.index == 1 && i.internal | _ => false) = true := by decide

/-- what `DerivationInfo()` reports for an address issued from an account imported with master key fingerprint 7
    (model of the official tree): the fingerprint, account child number, branch and index reported at issue time are
    reported again after `MarkUsed` dropped the cached object and after a restart (the object is rebuilt from its row by
    `chainAddressRowToManaged`, which takes the fingerprint from the account row).  Go oracle:
    `derivationInfo.fingerprint-differs-after-reload` / `C08 key=Address.restart.derivation-info-differs`. -/
example : (match (step {} demoHD03 (run {} demoHD03 [.create [0], .newAccountWO (84, 0) 2 [7] (1 + H) 7 none,
      .next (84, 0) 1 1 false 1]).1 (.info 1)).2.1 with
      | .addr i => i.fp == 7 && i.acct == 1 && i.acctChild == 1 + H && i.branch == 0 && i.index == 0 | _ => false) = true := by decide
example : (match (step {} demoHD03 (run {} demoHD03 [.create [0], .newAccountWO (84, 0) 2 [7] (1 + H) 7 none,
      .next (84, 0) 1 1 false 1, .markUsed (84, 0) (.key (.hd [7, 0, 0]) 0 true) "x"]).1
        (.lookup (84, 0) (.key (.hd [7, 0, 0]) 0 true) 5)).2.1 with
      | .addr i => i.fp == 7 && i.acct == 1 && i.acctChild == 1 + H && i.branch == 0 && i.index == 0 | _ => false) = true := by decide
example : (match (step {} demoHD03 (run {} demoHD03 [.create [0], .newAccountWO (84, 0) 2 [7] (1 + H) 7 none,
      .next (84, 0) 1 1 false 1, .restart]).1 (.lookup (84, 0) (.key (.hd [7, 0, 0]) 0 true) 5)).2.1 with
      | .addr i => i.fp == 7 && i.acct == 1 && i.acctChild == 1 + H && i.branch == 0 && i.index == 0 | _ => false) = true := by decide
/-- the same for an address made by `extendAddresses` (tree with repo-patches/fix-C08-extendAddresses-fingerprint.diff): the
    cached object reports the account's fingerprint, like the object rebuilt after a restart -/
example : (match (step {} demoHD03 (run {} demoHD03 [.create [0], .newAccountWO (84, 0) 2 [7] (1 + H) 7 none,
      .extend (84, 0) 1 0 false]).1 (.lookup (84, 0) (.key (.hd [7, 0, 0]) 0 true) 5)).2.1 with
      | .addr i => i.fp == 7 && i.acct == 1 && i.acctChild == 1 + H && i.branch == 0 && i.index == 0 | _ => false) = true := by decide
example : (match (step {} demoHD03 (run {} demoHD03 [.create [0], .newAccountWO (84, 0) 2 [7] (1 + H) 7 none,
      .extend (84, 0) 1 0 false, .restart]).1 (.lookup (84, 0) (.key (.hd [7, 0, 0]) 0 true) 5)).2.1 with
      | .addr i => i.fp == 7 && i.acct == 1 && i.acctChild == 1 + H && i.branch == 0 && i.index == 0 | _ => false) = true := by decide

/-- **Unfixed tree (`e1`): the fingerprint of an extended address depends on whether the wallet was restarted.**  Before the
    fix `extendAddresses` left `MasterKeyFingerprint` out of the derivation path of the objects it caches: for an account
    imported with fingerprint 7 the running manager reports 0 for the address, a restarted manager (which rebuilds the
    object from its row) reports 7.  Go oracle keys `C08 key=ExtendAddresses.restart.fingerprint-differs`,
    `C03 key=extendAddresses.fingerprint-not-the-accounts`. -/
theorem C03_extend_fingerprint_counterexample_e1 :
    (match (step { e1 := true } demoHD03 (run { e1 := true } demoHD03 [.create [0], .newAccountWO (84, 0) 2 [7] (1 + H) 7 none,
        .extend (84, 0) 1 0 false]).1 (.lookup (84, 0) (.key (.hd [7, 0, 0]) 0 true) 5)).2.1,
      (step { e1 := true } demoHD03 (run { e1 := true } demoHD03 [.create [0], .newAccountWO (84, 0) 2 [7] (1 + H) 7 none,
        .extend (84, 0) 1 0 false, .restart]).1 (.lookup (84, 0) (.key (.hd [7, 0, 0]) 0 true) 5)).2.1 with
      | .addr i, .addr j => i.fp == 0 && j.fp == 7 && i.index == j.index && i.acct == j.acct | _, _ => false) = true := by decide

end AddrDerive
