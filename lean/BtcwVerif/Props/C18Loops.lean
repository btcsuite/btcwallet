/-
C18 for the two backends that do NOT use `ConcurrentQueue`: chain/btcd.go `(*RPCClient).handler` and
chain/neutrino.go `(*NeutrinoClient).notificationHandler` carry their own slice queue inside a `for { select }` loop.
Theorems are about the tables REGENERATED from those two functions, for every schedule (no bound; the queue is
a rendez-vous on both sides, so there is no buffer-size parameter).  Tie to the code: the extractor for both loops; the btcd loop is also run
(engine `btcdnotif`, Driver/EngBtcdNotif.lean: the real `chain.RPCClient` against an in-process fake btcd), the
neutrino loop is tied by its table only.
-/
import BtcwVerif.Lemmas.NotifLoop
import BtcwVerif.Gen.NotifLoopGen
namespace NotifLoop
variable {α : Type}

theorem C18_loops_generated :
    NotifLoopGen.btcd = expectedBtcd ∧ NotifLoopGen.neutrino = expectedNeutrino := by decide

private theorem gen_ok {t : Table} (ht : t = NotifLoopGen.btcd ∨ t = NotifLoopGen.neutrino) : t.Ok := by
  rcases ht with rfl | rfl
  · exact C18_loops_generated.1 ▸ expectedBtcd_ok
  · exact C18_loops_generated.2 ▸ expectedNeutrino_ok

/-- In order, none lost, none duplicated, all schedules: `delivered ++ notifications = accepted`; the `dequeue`
channel variable is non-nil exactly when something is queued, and `next` is then the oldest queued item; and
`|notifications|` further dequeue steps deliver everything accepted. -/
theorem C18_loops_order_no_loss_no_dup (t : Table) (ht : t = NotifLoopGen.btcd ∨ t = NotifLoopGen.neutrino)
    (tr : List (Label α)) (s : State α) (h : run t (init α) tr = some s) :
    s.delivered ++ s.notifications = s.accepted ∧ s.delivered <+: s.accepted ∧
    (s.armed = true ↔ s.notifications ≠ []) ∧ (s.armed = true → s.next = s.notifications.head?) ∧
    (s.exited = false → ∃ s', run t s (List.replicate s.notifications.length .sendDequeue) = some s' ∧
        s'.delivered = s.accepted ∧ s'.accepted = s.accepted) := by
  have hI := inv_run (gen_ok ht) tr inv_init h
  refine ⟨hI.acc, ⟨s.notifications, hI.acc⟩, ?_, hI.next, ?_⟩
  · rw [hI.armed]; cases s.notifications <;> simp
  · intro he
    obtain ⟨s', h1, h2, h3, _⟩ := drain (gen_ok ht) _ s hI he rfl
    exact ⟨s', h1, h2, h3⟩

/-- The producer is never blocked by a slow consumer: while the loop runs, the clause `n, ok := <-enqueue` is
enabled in every reachable state, whatever is queued and whatever the consumer does. -/
theorem C18_loops_send_enabled (t : Table) (ht : t = NotifLoopGen.btcd ∨ t = NotifLoopGen.neutrino)
    (tr : List (Label α)) (s : State α) (h : run t (init α) tr = some s) (he : s.exited = false) (x : α) :
    ∃ s1, step t s (.recvEnqueue x) = some s1 ∧ s1.accepted = s.accepted ++ [x] ∧ s1.delivered = s.delivered := by
  have _ := h  -- `h` is not needed: the clause is enabled in every state in which the loop runs, reachable or not
  exact ⟨_, step_recvEnqueue (gen_ok ht) he x, rfl, rfl⟩

/-- Stop: the loop never ends before `quit` is closed; afterwards the quit clause is enabled in every state, firing
it ends the loop, and then no clause fires any more. -/
theorem C18_loops_quit_enabled (t : Table) (ht : t = NotifLoopGen.btcd ∨ t = NotifLoopGen.neutrino)
    (tr : List (Label α)) (s : State α) (h : run t (init α) tr = some s) :
    (s.quitClosed = false → s.exited = false) ∧
    (s.quitClosed = true → s.exited = false → ∃ s', step t s .quit = some s' ∧ s'.exited = true) ∧
    (s.exited = true → ∀ l : Label α, l.kind ≠ none → step t s l = none) := by
  have hI := inv_run (gen_ok ht) tr inv_init h
  refine ⟨fun hq => ?_, fun hq he => quit_enabled (gen_ok ht) he hq, fun he l => exited_dead t he⟩
  cases he : s.exited with
  | false => rfl
  | true => exact absurd (hI.exited he) (by simp [hq])

/-- Non-vacuity on the generated tables. -/
example : (run NotifLoopGen.btcd (init Nat)
    [.recvEnqueue 1, .recvEnqueue 2, .sendCurrentBlock, .sendDequeue, .recvEnqueue 3, .sendDequeue, .sendDequeue]).map
    (fun s => (s.delivered, s.notifications, s.armed)) = some ([1, 2, 3], [], false) := by decide
example : (run NotifLoopGen.neutrino (init Nat)
    [.recvEnqueue 1, .recvRescanErr, .recvEnqueue 2, .sendDequeue, .stop, .quit]).map
    (fun s => (s.delivered, s.notifications, s.exited)) = some ([1], [2], true) := by decide
/-- `dequeue` is nil while nothing is queued: the send clause is not enabled. -/
example : (run NotifLoopGen.btcd (init Nat) [.sendDequeue]).isNone = true := by decide
example : (run NotifLoopGen.btcd (init Nat) [.recvRescanErr]).isNone = true := by decide

end NotifLoop
