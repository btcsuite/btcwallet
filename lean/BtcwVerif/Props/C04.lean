import BtcwVerif.Lemmas.AddrRows
import BtcwVerif.Lemmas.AddrWallet
/-!
# C04 — no secret reaches the database file unencrypted

`run cfg hd ops` is the state reached by the history `ops` together with *every* row any operation handed to the
database (committed or not).  All theorems are about the official tree (`Cfg.fixed`: every defect of DESIGN §7 that touched this
property — O1 zero script key, secret taproot rows surviving conversion — is fixed by b81a3ff); the configurations
with a defect switched back on appear only in the counter-example theorems at the end.
-/
set_option linter.unusedSectionVars false
namespace AddrDerive
open AddrSym

variable {K P : Type} [DecidableEq K] [DecidableEq P]

/-- **No secret in the clear.**  No write of any history exposes a secret (extended private keys, address /
    imported private keys, secret scripts, crypto keys) outside a box sealed under a real key. -/
theorem C04_no_plain_secret (hd : HD K P) (ops : List (Op K P)) :
    ∀ w ∈ (run Cfg.fixed hd ops).2, w.exposesSecret = false :=
  fun w hw => ((run_good Cfg.fixed hd ops w hw).2 rfl).1

/-- **No public key material in the clear** (address-manager namespace): xpubs, public keys, address ids and
    public scripts only occur sealed or under `sha256`. -/
theorem C04_no_plain_public (hd : HD K P) (ops : List (Op K P)) :
    ∀ w ∈ (run Cfg.fixed hd ops).2, w.exposesPublic = false :=
  fun w hw => (run_good Cfg.fixed hd ops w hw).1

/-- **Right key class.**  Private material is sealed only under private-class keys (`priv`/`script` crypto keys,
    private master key), never under the public crypto key, the public master key or the all-zero key. -/
theorem C04_right_key_class (hd : HD K P) (ops : List (Op K P)) :
    ∀ w ∈ (run Cfg.fixed hd ops).2, w.rightClass = true :=
  fun w hw => ((run_good Cfg.fixed hd ops w hw).2 rfl).2

/-- the public clause does not depend on any of the (fixed) defects: it holds for every configuration -/
theorem no_plain_public_any_cfg (cfg : Cfg) (hd : HD K P) (ops : List (Op K P)) :
    ∀ w ∈ (run cfg hd ops).2, w.exposesPublic = false :=
  fun w hw => (run_good cfg hd ops w hw).1

/-- **The address-manager namespace never shows public key material (nor a secret), transactions or not.**
    In every history of the whole wallet database — address-manager operations interleaved in any way with
    recorded transactions — every write below the `waddrmgr` namespace is free of clear-text public key material
    (xpubs, public keys, address ids / hashes, public scripts), free of exposed secrets, and seals private material
    under the right key class.  Recording transactions changes nothing for this namespace. -/
theorem C04_waddrmgr_never_public (hd : HD K P) (ops : List (WOp K P)) :
    ∀ w ∈ (wrun Cfg.fixed hd ops).2, w.1 = Ns.waddrmgr →
      w.2.exposesPublic = false ∧ w.2.exposesSecret = false ∧ w.2.rightClass = true := by
  intro w hw hns
  rcases wrun_rows Cfg.fixed hd ops w hw with ⟨_, h⟩ | ⟨h, _⟩
  · exact ⟨h.1, h.2 rfl⟩
  · rw [hns] at h; cases h

/-- the transaction store never holds a secret either -/
theorem C04_wtxmgr_no_secret (hd : HD K P) (ops : List (WOp K P)) :
    ∀ w ∈ (wrun Cfg.fixed hd ops).2, w.2.exposesSecret = false := by
  intro w hw
  rcases wrun_rows Cfg.fixed hd ops w hw with ⟨_, h⟩ | ⟨_, h, _⟩
  · exact (h.2 rfl).1
  · exact h

/-- **Until a transaction is recorded, nothing public is in the file at all; afterwards only the transaction store
    holds it.**  (i) While no transaction has been recorded, no write to the database file, in whichever
    top-level bucket, shows public key material in the clear.  (ii) In any history, a write that shows public key
    material lies in the `wtxmgr` namespace. -/
theorem C04_public_boundary (hd : HD K P) (ops : List (WOp K P)) :
    (ops.all (fun op => !op.isTx) = true → ∀ w ∈ (wrun Cfg.fixed hd ops).2, w.2.exposesPublic = false) ∧
    (∀ w ∈ (wrun Cfg.fixed hd ops).2, w.2.exposesPublic = true → w.1 = Ns.wtxmgr) := by
  refine ⟨fun hno w hw => ?_, fun w hw hp => ?_⟩ <;> rcases wrun_rows Cfg.fixed hd ops w hw with ⟨_, h⟩ | ⟨h, _, hn⟩
  · exact h.1
  · rw [hno] at hn; cases hn
  · rw [h.1] at hp; cases hp
  · exact h

/-- the address-manager part of a whole-database history is a history of the address manager: projecting away the
    recorded transactions gives the same manager state (`C04_wrun_mgr_state`), so every `C03_*` / `C04_*` theorem about
    the state reached by `run` applies to the manager inside the full wallet -/
def mgrOps : List (WOp K P) → List (Op K P)
  | [] => []
  | .mgr op :: t => op :: mgrOps t
  | .recordTx _ :: t => mgrOps t

theorem wfoldl_state (cfg : Cfg) (hd : HD K P) : ∀ (ops : List (WOp K P)) (s : State K P) (r : List NsRow) (r' : List Row),
    (ops.foldl (fun acc op => let x := wstep cfg hd acc.1 op; (x.1, acc.2 ++ x.2.2)) (s, r)).1 =
    ((mgrOps ops).foldl (fun acc op => let x := step cfg hd acc.1 op; (x.1, acc.2 ++ x.2.2)) (s, r')).1
  | [], _, _, _ => rfl
  | .mgr op :: t, _, _, _ => wfoldl_state cfg hd t _ _ _
  | .recordTx d :: t, s, r, r' => by
    have : (wstep cfg hd s (.recordTx d)).1 = s := by simp only [wstep]; split <;> rfl
    simp only [List.foldl_cons, mgrOps, this]
    exact wfoldl_state cfg hd t _ _ _

theorem C04_wrun_mgr_state (hd : HD K P) (ops : List (WOp K P)) :
    (wrun Cfg.fixed hd ops).1 = (run Cfg.fixed hd (mgrOps ops)).1 := by
  rw [run_eq_foldl]
  exact wfoldl_state Cfg.fixed hd ops emptyState [] []

/-- the stored scope holds nothing private -/
def ScopePrivless (sd : ScopeDisk K P) : Prop :=
  sd.coinPriv = none ∧
  (∀ e ∈ sd.accts, ∀ pub priv ne ni name, e.2 = AcctRow.dflt pub priv ne ni name → priv = none) ∧
  (∀ e ∈ sd.addrs, (∀ k c hp, e.2 = AddrRow.imp k c hp → hp = false) ∧
                    (∀ k kind e', e.2 = AddrRow.scr k kind true e' → e' = none))

theorem stripScope_privless (cfg : Cfg) (ht : cfg.t1 = false) (sc : Scope) (sd : ScopeDisk K P) :
    ScopePrivless (stripScope cfg sc sd).1 := by
  refine ⟨rfl, fun e he pub priv ne ni name h => ?_, fun e he => ?_⟩
  · obtain ⟨⟨a, _ | _⟩, _, rfl⟩ := List.mem_map.mp he <;> cases h
    rfl
  · obtain ⟨e0, _, rfl⟩ := List.mem_map.mp he
    exact stripAddrRow_privless cfg ht e0.2

theorem convertWO_restart (cfg : Cfg) (s : State K P) (hw : s.mem.watchOnly = false) (ht : cfg.t1 = false) :
    let s2 := (opRestart (K := K) (opConvertWO cfg s).1).1
    s2.mem.watchOnly = true ∧ s2.disk.watchOnly = true ∧ s2.disk.rootPriv = none ∧ s2.disk.privPass = none ∧
    (∀ e ∈ s2.disk.scopes, ScopePrivless e.2) ∧ addrIds s2 = addrIds s := by
  intro s2
  have hm : s2.mem.watchOnly = s2.disk.watchOnly := rfl
  have hd : s2.disk = _ := opConvertWO_disk cfg hw
  rw [hm, addrIds, hd]
  exact ⟨rfl, rfl, rfl, rfl, List.forall_mem_map.mpr fun e _ => stripScope_privless cfg ht e.1 e.2,
    by simp [addrIds, stripScope, List.map_map, Function.comp_def]⟩

/-- **Watching-only conversion** on the official tree, after any history: nothing unlocks, no private accessor
    answers, nothing private left in the database — secret taproot scripts included —, every address row still there
    (`convertWO_restart`, `watchOnly_refuses`). -/
theorem C04_watch_only (hd : HD K P) (ops : List (Op K P)) (hw : (run Cfg.fixed hd ops).1.mem.watchOnly = false) :
    let s := (run Cfg.fixed hd ops).1
    let s2 := (opRestart (K := K) (opConvertWO Cfg.fixed s).1).1
    (∀ p, (opUnlock Cfg.fixed hd s2 p).2.1 = .err .watchOnly) ∧
    (∀ o : KeyObj K P, privKeyOf s2 o = .error .watchOnly) ∧
    (∀ o : ScrObj, (o.kind = 0 ∨ o.secret = true) → scriptOf Cfg.fixed s2 o = .error .watchOnly) ∧
    s2.disk.watchOnly = true ∧ s2.disk.rootPriv = none ∧ s2.disk.privPass = none ∧
    (∀ e ∈ s2.disk.scopes, ScopePrivless e.2) ∧
    (s2.disk.scopes.map fun e => (e.1, e.2.addrs.map (·.1))) = (s.disk.scopes.map fun e => (e.1, e.2.addrs.map (·.1))) :=
  have ⟨h0, h4⟩ := convertWO_restart Cfg.fixed _ hw rfl
  have ⟨h1, h2, h3⟩ := watchOnly_refuses Cfg.fixed hd h0
  ⟨h1, h2, h3, h4⟩

/-- a concrete `HD` (keys are derivation paths) used for the examples -/
def demoHD04 : HD (List Nat) (List Nat) :=
  { child := fun k i => some (k ++ [i]), neuter := id, pubChild := fun p i => some (p ++ [i]) }

def demo04ImportScript : List (Op (List Nat) (List Nat)) :=
  [.create [0], .unlock 0, .importScript (84, 0) 1 0 true 1]

/-- **Defect O1 (what reverting b81a3ff breaks).**  With the script crypto key left all-zero, importing a secret script after
    unlocking writes a row from which the script can be read without any passphrase. -/
theorem C04_zero_key_counterexample :
    ((run { o1 := true } demoHD04 demo04ImportScript).2.any Row.exposesSecret) = true := by decide

/-- the same history is clean once `Unlock` restores the script key (instance of `C04_no_plain_secret`) -/
example : ((run {} demoHD04 demo04ImportScript).2.any Row.exposesSecret) = false := by decide

def demo04Taproot : List (Op (List Nat) (List Nat)) :=
  [.create [0], .unlock 0, .importScript (86, 0) 1 2 true 1, .convertWO, .restart]

/-- **Defect (what reverting b81a3ff's `deletePrivateKeys` part breaks): secret taproot script rows survive
    `ConvertToWatchingOnly`.** -/
theorem C04_taproot_row_counterexample :
    ((run { t1 := true } demoHD04 demo04Taproot).1.disk.scopes.any fun e =>
      e.2.addrs.any fun a => match a.2 with | .scr _ _ true (some _) => true | _ => false) = true := by decide

example : ((run {} demoHD04 demo04Taproot).1.disk.scopes.any fun e =>
      e.2.addrs.any fun a => match a.2 with | .scr _ _ true (some _) => true | _ => false) = false := by decide

/-- non-vacuity of `C04_watch_only`: a reachable unlocked state with imported key, script and issued addresses -/
example : (run Cfg.fixed demoHD04 [.create [0], .unlock 0, .next (84, 0) 0 2 false 1, .importPriv (84, 0) 7 true 5,
    .importScript (84, 0) 1 1 true 6]).1.mem.watchOnly = false := by decide

/-- non-vacuity of the boundary: after a recorded transaction the file does hold an address hash in the clear — in
    the `wtxmgr` namespace — and the address manager's own rows (issue, mark used) still show none -/
example : ((wrun Cfg.fixed demoHD04 [.mgr (.create [0]), .mgr (.next (84, 0) 0 1 false 1), .recordTx "84:0:0:0:0",
      .mgr (.markUsed (84, 0) (.key (.hd [0, 84 + H, 0 + H, 0 + H, 0, 0]) 0 true) "84:0:0:0:0")]).2.any
      fun w => w.1 == Ns.wtxmgr && w.2.exposesPublic) = true := by decide

/-- the write stream of a history is not empty (the theorems above are not about an empty list) -/
example : 20 < (run {} demoHD04 demo04ImportScript).2.length := by decide

/-- **Watching-only migration through the wallet** (official tree, after ANY history — in particular one in which an
    earlier start already ran `InitAccounts(scope, false, num)` and created every account): a successful
    `InitAccounts(scope, true, num)` followed by a reopen leaves a wallet that still knows every address, that no
    passphrase unlocks, and from which no call returns private material; the database holds no private key, secret
    script or private KDF parameter. -/
theorem C04_init_accounts_watch_only (hd : HD K P) (ops : List (Op K P)) (sc : Scope) (num : Nat)
    (hw : (run Cfg.fixed hd ops).1.mem.watchOnly = false)
    (hok : (opInitAccounts Cfg.fixed hd (run Cfg.fixed hd ops).1 sc true num).2.1 = .ok) :
    let s := (run Cfg.fixed hd ops).1
    let s2 := (opRestart (K := K) (opInitAccounts Cfg.fixed hd s sc true num).1).1
    (∀ p, (opUnlock Cfg.fixed hd s2 p).2.1 = .err .watchOnly) ∧
    (∀ o : KeyObj K P, privKeyOf s2 o = .error .watchOnly) ∧
    (∀ o : ScrObj, (o.kind = 0 ∨ o.secret = true) → scriptOf Cfg.fixed s2 o = .error .watchOnly) ∧
    s2.mem.watchOnly = true ∧ s2.disk.watchOnly = true ∧ s2.disk.rootPriv = none ∧ s2.disk.privPass = none ∧
    (∀ e ∈ s2.disk.scopes, ScopePrivless e.2) ∧
    addrIds s2 = addrIds s := by
  obtain ⟨sMid, hm1, hm2, hm3⟩ := opInitAccounts_converts Cfg.fixed hd _ sc num hok
  have ⟨h0, h4, h5, h6, h7, h8⟩ := convertWO_restart Cfg.fixed sMid (hm1.trans hw) rfl
  have ⟨h1, h2, h3⟩ := watchOnly_refuses Cfg.fixed hd h0
  dsimp only
  rw [hm3]
  exact ⟨h1, h2, h3, h0, h4, h5, h6, h7, h8.trans hm2⟩

def demo04Started : List (Op (List Nat) (List Nat)) := [.create [0], .unlock 0]

/-- non-vacuity: first start `InitAccounts(false, 2)` creates accounts 1 and 2; on the second start nothing is missing
    (the walk creates nothing) and `InitAccounts(true, 2)` still succeeds — and converts -/
example :
    let s1 := (opRestart (opInitAccounts Cfg.fixed demoHD04 (run Cfg.fixed demoHD04 demo04Started).1 (84, 0) false 2).1).1
    let s1u := (step Cfg.fixed demoHD04 s1 (.unlock 0)).1
    (s1u.mem.watchOnly, missingAccts s1u (84, 0) 2 1,
      match (opInitAccounts Cfg.fixed demoHD04 s1u (84, 0) true 2).2.1 with | .ok => true | _ => false,
      (opInitAccounts Cfg.fixed demoHD04 s1u (84, 0) true 2).1.disk.watchOnly) = (false, [], true, true) := by decide

end AddrDerive
