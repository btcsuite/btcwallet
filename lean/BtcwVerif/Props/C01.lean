import BtcwVerif.Lemmas.RefExact
/-!
# C01 — balance and spendable outputs equal ledger truth

Proved here (all stores / histories / instants / minConf / syncHeight of the model, no bounds):

* `C01_balance` — after every chain-consistent history of store calls starting from the empty store (unconfirmed and
  confirmed inserts with redelivery, credits, abandonments, `Rollback` to any height and reconnection, leases, sweeps),
  `Balance` — a counter corrected by three passes over three buckets — equals the C01 sentence evaluated on the
  store's own records (`storeTruth`).  Chain consistency is `Call.Pre`, read on the store at each call.
  It rests on `C01_inv_reachable` (the representation invariant holds after every such history) and `C01_balance_inv`
  (Balance = formula under the invariant).
* `C01_utxos_sound/_complete` — `UnspentOutputs` lists only entries of the unspent index and of the unconfirmed credits
  that are neither leased nor spent by an unconfirmed transaction, and every such entry of the unspent index (an
  unconfirmed credit whose record is missing is skipped, as in `wtxmgr/tx.go`; on the stores of the histories:
  `C01_utxos_ledger`).
* `C01_balance_ledger`, `C01_balance_refines`, `C01_utxos_ledger`, `C01_watch_ledger` (second half of this file) —
  the store's records are those of the `Ledger` specification after every chain-consistent history of events:
  `Balance = Ledger.balance`, `UnspentOutputs` = `Ledger.utxos` and `OutputsToWatch` = `Ledger.watchSet` (as
  permutations).  They rest on the refinement store → `Ledger` proved event by event in `Lemmas/Ref*.lean`.

Zero-value credits (defect F6; since /repo 7fa9939 the store keeps them in the unspent index) have no theorem of its own: `Inv`, `WF2` and the
refinement do not exclude zero-value credits, so a zero-value credit whose confirmed spender is rolled back is one
of the outputs `C01_utxos_ledger` / `C01_watch_ledger` speak about (scripted engine case `zero-value-credit`).
-/
namespace TxStore.C01

/-- `balance_eq_storeTruth` (Lemmas/Balance.lean) under the property's name -/
theorem C01_balance_inv (s : Store) (hinv : Inv s) (now : Nat) (mat m sy : Int) :
    balance s now mat m sy = .ok (storeTruth s now mat m sy) := balance_eq_storeTruth s hinv now mat m sy

/-- **UnspentOutputs, soundness**: every reported mined output is an entry of the unspent index that is neither
leased nor spent by an unconfirmed transaction, reported with the value of that output in its transaction record, its
confirming block (with the block's time) and its coinbase flag; every reported unconfirmed output is an unconfirmed
credit that is neither leased nor spent. -/
theorem C01_utxos_sound (s : Store) (now : Nat) (l : List Credit) (h : unspentOutputs s now = .ok l)
    (c : Credit) (hc : c ∈ l) :
    isLocked s c.op now = false ∧ spentByUnmined s c.op = false ∧
    ((∃ blk rec br v, (c.op, blk) ∈ s.unspent ∧ s.txrecs.find? ⟨c.op.hash, blk⟩ = some rec ∧
        s.blocks.find? blk.height = some br ∧ rec.outs[c.op.index]? = some v ∧
        c = ⟨c.op, some ⟨blk, br.time⟩, v, rec.isCoinBase⟩) ∨
     (∃ uc, (c.op, uc) ∈ s.unminedCredits ∧ c.block = none)) :=
  mem_unspentOutputs h hc

/-- **UnspentOutputs, completeness** (mined part): every entry of the unspent index that is neither leased nor spent
by an unconfirmed transaction is reported. -/
theorem C01_utxos_complete (s : Store) (now : Nat) (l : List Credit) (h : unspentOutputs s now = .ok l)
    (op : OutPoint) (blk : Block) (hm : (op, blk) ∈ s.unspent)
    (hl : isLocked s op now = false) (hs : spentByUnmined s op = false) : ∃ c ∈ l, c.op = op ∧ c.block.map (·.block) = some blk := by
  unfold unspentOutputs fetchCredits at h
  obtain ⟨a, ha, h⟩ := bind_ok_iff.mp h
  obtain ⟨b, hb, h⟩ := bind_ok_iff.mp h
  cases h
  obtain ⟨o, ho, hf⟩ := mapM_ok_of_mem ha hm
  have := fetchMinedCredit_eq_ok.mp hf
  rw [if_neg (by simp [hl, hs])] at this
  obtain ⟨rec, v, _, _, br, _, rfl⟩ := this
  exact ⟨_, List.mem_append_left _ (List.mem_filterMap.mpr ⟨_, ho, rfl⟩), rfl, rfl⟩

/-- a store reached by model operations: a coinbase `(1)` and a payment `(2)` confirmed in blocks 1 and 2, a spender
`(3)` of `(2,0)` unconfirmed with a credited output, a lease on `(2,1)` -/
def exStore : Store :=
  let cb : Tx := ⟨1, [⟨0, nullIndex⟩], [5000]⟩
  let t2 : Tx := ⟨2, [⟨77, 0⟩], [300, 400]⟩
  let t3 : Tx := ⟨3, [⟨2, 0⟩], [250]⟩
  let run : M Store := do
    let (_, s) ← insertTx {} cb (some ⟨⟨1, 11⟩, 100⟩)
    let s ← addCredit s cb (some ⟨⟨1, 11⟩, 100⟩) 0 false
    let (_, s) ← insertTx s t2 (some ⟨⟨2, 22⟩, 200⟩)
    let s ← addCredit s t2 (some ⟨⟨2, 22⟩, 200⟩) 0 false
    let s ← addCredit s t2 (some ⟨⟨2, 22⟩, 200⟩) 1 true
    let (_, s) ← insertTx s t3 none
    let s ← addCredit s t3 none 0 true
    let (_, s) ← lockOutput s 0 1 ⟨2, 1⟩ 5000000000
    pure s
  match run with
  | .ok s => s
  | .error _ => {}

example : invB exStore = true := by decide
example : balance exStore 0 3 0 2 = .ok 250 := by decide          -- coinbase immature, (2,0) spent, (2,1) leased
example : balance exStore 5000000000 3 1 3 = .ok 5400 := by decide -- lease expired, coinbase mature, (3,0) unconfirmed

theorem invB_sound (s : Store) (h : invB s = true) : Inv s := by
  unfold invB at h
  simp only [Bool.and_eq_true, decide_eq_true_eq, List.all_eq_true] at h
  obtain ⟨⟨⟨⟨h1, h2⟩, h3⟩, h4⟩, h5⟩ := h
  refine ⟨h1, h2, List.isPerm_iff.mp h3, ?_, ?_⟩
  · generalize s.blocks.map (·.1) = l at h4
    induction l with
    | nil => exact List.Pairwise.nil
    | cons a t ih =>
      cases t with
      | nil => exact List.pairwise_singleton _ _
      | cons b r =>
        simp only [pairwiseLt, Bool.and_eq_true, decide_eq_true_eq] at h4
        have ht := ih h4.2
        rw [List.pairwise_cons]
        refine ⟨?_, ht⟩
        intro x hx
        cases hx with
        | head => exact h4.1
        | tail _ hx' => have := (List.pairwise_cons.mp ht).1 x hx'; omega
  · intro p hp tx htx
    exact h5 p hp tx htx

theorem C01_inv_init : Inv Store.empty := invB_sound _ (by decide)

/-- **the representation invariant holds after every chain-consistent history of store calls** (`PreAll`: `Call.Pre` read on
the store at each call; any length; inserts,
redeliveries, credits, abandonments, `Rollback` to any height, reconnects, leases, sweeps; any clock values) -/
theorem C01_inv_reachable (ops : List (Nat × Call)) (hp : PreAll Store.empty ops) : Inv (runCalls Store.empty ops) :=
  inv_runCalls ops hp

/-- **C01, balance**: after every chain-consistent history of store calls (`PreAll`) — reorgs included —, at every prefix (a prefix
of a consistent history is one), `Balance` for every probe instant, coinbase maturity, `minConf` and `syncHeight`
equals the C01 sentence evaluated on the store's own records (`storeTruth`): the credited outputs without a mined
spender that are not leased, not spent by an unconfirmed transaction, deep enough and (if coinbase) mature, plus at
`minConf = 0` the unconfirmed credits that are neither leased nor spent. -/
theorem C01_balance (ops : List (Nat × Call)) (hp : PreAll Store.empty ops) (now : Nat) (mat m sy : Int) :
    balance (runCalls Store.empty ops) now mat m sy = .ok (storeTruth (runCalls Store.empty ops) now mat m sy) :=
  C01_balance_inv _ (C01_inv_reachable ops hp) now mat m sy

/-- non-vacuity of `C01_balance`: a consistent history (coinbase confirmed and credited, then rolled back) -/
example : PreAll Store.empty
    [(0, .insertMined ⟨1, [⟨0, nullIndex⟩], [5000]⟩ ⟨⟨1, 11⟩, 100⟩),
     (0, .addCreditMined ⟨1, [⟨0, nullIndex⟩], [5000]⟩ ⟨⟨1, 11⟩, 100⟩ 0 false),
     (7, .rollback 1)] := by
  refine ⟨Or.inr ⟨⟨?_, ?_, ?_⟩, ?_, by decide⟩, ?_, trivial, trivial⟩
  · intro k h; cases h
  · intro br h; cases h
  · intro op uc h; cases h
  · intro inp b h; cases h
  · show KMap.find? _ _ = some _
    decide

/-- non-vacuity of `C01_balance_inv`: the example store satisfies `Inv` -/
example : Inv exStore := invB_sound _ (by decide)

/-! ### ledger level: the store refines the specification `Ledger` (Lemmas/Ref*.lean)

`ConsistentHistory {} es`: every event of `es` is chain-consistent when it is delivered (`Ledger.consistent` — one block
per height, no confirmed double spend, parents first, … — plus what a validating node guarantees besides: inputs name
existing outputs, no unconfirmed transaction conflicting with the chain is delivered, at most 2^32−1 outputs, no
self-spend; `TxStore.Consistent`).  `storeAfter` runs the store calls of `wallet.addRelevantTx` / `Rollback` /
`RemoveUnminedTx` / the lease calls for each event; `ledgerAfter` folds `Ledger.apply`. -/
open Ledger

/-- **C01, balance, against the ledger**: after EVERY chain-consistent history of events — unconfirmed and confirmed
deliveries with redelivery, block disconnections to any height and reconnections, abandonments, leases, sweeps, clock
moves — every store call has succeeded and `Balance`, for every coinbase maturity, `minConf` and `syncHeight`, is the
C01 sentence read on the LEDGER: the sum of the credited outputs of known transactions that no known transaction
spends, that are not leased, have at least `minConf` confirmations and, if coinbase, `maturity` confirmations. -/
theorem C01_balance_ledger (es : List Event) (hc : ConsistentHistory {} es) (mat m sy : Int) :
    ∃ s, storeAfter Store.empty {} es = .ok s ∧
      balance s (ledgerAfter {} es).now mat m sy = .ok (Ledger.balance (ledgerAfter {} es) mat m sy) := by
  obtain ⟨s, h1, hg, _⟩ := good_reachable es hc
  exact ⟨s, h1, balance_good hg mat m sy⟩

/-- the same from any good pair (in particular after every prefix of a consistent history) -/
theorem C01_balance_refines (s : Store) (L : Ledger) (hg : Good s L) (mat m sy : Int) :
    balance s L.now mat m sy = .ok (Ledger.balance L mat m sy) := balance_good hg mat m sy

/-- **C01, spendable outputs, exact order**: `UnspentOutputs` answers `a ++ b` where `a` lists the spendable outputs of
CONFIRMED transactions in ascending outpoint order (hash, then index: the byte order of `canonicalOutPoint`), `b` those
of UNCONFIRMED transactions in ascending outpoint order, and `a ++ b` is a permutation of the ledger's `utxos` — which
determines the list (`C01_utxos_order_unique`) -/
theorem C01_utxos_ledger_exact (es : List Event) (hc : ConsistentHistory {} es) :
    ∃ s a b, storeAfter Store.empty {} es = .ok s ∧ unspentOutputs s (ledgerAfter {} es).now = .ok (a ++ b) ∧
      (a ++ b).Perm (Ledger.utxos (ledgerAfter {} es)) ∧
      (∀ c ∈ a, c.block.isSome = true) ∧ (∀ c ∈ b, c.block = none) ∧
      (a.map (·.op)).Pairwise OutPoint.before ∧ (b.map (·.op)).Pairwise OutPoint.before := by
  obtain ⟨s, h1, hg, _, hs⟩ := good_sorted_reachable es hc
  obtain ⟨a, b, h2⟩ := utxos_refines_exact hg hs
  exact ⟨s, a, b, h1, h2⟩

/-- the description in `C01_utxos_ledger_exact` determines the answer: two lists of that shape with the same elements
are equal -/
theorem C01_utxos_order_unique {a1 b1 a2 b2 : List Credit} (hp : (a1 ++ b1).Perm (a2 ++ b2))
    (x1 : ∀ c ∈ a1, c.block.isSome = true) (y1 : ∀ c ∈ b1, c.block = none)
    (x2 : ∀ c ∈ a2, c.block.isSome = true) (y2 : ∀ c ∈ b2, c.block = none)
    (u1 : (a1.map (·.op)).Pairwise OutPoint.before) (v1 : (b1.map (·.op)).Pairwise OutPoint.before)
    (u2 : (a2.map (·.op)).Pairwise OutPoint.before) (v2 : (b2.map (·.op)).Pairwise OutPoint.before) :
    a1 ++ b1 = a2 ++ b2 := utxos_order_unique hp x1 y1 x2 y2 u1 v1 u2 v2

/-- **C01, outputs to watch, exact order**: `OutputsToWatch` answers `a ++ b`: the watched outputs of confirmed
transactions in ascending outpoint order, then those of unconfirmed transactions in ascending outpoint order -/
theorem C01_watch_ledger_exact (es : List Event) (hc : ConsistentHistory {} es) (now : Nat) :
    ∃ s a b, storeAfter Store.empty {} es = .ok s ∧ outputsToWatch s now = .ok (a ++ b) ∧
      ((a ++ b).map (·.op)).Perm (Ledger.watchSet (ledgerAfter {} es)) ∧
      (∀ c ∈ a, inChain (ledgerAfter {} es) c.op.hash = true) ∧ (∀ c ∈ b, inPool (ledgerAfter {} es) c.op.hash = true) ∧
      (a.map (·.op)).Pairwise OutPoint.before ∧ (b.map (·.op)).Pairwise OutPoint.before := by
  obtain ⟨s, h1, hg, _, hs⟩ := good_sorted_reachable es hc
  obtain ⟨a, b, h2⟩ := watch_refines_exact hg hs now
  exact ⟨s, a, b, h1, h2⟩

/-- **C01, spendable outputs, against the ledger**: after every chain-consistent history `UnspentOutputs` succeeds and
lists — each once, in the store's bucket order — exactly the outputs the C01 sentence names on the ledger: the credited
outputs of known transactions that no known transaction spends and that are not leased, each with its amount, its
confirming block (height, hash, time; none while unconfirmed) and its coinbase flag. -/
theorem C01_utxos_ledger (es : List Event) (hc : ConsistentHistory {} es) :
    ∃ s l, storeAfter Store.empty {} es = .ok s ∧ unspentOutputs s (ledgerAfter {} es).now = .ok l ∧
      l.Perm (Ledger.utxos (ledgerAfter {} es)) := by
  obtain ⟨s, a, b, h1, h2, h3, _⟩ := C01_utxos_ledger_exact es hc
  exact ⟨s, a ++ b, h1, h2, h3⟩

/-- **C01, outputs to watch on restart**: `OutputsToWatch` lists — each once — exactly the credited outputs of known
transactions that no confirmed transaction spends (leased ones and those spent by unconfirmed transactions included) -/
theorem C01_watch_ledger (es : List Event) (hc : ConsistentHistory {} es) (now : Nat) :
    ∃ s l, storeAfter Store.empty {} es = .ok s ∧ outputsToWatch s now = .ok l ∧
      (l.map (·.op)).Perm (Ledger.watchSet (ledgerAfter {} es)) := by
  obtain ⟨s, a, b, h1, h2, h3, _⟩ := C01_watch_ledger_exact es hc now
  exact ⟨s, a ++ b, h1, h2, h3⟩

/-- non-vacuity of `C01_balance_ledger`: a chain-consistent history with a reorg — a coinbase `(1)` confirmed at height
1, a payment `(2)` confirmed at height 2, a spender `(3)` of `(2,0)` seen unconfirmed, block 2 disconnected, `(2)`
reconfirmed in another block 2, a lease, a clock move -/
def exHistory : List Ledger.Event :=
  [.confirmed ⟨⟨1, 11⟩, 100⟩ ⟨1, [⟨0, nullIndex⟩], [5000]⟩ [(0, false)],
   .confirmed ⟨⟨2, 22⟩, 200⟩ ⟨2, [⟨77, 0⟩], [300, 400]⟩ [(0, false), (1, true)],
   .seen ⟨3, [⟨2, 0⟩], [250]⟩ [(0, true)],
   .disconnected 2,
   .confirmed ⟨⟨2, 23⟩, 201⟩ ⟨2, [⟨77, 0⟩], [300, 400]⟩ [(0, false), (1, true)],
   .lease 1 ⟨2, 1⟩ 5000000000,
   .clock 1000000000]

example : ConsistentHistory {} exHistory := consistentHistory_of_b _ _ (by decide)

/-- non-vacuity: after `exHistory` the spendable outputs come confirmed-first in outpoint order — the coinbase output
`(1,0)` (maturity is the caller's business); `(2,0)` is spent by the unconfirmed `(3)` and `(2,1)` is leased, so neither
is listed — then the unconfirmed `(3,0)` -/
example : (storeAfter Store.empty {} exHistory >>= fun s => unspentOutputs s 1000000000).map (·.map (·.op)) =
    .ok [⟨1, 0⟩, ⟨3, 0⟩] := by decide

end TxStore.C01
