import BtcwVerif.Lemmas.RefExact
/-!
# C02 — reorgs converge; state depends on the surviving facts

Proved here, for all stores / ledgers / transactions (no bounds):
* model: conflict removal (`removeConflict`, used on confirmation of a double spend, on abandonment and for spenders of
  detached coinbases) removes the transaction itself, never touches the mined part of the store (blocks, records,
  credits, unspent index, counter) and never adds anything to the unconfirmed buckets; recording an unconfirmed
  transaction never removes another one (conflicting unconfirmed transactions coexist); `C02_rollback_blocks`,
  `C02_rollback_remembers_every_coinbase_output`: what `Rollback` does to the block records and which outputs it
  remembers for the removal of their unconfirmed spenders;
* specification: what `Ledger.apply` says for *disconnected* and *confirmed* really is the sentence of C02 (blocks at
  or above the height vanish; every non-coinbase transaction of a detached block that does not depend on a detached
  coinbase is unconfirmed afterwards with its credits intact; on confirmation unrelated unconfirmed transactions and
  their credits stay).
Ledger level (end of the file, from the refinement Lemmas/Ref*.lean): `C02_disconnect`, `C02_confirm`, `C02_abandon`
— `rollback`, `insertMinedTx` (+ credits) and `RemoveUnminedTx` realise `Ledger.apply` on every good pair;
`C02_refines` — after every chain-consistent history the store refines the ledger; `C02_path_independence_exact` — two
chain-consistent histories whose final ledgers hold the same facts answer every query with the same value, order
included; `C02_path_independence` reads that as sets.
-/
namespace TxStore.C02
open KMap

theorem C02_removeConflict_removes (n : Nat) (s s' : Store) (rec : Tx) (h : removeConflict n s rec = .ok s') :
    s'.unmined.find? rec.hash = none := by
  cases n with
  | zero => cases h
  | succ n =>
    obtain ⟨s1, _, h⟩ := bind_ok_iff.mp (show removeConflictBody (removeConflict n) s rec = .ok s' from h)
    cases h
    exact (find?_erase _ _ _).trans (if_pos rfl)

/-- conflict removal (any depth) leaves the mined part of the store alone: confirmed transactions, their credits, the
unspent index and the balance counter are untouched when unconfirmed conflicts and their descendants disappear -/
theorem C02_removeConflict_mined_untouched (n : Nat) (s s' : Store) (rec : Tx) (h : removeConflict n s rec = .ok s') :
    s'.blocks = s.blocks ∧ s'.txrecs = s.txrecs ∧ s'.credits = s.credits ∧ s'.unspent = s.unspent ∧
      s'.minedBalance = s.minedBalance ∧ s'.debits = s.debits :=
  (upath_removeConflict n s rec s' h).same

/-- the unconfirmed buckets only shrink -/
def Shrinks (s s' : Store) : Prop :=
  (∀ k, s'.unmined.find? k = none ∨ s'.unmined.find? k = s.unmined.find? k) ∧
  (∀ k, s'.unminedCredits.find? k = none ∨ s'.unminedCredits.find? k = s.unminedCredits.find? k)

theorem Shrinks.refl (s : Store) : Shrinks s s := ⟨fun _ => Or.inr rfl, fun _ => Or.inr rfl⟩

theorem Shrinks.trans {a b c : Store} (h1 : Shrinks a b) (h2 : Shrinks b c) : Shrinks a c :=
  ⟨fun k => (h2.1 k).elim Or.inl fun h => (h1.1 k).imp h.trans h.trans,
    fun k => (h2.2 k).elim Or.inl fun h => (h1.2 k).imp h.trans h.trans⟩

private theorem find?_erase_shrinks {κ ν : Type} [DecidableEq κ] (m : KMap κ ν) (k k' : κ) :
    (m.erase k).find? k' = none ∨ (m.erase k).find? k' = m.find? k' := by
  rw [find?_erase]
  split
  · exact Or.inl rfl
  · exact Or.inr rfl

private theorem shrinks_deleteInput (s : Store) (k : OutPoint) (h : Nat) : Shrinks s (deleteRawUnminedInput s k h) := by
  unfold deleteRawUnminedInput
  split
  · exact Shrinks.refl s
  · split
    · exact Shrinks.refl s
    · dsimp only
      split <;> exact ⟨fun _ => Or.inr rfl, fun _ => Or.inr rfl⟩

/-- conflict removal never adds an unconfirmed transaction or an unconfirmed credit, and never alters one it keeps -/
theorem C02_removeConflict_only_removes : ∀ (n : Nat) (s : Store) (t : Tx) (s' : Store),
    removeConflict n s t = .ok s' → Shrinks s s' :=
  removeConflict_rel Shrinks Shrinks.refl (fun _ _ _ => Shrinks.trans)
    (fun s k => ⟨fun _ => Or.inr rfl, find?_erase_shrinks s.unminedCredits k⟩) shrinks_deleteInput
    (fun s h => ⟨find?_erase_shrinks s.unmined h, fun _ => Or.inr rfl⟩)

/-- **conflicting unconfirmed transactions coexist**: recording an unconfirmed transaction removes nothing; the
unconfirmed bucket afterwards is the old one plus (at most) the new record -/
theorem C02_seen_removes_nothing (s s' : Store) (rec : Tx) (h : insertMemPoolTx s rec = .ok s') (k : Nat) :
    s'.unmined.find? k = s.unmined.find? k ∨ (k = rec.hash ∧ s'.unmined.find? k = some rec) := by
  unfold insertMemPoolTx at h
  split at h
  · cases h
  · split at h <;> cases h
    · exact Or.inl rfl
    · rw [foldl_put_eq]
      show (s.unmined.insert rec.hash rec).find? k = _ ∨ _
      rw [find?_insert]
      split
      · rename_i hk
        exact Or.inr ⟨hk.symm, rfl⟩
      · exact Or.inl rfl

/-- **blocks are disconnected**: after a successful `Rollback(height)` no block record at or above `height` is left
and every block record below `height` is exactly as before (block records are in height order, as bbolt keeps them). -/
theorem C02_rollback_blocks (s s' : Store) (height : Int) (h : rollback s height = .ok s')
    (hs : (s.blocks.map (·.1)).Pairwise (· < ·)) :
    (∀ k : Nat, (s'.blocks.find? k).isSome → (k : Int) < height) ∧
    (∀ k : Nat, (k : Int) < height → s'.blocks.find? k = s.blocks.find? k) := by
  simp only [rollback_blocks h hs, find?_filter_key fun k : Nat => decide ((k : Int) < height)]
  constructor
  · intro k hk
    split at hk
    · exact of_decide_eq_true ‹_›
    · cases hk
  · intro k hk
    rw [if_pos (decide_eq_true hk)]

/-- `rollback`, coinbase branch: every output of the detached coinbase is remembered — credited or not (since /repo
2c7f685) — so that its unconfirmed spenders are removed afterwards. -/
theorem C02_rollback_remembers_every_coinbase_output (rec : Tx) (blk : Block) :
    ∀ (outs : List Int) (n : Nat) (r : RB),
      ((withIdx outs n).foldl (rbCoinbaseOut rec blk) r).cb =
        r.cb ++ (List.range outs.length).map (fun i => (⟨rec.hash, n + i⟩ : OutPoint)) := by
  intro outs n r
  have := congrArg (List.map fun i => (⟨rec.hash, i⟩ : OutPoint)) (withIdx_map_fst_eq outs n)
  rw [List.map_map, List.range'_eq_map_range, List.map_map] at this
  exact (rbCoinbaseOut_cb_fold rec blk _ r).trans (congrArg _ this)

/-! ### the specification says what C02 says -/
open Ledger

/-- *disconnected*: no block at or above the height survives -/
theorem C02_spec_disconnect_blocks (L : Ledger) (h : Int) :
    ∀ b ∈ (apply L (.disconnected h)).chain, (b.bm.block.height : Int) < h := by
  intro b hb
  simp only [apply] at hb
  rw [List.mem_filter] at hb
  simpa using hb.2

/-- *disconnected*: every non-coinbase transaction of a detached block that does not depend on a detached coinbase
is unconfirmed afterwards, and the credited outputs of every transaction that does not depend on a detached coinbase
are exactly as before -/
theorem C02_spec_disconnect_moves (L : Ledger) (h : Int) :
    let cut := (L.chain.filter fun b => !decide ((b.bm.block.height : Int) < h)).reverse
    let cutTxs := cut.flatMap (·.txs)
    let cbs := (cutTxs.filter (·.isCoinBase)).map (·.hash)
    let pool1 := L.pool ++ cutTxs.filter (!·.isCoinBase)
    let gone := if cbs.isEmpty then [] else closure pool1 pool1.length cbs
    (∀ t ∈ cutTxs, t.isCoinBase = false → gone.contains t.hash = false → t ∈ (apply L (.disconnected h)).pool) ∧
    (∀ t ∈ L.pool, gone.contains t.hash = false → t ∈ (apply L (.disconnected h)).pool) ∧
    (∀ p ∈ L.credit, gone.contains p.1.hash = false → p ∈ (apply L (.disconnected h)).credit) ∧
    (∀ p ∈ (apply L (.disconnected h)).credit, p ∈ L.credit) := by
  intro cut cutTxs cbs pool1 gone
  refine ⟨fun t ht hcb hg => ?_, fun t ht hg => ?_, fun p hp hg => ?_, fun p hp => (List.mem_filter.mp hp).1⟩
  · exact List.mem_filter.mpr ⟨List.mem_append_right _ (List.mem_filter.mpr ⟨ht, by rw [hcb]; rfl⟩),
      by show (!gone.contains t.hash) = true; rw [hg]; rfl⟩
  · exact List.mem_filter.mpr ⟨List.mem_append_left _ ht, by show (!gone.contains t.hash) = true; rw [hg]; rfl⟩
  · exact List.mem_filter.mpr ⟨hp, by show (!gone.contains p.1.hash) = true; rw [hg]; rfl⟩

/-- *confirmed*: unconfirmed transactions that neither conflict with the confirmed transaction nor descend from a
conflicting one stay, with their credits; nothing appears in the pool -/
theorem C02_spec_confirm_unrelated_stay (L : Ledger) (bm : BlockMeta) (t : Tx) (cr : List (Nat × Bool))
    (hnew : inChain L t.hash = false) :
    let roots := (L.pool.filter fun u => u.hash != t.hash && u.ins.any fun i => t.ins.contains i).map (·.hash)
    let gone := if roots.isEmpty then [] else closure L.pool L.pool.length roots
    (∀ u ∈ L.pool, u.hash ≠ t.hash → gone.contains u.hash = false → u ∈ (apply L (.confirmed bm t cr)).pool) ∧
    (∀ u ∈ (apply L (.confirmed bm t cr)).pool, u ∈ L.pool ∧ u.hash ≠ t.hash) := by
  intro roots gone
  have hp : (apply L (.confirmed bm t cr)).pool = L.pool.filter fun u => u.hash != t.hash && !gone.contains u.hash := by
    simp only [apply, hnew, Bool.false_eq_true, if_false]
    rfl
  rw [hp]
  refine ⟨fun u hu hne hg => List.mem_filter.mpr ⟨hu, ?_⟩, fun u hu => ⟨(List.mem_filter.mp hu).1, ?_⟩⟩
  · rw [hg, bne_iff_ne.mpr hne]; rfl
  · exact bne_iff_ne.mp ((Bool.and_eq_true _ _).mp (List.mem_filter.mp hu).2).1

/-! non-vacuity: a conflict chain is removed, an unrelated transaction stays -/
def exStore : Store :=
  { unmined := [(1, ⟨1, [⟨90, 0⟩], [500]⟩), (2, ⟨2, [⟨1, 0⟩], [400]⟩), (3, ⟨3, [⟨91, 0⟩], [300]⟩)],
    unminedCredits := [(⟨1, 0⟩, ⟨500, false⟩), (⟨2, 0⟩, ⟨400, true⟩), (⟨3, 0⟩, ⟨300, false⟩)],
    unminedInputs := [(⟨1, 0⟩, [2]), (⟨90, 0⟩, [1]), (⟨91, 0⟩, [3])] }

example : (removeUnminedTx exStore ⟨1, [⟨90, 0⟩], [500]⟩).map unminedTxHashes = .ok [3] := by decide
example : (removeUnminedTx exStore ⟨1, [⟨90, 0⟩], [500]⟩).map (·.unminedCredits.map (·.1)) = .ok [⟨3, 0⟩] := by decide


/-- **`Rollback` realises *disconnected***: on every store that refines a well-formed ledger, `Rollback(h)` succeeds
and the result refines `Ledger.apply L (.disconnected h)` — the blocks at or above `h` are gone, their non-coinbase
transactions are unconfirmed again with their credits, the coinbases and every unconfirmed transaction depending on
them have disappeared.  No precondition on `h`. -/
theorem C02_disconnect (s : Store) (L : Ledger) (hg : Good s L) (h : Int) :
    ∃ s', rollback s h = .ok s' ∧ Good s' (Ledger.apply L (.disconnected h)) := by
  obtain ⟨s', h1, h2, _⟩ := good_disconnected hg L.now h
  exact ⟨s', h1, h2⟩

/-- **`InsertTx` + `AddCredit` realise *confirmed***: for a chain-consistent confirmation the calls of
`wallet.addRelevantTx` succeed and the result refines `Ledger.apply`: the transaction joins its block, its unconfirmed
copy and credits move, the credits it spends are marked, conflicting unconfirmed transactions and all their
descendants disappear, leases on its inputs end -/
theorem C02_confirm (s : Store) (L : Ledger) (hg : Good s L) (bm : BlockMeta) (t : Tx) (cr : List (Nat × Bool))
    (hc : Consistent L (.confirmed bm t cr)) :
    ∃ r, addRelevantTx false s t (some bm) cr = .ok r ∧ Good r.2 (Ledger.apply L (.confirmed bm t cr)) := by
  obtain ⟨s', h1, h2, _⟩ := good_confirmed hg L.now hc
  obtain ⟨r, hr, e⟩ := bind_ok_iff.mp (show (addRelevantTx false s t (some bm) cr >>= fun r => pure r.2) = .ok s' from h1)
  cases e
  exact ⟨r, hr, h2⟩

/-- **`RemoveUnminedTx` realises *abandoned***: the transaction and all its unconfirmed descendants disappear, with
their credits; nothing else changes -/
theorem C02_abandon (s : Store) (L : Ledger) (hg : Good s L) (t : Tx) (hc : Consistent L (.abandoned t)) :
    ∃ s', removeUnminedTx s t = .ok s' ∧ Good s' (Ledger.apply L (.abandoned t)) := by
  obtain ⟨s', h1, h2, _⟩ := good_abandoned hg L.now hc
  exact ⟨s', h1, h2⟩

/-- **the store refines the ledger after every chain-consistent history** (any interleaving of deliveries,
confirmations, disconnections to any height, reconnections in any order, abandonments, lease events): every store call
succeeds, and every bucket holds exactly what the ledger expects (`Refines`), the store invariant `WF2` and the ledger's
well-formedness hold -/
theorem C02_refines (es : List Event) (hc : ConsistentHistory {} es) :
    ∃ s, storeAfter Store.empty {} es = .ok s ∧ Good s (ledgerAfter {} es) := by
  obtain ⟨s, h1, h2, _⟩ := good_reachable es hc
  exact ⟨s, h1, h2⟩

/-- non-vacuity of `C02_path_independence`: a history with a reorg (block 2 connected, disconnected, another block 2
connected; a payment first seen unconfirmed, later confirmed) and the direct construction of the same final facts -/
def exReorg : List Event :=
  [.confirmed ⟨⟨1, 11⟩, 100⟩ ⟨1, [⟨0, nullIndex⟩], [5000]⟩ [(0, false)],
   .seen ⟨2, [⟨77, 0⟩], [300, 400]⟩ [(0, false), (1, true)],
   .confirmed ⟨⟨2, 22⟩, 200⟩ ⟨2, [⟨77, 0⟩], [300, 400]⟩ [(0, false), (1, true)],
   .disconnected 2,
   .confirmed ⟨⟨2, 23⟩, 201⟩ ⟨2, [⟨77, 0⟩], [300, 400]⟩ [(0, false), (1, true)]]

def exDirect : List Event :=
  [.confirmed ⟨⟨1, 11⟩, 100⟩ ⟨1, [⟨0, nullIndex⟩], [5000]⟩ [(0, false)],
   .confirmed ⟨⟨2, 23⟩, 201⟩ ⟨2, [⟨77, 0⟩], [300, 400]⟩ [(0, false), (1, true)]]

example : ConsistentHistory {} exReorg := consistentHistory_of_b _ _ (by decide)

example : ConsistentHistory {} exDirect := consistentHistory_of_b _ _ (by decide)

example : SameFacts (ledgerAfter {} exReorg) (ledgerAfter {} exDirect) := by
  have : ledgerAfter {} exReorg = ledgerAfter {} exDirect := by decide
  rw [this]; exact SameFacts.refl _

/-- **C02, path independence, exact**: under the hypotheses of `C02_path_independence` the two stores give the
SAME answers, order included — not merely the same sets:
* `Balance` for every maturity, `minConf`, `syncHeight`;
* `UnspentOutputs`: the same list (confirmed outputs in ascending outpoint order, then the unconfirmed ones);
* `TxDetails` of every hash: the same answer, credit and debit records in the same (index) order;
* the unconfirmed batch of `RangeTransactions` (`rangeUnmined`): the same records in the same (hash) order.
The buckets are in key order after every sequence of store calls (`sortedS_storeAfter`), so a cursor walk depends on the
CONTENT of a bucket only.  What is left path-dependent, by design: the order of the transactions inside one BLOCK batch
of `RangeTransactions` — the block record lists them in the order the wallet learned them (`C13_range_exact`), and
`SameFacts` deliberately allows different delivery orders inside a block. -/
theorem C02_path_independence_exact (es1 es2 : List Event) (hc1 : ConsistentHistory {} es1)
    (hc2 : ConsistentHistory {} es2) (hf : SameFacts (ledgerAfter {} es1) (ledgerAfter {} es2)) :
    ∃ s1 s2, storeAfter Store.empty {} es1 = .ok s1 ∧ storeAfter Store.empty {} es2 = .ok s2 ∧
      (∀ mat m sy, balance s1 (ledgerAfter {} es1).now mat m sy = balance s2 (ledgerAfter {} es2).now mat m sy) ∧
      unspentOutputs s1 (ledgerAfter {} es1).now = unspentOutputs s2 (ledgerAfter {} es2).now ∧
      (∃ l, unspentOutputs s1 (ledgerAfter {} es1).now = .ok l) ∧
      (∀ h, txDetails s1 h = txDetails s2 h ∧ ∃ o, txDetails s1 h = .ok o) ∧
      rangeUnmined s1 = rangeUnmined s2 := by
  obtain ⟨s1, h1, hg1, hn1, hs1⟩ := good_sorted_reachable es1 hc1
  obtain ⟨s2, h2, hg2, hn2, hs2⟩ := good_sorted_reachable es2 hc2
  refine ⟨s1, s2, h1, h2, ?_, utxos_path_independent hg1 hg2 hs1 hs2 hf, ?_, ?_,
    rangeUnmined_path_independent hg1 hg2 hn1 hn2 hs1 hs2 hf⟩
  · intro mat m sy
    rw [balance_good hg1, balance_good hg2, hf.balance_eq]
  · obtain ⟨l, e, _⟩ := utxos_refines hg1
    exact ⟨l, e⟩
  · intro h
    rw [details_refines_exact hg1 hn1 hs1 h, details_refines_exact hg2 hn2 hs2 h, hf.details_eq hg2.lwf]
    exact ⟨rfl, _, rfl⟩

/-- **C02, path independence**: two chain-consistent histories — however different: with or without reorgs, blocks
connected in different orders, transactions first seen unconfirmed or directly in a block — whose final ledgers hold
the same facts (`SameFacts`: same blocks with the same sets of transactions, same unconfirmed set, same credited
outputs, same leases, same clock) leave stores that answer alike:
* `Balance` for every coinbase maturity, `minConf` and `syncHeight`;
* `UnspentOutputs`: the same set of outputs with amounts, blocks and coinbase flags;
* `TxDetails` of every hash: both "none", or the same transaction under the same block with the same credit and debit
  records (stated as sets; obtained from the equal answers of `C02_path_independence_exact`, whose docstring says what
  stays order-dependent). -/
theorem C02_path_independence (es1 es2 : List Event) (hc1 : ConsistentHistory {} es1) (hc2 : ConsistentHistory {} es2)
    (hf : SameFacts (ledgerAfter {} es1) (ledgerAfter {} es2)) :
    ∃ s1 s2, storeAfter Store.empty {} es1 = .ok s1 ∧ storeAfter Store.empty {} es2 = .ok s2 ∧
      (∀ mat m sy, balance s1 (ledgerAfter {} es1).now mat m sy = balance s2 (ledgerAfter {} es2).now mat m sy) ∧
      (∃ l1 l2, unspentOutputs s1 (ledgerAfter {} es1).now = .ok l1 ∧
        unspentOutputs s2 (ledgerAfter {} es2).now = .ok l2 ∧ l1.Perm l2) ∧
      (∀ h, ∃ o1 o2, txDetails s1 h = .ok o1 ∧ txDetails s2 h = .ok o2 ∧ SameAnswer o1 o2) := by
  obtain ⟨s1, s2, h1, h2, hb, hu, ⟨l, hl⟩, hd, _⟩ := C02_path_independence_exact es1 es2 hc1 hc2 hf
  refine ⟨s1, s2, h1, h2, hb, ⟨l, l, hl, hu ▸ hl, List.Perm.refl _⟩, fun h => ?_⟩
  obtain ⟨e, o, ho⟩ := hd h
  exact ⟨o, o, ho, e ▸ ho, SameAnswer.refl o⟩

end TxStore.C02
