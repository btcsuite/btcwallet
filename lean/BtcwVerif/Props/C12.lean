import BtcwVerif.Lemmas.Calls
import BtcwVerif.Lemmas.LedgerRead
/-!
# C12 — a leased output stays out of reach until released or expired

Theorems about the lease operations of the `TxStore` model (`LockOutput`, `UnlockOutput`,
`DeleteExpiredLockedOutputs`, `ListLockedOutputs`, `isLockedOutput`, the lease clearing of `insertMinedTx`, the
lease tests inside `Balance` and `UnspentOutputs`) on an ARBITRARY store, arbitrary ids, instants and durations.
Time is in nanoseconds; the stored expiry is in whole seconds exactly as `serializeLockedOutput` writes it; the
expiry handed to the caller is rounded up to a whole second so that both agree (`C12_expiry_exact`).
-/
namespace TxStore.C12
open KMap

/-- the bucket entry is in force at `now` -/
def InForce (l : Lease) (now : Nat) : Prop := (now : Int) < l.expiry * 1000000000

theorem isLockedOutput_eq (s : Store) (op : OutPoint) (now : Nat) :
    isLockedOutput s op now =
      match s.locked.find? op with
      | none => none
      | some l => if (now : Int) < l.expiry * 1000000000 then some l else none := rfl

/-- what `isLockedOutput` answers: the bucket entry, if it is in force -/
theorem isLockedOutput_eq_some {s : Store} {op : OutPoint} {now : Nat} {l : Lease} :
    isLockedOutput s op now = some l ↔ s.locked.find? op = some l ∧ InForce l now := by
  rw [isLockedOutput_eq]
  cases s.locked.find? op with
  | none => exact ⟨fun h => (nomatch h), fun h => (nomatch h.1)⟩
  | some l' =>
    dsimp only
    split
    · exact ⟨fun h => by cases h; exact ⟨rfl, ‹_›⟩, fun h => h.1⟩
    · exact ⟨fun h => (nomatch h), fun ⟨h, hf⟩ => by cases h; exact absurd hf ‹_›⟩

/-- **free iff released or expired** — an output is leased exactly when the bucket holds an entry whose (stored)
expiry has not been reached; at the boundary instant `now = expiry` it is free. -/
theorem C12_free_iff (s : Store) (op : OutPoint) (now : Nat) :
    isLocked s op now = true ↔ ∃ l, s.locked.find? op = some l ∧ InForce l now :=
  Option.isSome_iff_exists.trans (exists_congr fun _ => isLockedOutput_eq_some)

/-- boundary: at the stored expiry instant itself (and any later instant) the output is free -/
theorem C12_free_at_expiry (s : Store) (op : OutPoint) (l : Lease) (now : Nat)
    (h : s.locked.find? op = some l) (hn : l.expiry * 1000000000 ≤ (now : Int)) : isLocked s op now = false := by
  have : ¬ isLocked s op now = true := by
    rw [C12_free_iff]
    rintro ⟨l', h', hf⟩
    rw [h] at h'; cases h'
    unfold InForce at hf; omega
  simpa using this

/-- one nanosecond before the stored expiry it is still leased -/
theorem C12_leased_before_expiry (s : Store) (op : OutPoint) (l : Lease) (now : Nat)
    (h : s.locked.find? op = some l) (hn : (now : Int) < l.expiry * 1000000000) : isLockedOutput s op now = some l :=
  isLockedOutput_eq_some.mpr ⟨h, hn⟩

/-- **unknown refused** — leasing or releasing an output the store does not know fails and changes nothing
(an error returns no store). -/
theorem C12_unknown_refused (s : Store) (now id : Nat) (op : OutPoint) (d : Int) (h : isKnownOutput s op = false) :
    lockOutput s now id op d = .error Err.unknownOutput ∧ unlockOutput s now id op = .error Err.unknownOutput := by
  simp [lockOutput, unlockOutput, h]

/-- **other id refused** — while a lease is in force, another identifier can neither lease nor release the output. -/
theorem C12_other_id (s : Store) (now id id' : Nat) (op : OutPoint) (d : Int) (l : Lease)
    (hk : isKnownOutput s op = true) (hl : isLockedOutput s op now = some l) (hid : l.id = id) (hne : id' ≠ id) :
    lockOutput s now id' op d = .error Err.alreadyLocked ∧ unlockOutput s now id' op = .error Err.unlockNotAllowed := by
  have : l.id ≠ id' := by rw [hid]; exact fun h => hne h.symm
  simp [lockOutput, unlockOutput, hk, hl, this]

/-- whatever the state of knowledge, a different identifier never obtains or removes a lease in force -/
theorem C12_other_id_never_ok (s : Store) (now id' : Nat) (op : OutPoint) (d : Int) (l : Lease)
    (hl : isLockedOutput s op now = some l) (hne : l.id ≠ id') :
    (∀ r, lockOutput s now id' op d ≠ .ok r) ∧ (∀ r, unlockOutput s now id' op ≠ .ok r) := by
  cases hk : isKnownOutput s op <;> simp [lockOutput, unlockOutput, hk, hl, hne]

/-- **same id extends / free output can be leased** — the call succeeds, hands the granted expiry (`now + d` rounded
up to a whole second) to the caller, stores exactly that instant (in seconds) under the id, and touches nothing else. -/
theorem C12_extend (s : Store) (now id : Nat) (op : OutPoint) (d : Int)
    (hk : isKnownOutput s op = true)
    (hfree : ∀ l, isLockedOutput s op now = some l → l.id = id) :
    ∃ s', lockOutput s now id op d = .ok (grantedExpiry now d, s') ∧
      s'.locked.find? op = some ⟨id, unixSeconds (grantedExpiry now d)⟩ ∧
      (∀ op', op' ≠ op → s'.locked.find? op' = s.locked.find? op') ∧
      s' = { s with locked := s'.locked } := by
  refine ⟨{ s with locked := s.locked.insert op ⟨id, unixSeconds (grantedExpiry now d)⟩ }, ?_, ?_, ?_, rfl⟩
  · cases hl : isLockedOutput s op now with
    | none => simp [lockOutput, hk, hl]
    | some l => simp [lockOutput, hk, hl, hfree l hl]
  · simp
  · intro op' hne; exact find?_insert_ne _ _ (fun h => hne h.symm)

/-- **release** — the holder's release removes the entry: the output is free at every later (and earlier) instant,
other leases are untouched. -/
theorem C12_release (s : Store) (now id : Nat) (op : OutPoint) (l : Lease)
    (hk : isKnownOutput s op = true) (hl : isLockedOutput s op now = some l) (hid : l.id = id) :
    ∃ s', unlockOutput s now id op = .ok s' ∧ (∀ t, isLocked s' op t = false) ∧
      (∀ op', op' ≠ op → s'.locked.find? op' = s.locked.find? op') := by
  refine ⟨unlockOutputRaw s op, ?_, ?_, ?_⟩
  · simp [unlockOutput, hk, hl, hid]
  · intro t; simp [isLocked, isLockedOutput, unlockOutputRaw]
  · intro op' hne; exact find?_erase_ne _ (fun h => hne h.symm)

/-- releasing an output that is not leased (never leased, released, or expired) succeeds and changes nothing -/
theorem C12_release_free (s : Store) (now id : Nat) (op : OutPoint)
    (hk : isKnownOutput s op = true) (hl : isLockedOutput s op now = none) : unlockOutput s now id op = .ok s := by
  simp [unlockOutput, hk, hl]

private theorem sweep_eq (s : Store) (now : Nat) : deleteExpiredLockedOutputs s now = { s with locked :=
    ((s.locked.filter fun p => !decide ((now : Int) < p.2.expiry * 1000000000)).map (·.1)).foldl KMap.erase s.locked } :=
  List.foldl_map.symm.trans (foldl_unlock_eq _ s)

/-- **sweep removes exactly the expired leases** (`DeleteExpiredLockedOutputs`): afterwards an entry is present iff
it was present and in force; entries in force keep id and expiry. Keys of the bucket are unique (bbolt; preserved
by every operation, `nodupKeys_insert/_erase`). -/
theorem C12_sweep_exact (s : Store) (now : Nat) (op : OutPoint) (hn : NodupKeys s.locked) :
    (deleteExpiredLockedOutputs s now).locked.find? op =
      match s.locked.find? op with
      | some l => if (now : Int) < l.expiry * 1000000000 then some l else none
      | none => none := by
  rw [sweep_eq]
  show KMap.find? _ op = _
  rw [find?_foldl_erase]
  cases h : s.locked.find? op with
  | none =>
    dsimp only
    split <;> rfl
  | some l =>
    dsimp only
    by_cases hc : (now : Int) < l.expiry * 1000000000
    · rw [if_pos hc, if_neg]
      rintro hm
      obtain ⟨⟨o, l'⟩, hmem, rfl⟩ := List.mem_map.mp hm
      rw [List.mem_filter, mem_iff_find? _ hn, h] at hmem
      cases hmem.1
      simp [hc] at hmem
    · rw [if_neg hc, if_pos]
      exact List.mem_map.mpr ⟨(op, l), List.mem_filter.mpr ⟨mem_of_find? _ h, by simp [hc]⟩, rfl⟩

/-- sweep touches nothing but the lease bucket -/
theorem C12_sweep_only_leases (s : Store) (now : Nat) :
    deleteExpiredLockedOutputs s now = { s with locked := (deleteExpiredLockedOutputs s now).locked } := by
  rw [sweep_eq]

/-- sweeping never changes what is leased at the instant of the sweep -/
theorem C12_sweep_invisible (s : Store) (now : Nat) (op : OutPoint) (hn : NodupKeys s.locked) :
    isLockedOutput (deleteExpiredLockedOutputs s now) op now = isLockedOutput s op now := by
  rw [isLockedOutput_eq, isLockedOutput_eq, C12_sweep_exact s now op hn]
  cases h : s.locked.find? op with
  | none => rfl
  | some l => by_cases hc : (now : Int) < l.expiry * 1000000000 <;> simp [hc]

/-- `ListLockedOutputs` lists exactly the leases in force -/
theorem C12_list_exact (s : Store) (now : Nat) (op : OutPoint) (l : Lease) (hn : NodupKeys s.locked) :
    (op, l) ∈ listLockedOutputs s now ↔ isLockedOutput s op now = some l := by
  unfold listLockedOutputs
  rw [List.mem_filter, mem_iff_find? _ hn, decide_eq_true_eq, isLockedOutput_eq_some]
  exact Iff.rfl

/-- **a confirmed spend clears the lease**: after `insertMinedTx` succeeds, no input of the confirmed transaction
has a lease entry any more (whatever id held it, whatever the clock says). -/
theorem C12_confirmed_spend_clears (s s' : Store) (rec : Tx) (bm : BlockMeta)
    (h : insertMinedTx s rec bm = .ok s') (inp : OutPoint) (hin : inp ∈ rec.ins) :
    s'.locked.find? inp = none ∧ ∀ t, isLocked s' inp t = false := by
  rw [insertMinedTx_core] at h
  split at h
  · cases h
  · obtain ⟨s2, _, h⟩ := bind_ok_iff.mp h
    cases h
    have : (rec.ins.foldl unlockOutputRaw s2).locked.find? inp = none := by
      rw [foldl_unlock_eq]
      show KMap.find? _ inp = none
      rw [find?_foldl_erase, if_pos (by simpa using hin)]
    exact ⟨this, fun t => by simp [isLocked, isLockedOutput, this]⟩

/-- **excluded from the spendable set**: no output returned by `UnspentOutputs` is leased at that instant. -/
theorem C12_excluded_utxos (s : Store) (now : Nat) (l : List Credit) (h : unspentOutputs s now = .ok l)
    (c : Credit) (hc : c ∈ l) : isLocked s c.op now = false :=
  (mem_unspentOutputs h hc).1

/-- **once, not twice** — the three passes of `Balance`, entry by entry: a leased mined output is subtracted by
pass 1 (whether or not an unconfirmed transaction also spends it) and skipped by pass 2; an output spent by an
unconfirmed transaction is subtracted by pass 1 and skipped by pass 2; a leased or spent unconfirmed output is not
added by pass 3. -/
theorem C12_once_not_twice (s : Store) (now : Nat) (bal : Int) :
    (∀ op blk cv, isLocked s op now = true → s.credits.find? ⟨op.hash, blk, op.index⟩ = some cv →
        balPass1 s now bal (op, blk) = .ok (bal - cv.amount)) ∧
    (∀ op blk cv, isLocked s op now = false → spentByUnmined s op = true →
        s.credits.find? ⟨op.hash, blk, op.index⟩ = some cv → balPass1 s now bal (op, blk) = .ok (bal - cv.amount)) ∧
    (∀ op blk, isLocked s op now = false → spentByUnmined s op = false → balPass1 s now bal (op, blk) = .ok bal) ∧
    (∀ m sy mat blk rec h i, (isLocked s ⟨h, i⟩ now = true ∨ spentByUnmined s ⟨h, i⟩ = true) →
        balPass2Out s now m sy mat blk rec h bal i = bal) ∧
    (∀ op uc, (isLocked s op now = true ∨ spentByUnmined s op = true) → balPass3 s now bal (op, uc) = bal) := by
  refine ⟨?_, ?_, ?_, ?_, ?_⟩
  · intro op blk cv hl hc; simp [balPass1, hl, hc]
  · intro op blk cv hl hs hc; simp [balPass1, hl, hs, hc]
  · intro op blk hl hs; simp [balPass1, hl, hs]
  · intro m sy mat blk rec h i hor
    unfold balPass2Out
    rcases hor with hl | hs
    · simp [hl]
    · by_cases hl : isLocked s ⟨h, i⟩ now = true <;> simp [hl, hs]
  · intro op uc hor
    unfold balPass3
    rcases hor with hl | hs
    · simp [hl]
    · by_cases hl : isLocked s op now = true <;> simp [hl, hs]

/-- `Balance` under `Inv`, read per lease: the value returned is the sum over the credits that `countsMined` /
`countsUnmined` admit, and both predicates reject every output leased at that instant — a leased output contributes
exactly nothing, whether it is confirmed, immature, or also spent by an unconfirmed transaction. (`Inv`, the representation invariant of C01, is a
hypothesis here; `C12_excluded_balance` discharges it.) -/
theorem C12_excluded_balance_partial (s : Store) (hinv : Inv s) (now : Nat) (mat m sy : Int) :
    (∃ v, balance s now mat m sy = .ok v ∧ v = storeTruth s now mat m sy) ∧
    (∀ c : CInfo, isLocked s c.key.outPoint now = true → countsMined s now m sy mat c = false) ∧
    (∀ e : OutPoint × UCredit, isLocked s e.1 now = true → countsUnmined s now e = false) := by
  refine ⟨?_, ?_, ?_⟩
  · exact ⟨_, balance_eq_storeTruth s hinv now mat m sy, rfl⟩
  · intro c hl; simp [countsMined, hl]
  · intro e hl; simp [countsUnmined, hl]

/-- **excluded from the balance, after every history of store calls that meets `Call.Pre`** (`Rollback` to any height included): `Balance` is the sum over
the credits admitted by `countsMined` / `countsUnmined`, and both reject every output leased at that instant. -/
theorem C12_excluded_balance (ops : List (Nat × Call)) (hp : PreAll Store.empty ops) (now : Nat) (mat m sy : Int) :
    balance (runCalls Store.empty ops) now mat m sy = .ok (storeTruth (runCalls Store.empty ops) now mat m sy) ∧
    (∀ c : CInfo, isLocked (runCalls Store.empty ops) c.key.outPoint now = true →
        countsMined (runCalls Store.empty ops) now m sy mat c = false) ∧
    (∀ e : OutPoint × UCredit, isLocked (runCalls Store.empty ops) e.1 now = true →
        countsUnmined (runCalls Store.empty ops) now e = false) :=
  ⟨balance_eq_storeTruth _ (inv_runCalls ops hp) now mat m sy,
   fun c hl => by simp [countsMined, hl], fun e hl => by simp [countsUnmined, hl]⟩

/-! ### the expiry handed to the caller is the expiry that is stored (since /repo 4c73b71 `LockOutput` rounds it up to a
whole second; DESIGN §7-F8) -/

/-- whole seconds of an instant: at most one second below it, never above -/
theorem C12_expiry_gap (e : Int) : unixSeconds e * 1000000000 ≤ e ∧ e < unixSeconds e * 1000000000 + 1000000000 := by
  unfold unixSeconds
  constructor <;> omega

theorem grantedExpiry_spec (now : Nat) (d : Int) : grantedExpiry now d % 1000000000 = 0 ∧
    (now : Int) + d ≤ grantedExpiry now d ∧ grantedExpiry now d < (now : Int) + d + 1000000000 := by
  unfold grantedExpiry
  dsimp only
  split <;> omega

/-- **the granted expiry is exactly what is stored**: no instant exists at which the caller believes the lease is in
force while the store has released it, or vice versa -/
theorem C12_expiry_exact (now : Nat) (d : Int) :
    unixSeconds (grantedExpiry now d) * 1000000000 = grantedExpiry now d := by
  have := (grantedExpiry_spec now d).1
  unfold unixSeconds
  omega

/-- the granted expiry is never before `now + d` and less than one second after it -/
theorem C12_expiry_bounds (now : Nat) (d : Int) :
    (now : Int) + d ≤ grantedExpiry now d ∧ grantedExpiry now d < (now : Int) + d + 1000000000 :=
  (grantedExpiry_spec now d).2

/-- **leased until the expiry handed to the caller, free from then on**: after a successful `LockOutput` returning
`e`, the output is leased at every instant before `e` and free at `e` and later (until somebody leases it again). -/
theorem C12_leased_until_returned_expiry (s s' : Store) (now id : Nat) (op : OutPoint) (d e : Int)
    (h : lockOutput s now id op d = .ok (e, s')) (t : Nat) :
    isLocked s' op t = decide ((t : Int) < e) := by
  obtain ⟨rfl, rfl⟩ := lockOutput_result h
  unfold isLocked
  rw [isLockedOutput_eq]
  show (match (KMap.insert s.locked op _).find? op with | none => none | some l => _).isSome = _
  rw [find?_insert_self]
  dsimp only
  rw [C12_expiry_exact]
  by_cases hc : (t : Int) < grantedExpiry now d <;> simp [hc]

/-- a concrete store: one unconfirmed credited output `(7,0)` -/
def exStore : Store := { unmined := [(7, ⟨7, [⟨99, 0⟩], [5000]⟩)], unminedCredits := [(⟨7, 0⟩, ⟨5000, false⟩)] }

/-- a lease with a sub-second expiry: at 0.5 s the output is leased for 1.2 s; `LockOutput` returns 2.0 s (1.7 s rounded
up); at 1.999999999 s it is still leased and a different id is refused; at 2.0 s it is free. -/
theorem C12_subsecond_lease_example :
    ∃ s', lockOutput exStore 500000000 1 ⟨7, 0⟩ 1200000000 = .ok (2000000000, s') ∧
      isLocked s' ⟨7, 0⟩ 1999999999 = true ∧
      lockOutput s' 1999999999 2 ⟨7, 0⟩ 1000000000 = .error Err.alreadyLocked ∧
      isLocked s' ⟨7, 0⟩ 2000000000 = false := by
  refine ⟨_, rfl, ?_, ?_, ?_⟩ <;> decide

/-! ### refinement of the lease events: the store's lease bucket implements the `Ledger`'s leases

`LeaseRefines s L`: the lease bucket and `L.leases` agree pointwise (the ledger keeps the instant handed to the caller
in ns, the store whole seconds), and the store knows exactly the outputs the ledger allows to lease.  The four lease
events (*lease*, *release*, *sweep*, *clock*) preserve the relation, and the lease queries agree.
The five `…_refines_partial` theorems assume `LeaseRefines s L`; that it holds after every chain-consistent history
is `leaseRefines_of_good` (Lemmas/RefLease.lean) with `good_history` (Lemmas/RefAll.lean), in files that import this one. -/

structure LeaseRefines (s : Store) (L : Ledger.Ledger) : Prop where
  known : ∀ op, isKnownOutput s op = Ledger.leasable L op
  leases : ∀ op, (s.locked.find? op).map (fun l => (l.id, l.expiry * 1000000000)) =
    (Ledger.lookup L.leases op).map (fun l => (l.id, l.expiry))

theorem LeaseRefines.lookup {s : Store} {L : Ledger.Ledger} (h : LeaseRefines s L) (op : OutPoint) :
    Ledger.lookup L.leases op = (s.locked.find? op).map fun l => ⟨l.id, l.expiry * 1000000000⟩ := by
  have := h.leases op
  cases h1 : s.locked.find? op <;> cases h2 : Ledger.lookup L.leases op <;> rw [h1, h2] at this
  · rfl
  · cases this
  · cases this
  · rename_i l l'
    cases l'
    simp only [Option.map_some, Option.some.injEq, Prod.mk.injEq] at this
    simp [this.1, this.2]

theorem LeaseRefines.leaseOf {s : Store} {L : Ledger.Ledger} (h : LeaseRefines s L) (op : OutPoint) :
    Ledger.leaseOf L op = (isLockedOutput s op L.now).map fun l => ⟨l.id, l.expiry * 1000000000⟩ := by
  unfold Ledger.leaseOf
  rw [h.lookup, isLockedOutput_eq]
  cases s.locked.find? op with
  | none => rfl
  | some l => show (if _ then _ else _) = Option.map _ (if _ then _ else _); split <;> rfl

private theorem leasable_leases (L : Ledger.Ledger) (ls : List (OutPoint × Ledger.Lease)) (op : OutPoint) :
    Ledger.leasable { L with leases := ls } op = Ledger.leasable L op := rfl

/-- **lease** refines: `LockOutput` at the ledger's clock does to the bucket what `Ledger.apply (.lease …)` does to
the ledger's leases (refused for unknown outputs and for outputs held by another id, granted/extended otherwise, the
stored seconds being exactly the granted instant). -/
theorem C12_lease_refines_partial (s : Store) (L : Ledger.Ledger) (id : Nat) (op : OutPoint) (d : Int)
    (h : LeaseRefines s L) :
    LeaseRefines (match lockOutput s L.now id op d with | .ok (_, s') => s' | .error _ => s)
      (Ledger.apply L (.lease id op d)) := by
  have hnew : LeaseRefines { s with locked := s.locked.insert op ⟨id, unixSeconds (grantedExpiry L.now d)⟩ }
      { L with leases := (L.leases.filter fun p => p.1 != op) ++ [(op, ⟨id, grantedExpiry L.now d⟩)] } := by
    refine ⟨h.known, fun op' => ?_⟩
    show ((s.locked.insert op _).find? op').map _ = _
    rw [find?_insert, lookup_eq_find?, find?_append, filter_ne_eq_erase, find?_erase, find?_cons, ← lookup_eq_find? L.leases, h.lookup]
    by_cases e : op = op'
    · subst e; simp [C12_expiry_exact]
    · rw [if_neg e, if_neg e, if_neg e]
      cases s.locked.find? op' <;> rfl
  rw [Ledger.apply, ← h.known, h.leaseOf]
  unfold lockOutput
  cases isKnownOutput s op with
  | false => exact h
  | true =>
    cases isLockedOutput s op L.now with
    | none => exact hnew
    | some l =>
      by_cases hid : l.id = id
      · simpa [hid] using hnew
      · simpa [hid] using h

theorem C12_release_refines_partial (s : Store) (L : Ledger.Ledger) (id : Nat) (op : OutPoint)
    (h : LeaseRefines s L) :
    LeaseRefines (match unlockOutput s L.now id op with | .ok s' => s' | .error _ => s)
      (Ledger.apply L (.release id op)) := by
  have hnew : LeaseRefines (unlockOutputRaw s op) { L with leases := L.leases.filter fun p => p.1 != op } := by
    refine ⟨h.known, fun op' => ?_⟩
    show ((s.locked.erase op).find? op').map _ = _
    rw [find?_erase, lookup_eq_find?, filter_ne_eq_erase, find?_erase, ← lookup_eq_find? L.leases, h.lookup]
    by_cases e : op = op'
    · rw [if_pos e, if_pos e]; rfl
    · rw [if_neg e, if_neg e]
      cases s.locked.find? op' <;> rfl
  rw [Ledger.apply, ← h.known, h.leaseOf]
  unfold unlockOutput
  cases isKnownOutput s op with
  | false => exact h
  | true =>
    cases isLockedOutput s op L.now with
    | none => exact h
    | some l =>
      by_cases hid : l.id = id
      · simpa [hid] using hnew
      · simpa [hid] using h

/-- **sweep** refines: `DeleteExpiredLockedOutputs` removes from the bucket exactly the leases the ledger drops
(keys of the bucket and of the ledger's lease list are unique). -/
theorem C12_sweep_refines_partial (s : Store) (L : Ledger.Ledger) (h : LeaseRefines s L)
    (hn : NodupKeys s.locked) (hnL : (L.leases.map (·.1)).Nodup) :
    LeaseRefines (deleteExpiredLockedOutputs s L.now) (Ledger.apply L .sweep) := by
  refine ⟨?_, ?_⟩
  · intro op
    have : isKnownOutput (deleteExpiredLockedOutputs s L.now) op = isKnownOutput s op := by
      rw [C12_sweep_only_leases]; rfl
    rw [this]; exact h.known op
  · intro op
    rw [C12_sweep_exact s L.now op hn]
    show _ = (Ledger.lookup (L.leases.filter fun p => decide ((L.now : Int) < p.2.expiry)) op).map _
    rw [lookup_eq_find?, find?_filter_val (fun l : Ledger.Lease => decide ((L.now : Int) < l.expiry)) L.leases op hnL,
      ← lookup_eq_find? L.leases, h.lookup]
    cases s.locked.find? op with
    | none => rfl
    | some l =>
      show Option.map _ (if _ then _ else _) = Option.map _ (Option.filter _ (some _))
      by_cases hc : (L.now : Int) < l.expiry * 1000000000 <;> simp [hc, Option.filter]

/-- **clock** refines (the store has no clock of its own: the relation does not mention it). -/
theorem C12_clock_refines_partial (s : Store) (L : Ledger.Ledger) (t : Nat) (h : LeaseRefines s L) :
    LeaseRefines s (Ledger.apply L (.clock t)) := ⟨fun op => h.known op, fun op => h.leases op⟩

/-- **the lease queries agree**: an output is leased at the ledger's clock in the store iff it is in the ledger, under
the same id and until the same instant — in particular at the boundary instant `now = expiry` both say free. -/
theorem C12_leased_refines_partial (s : Store) (L : Ledger.Ledger) (h : LeaseRefines s L) (op : OutPoint) :
    isLocked s op L.now = Ledger.leased L op := by
  unfold isLocked Ledger.leased
  rw [h.leaseOf]
  cases isLockedOutput s op L.now <;> rfl

/-! ### non-vacuity: the hypotheses of the theorems above are satisfiable on a concrete store -/

example : isKnownOutput exStore ⟨7, 0⟩ = true := by decide
example : ∃ s', lockOutput exStore 0 1 ⟨7, 0⟩ 2000000000 = .ok (2000000000, s') ∧
    isLockedOutput s' ⟨7, 0⟩ 1999999999 = some ⟨1, 2⟩ ∧ isLockedOutput s' ⟨7, 0⟩ 2000000000 = none ∧
    lockOutput s' 5 2 ⟨7, 0⟩ 1 = .error Err.alreadyLocked ∧
    unlockOutput s' 5 2 ⟨7, 0⟩ = .error Err.unlockNotAllowed ∧
    NodupKeys s'.locked := by
  refine ⟨_, rfl, ?_, ?_, ?_, ?_, ?_⟩
  · decide
  · decide
  · decide
  · decide
  · unfold NodupKeys; decide
example : isKnownOutput exStore ⟨8, 0⟩ = false := by decide

end TxStore.C12
