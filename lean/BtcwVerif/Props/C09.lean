import BtcwVerif.Lemmas.AddrIssue
import BtcwVerif.Gen.AddrSitesGen

/-!
# C09 — concurrent requests never receive the same address

Model: `BtcwVerif/Model/AddrIssue.lean` (small-step interleaving of N callers; its head says why the window exists that
`w.newAddrMtx` closes).  The theorems quantify over every number of callers, every caller program (site × arguments),
every starting index pair and every schedule.
-/
namespace C09
open AddrIssue

/-- Safety at every moment, not only at the end: the issued pairs are distinct and gap-free, the database is never
behind, and whenever the mutex is free memory and database agree.  `C09_safe` is its instance at completion. -/
theorem C09_safe_invariant (cs : List Caller) (hall : ∀ c ∈ cs, c.holdsMutex = true) (base : Idx)
    (sched : List Nat) :
    (exec cs base sched).issued.Nodup ∧
    (∀ b, issuedOn b (exec cs base sched).issued
        = List.range' (base.get b) ((exec cs base sched).disk.get b - base.get b)) ∧
    ((exec cs base sched).mtx = none → (exec cs base sched).mem = (exec cs base sched).disk) :=
  have hinv := inv_exec hall base sched
  ⟨nodup_of_Q hinv.q, fun b => (hinv.q b).2, fun h => (hinv.free h).2.2⟩

/-- **Safety.** If every caller's site holds `w.newAddrMtx`, then for every number of callers, every schedule
after which all callers have returned:
* the issued (branch, index) pairs are pairwise distinct,
* on each branch they are exactly the gap-free range `[base, next)` (in commit order),
* the in-memory next indices equal the database's. -/
theorem C09_safe (cs : List Caller) (hall : ∀ c ∈ cs, c.holdsMutex = true) (base : Idx) (sched : List Nat)
    (hdone : allDone cs (exec cs base sched)) :
    (exec cs base sched).issued.Nodup ∧
    (∀ b, issuedOn b (exec cs base sched).issued
        = List.range' (base.get b) ((exec cs base sched).mem.get b - base.get b)) ∧
    (exec cs base sched).mem = (exec cs base sched).disk := by
  obtain ⟨hnd, hrange, hfree⟩ := C09_safe_invariant cs hall base sched
  -- nobody can still own the mutex
  have hmd := hfree (mtx_free_of_done (inv_exec hall base sched) hdone)
  exact ⟨hnd, fun b => hmd ▸ hrange b, hmd⟩

/-- **No deadlock.** With the mutex at every site (lock order `newAddrMtx` → bbolt writer lock → `s.mtx`), in every
reachable state in which some caller has not returned, some caller has an enabled step. -/
theorem C09_no_deadlock (cs : List Caller) (hall : ∀ c ∈ cs, c.holdsMutex = true) (base : Idx) (sched : List Nat)
    (hnot : ¬ allDone cs (exec cs base sched)) :
    ∃ i, i < cs.length ∧ (step cs (exec cs base sched) i).pc i ≠ (exec cs base sched).pc i :=
  (inv_no_deadlock hall (inv_exec hall base sched) hnot).imp fun _ h => ⟨h.1, h.2.pc_ne⟩

/-- **Every schedule prefix can be completed** (so the hypothesis `allDone` of `C09_safe` is satisfiable for every
population of callers and after every prefix; non-vacuity in general). -/
theorem C09_can_complete (cs : List Caller) (hall : ∀ c ∈ cs, c.holdsMutex = true) (base : Idx) (sched : List Nat) :
    ∃ more, allDone cs (exec cs base (sched ++ more)) := by
  obtain ⟨more, h⟩ := inv_can_complete hall _ _ (inv_exec hall base sched) (Nat.le_refl _)
  exact ⟨more, show allDone cs (run cs _ (sched ++ more)) from run_append cs _ sched more ▸ h⟩

/-- What the Go schedule controller can force (coarse steps: park at transaction begin / before commit / before
the post-commit callback; callers blocked on entry run on by themselves) is a schedule of the model: started from
`init base`, the state the controller reaches is `exec` of some fine schedule, so every theorem above speaks about it
(from any other controller state the fine schedule continues from that state: `coarseSteps_reach`). -/
theorem C09_harness_schedules_are_model_schedules (cs : List Caller) (base : Idx) (sched : List Nat) :
    ∃ fine, (coarseRun cs base sched).σ = exec cs base fine :=
  coarseSteps_reach cs sched (Coarse.init base)

/-- The premise of `C09_safe`, checked on the table regenerated from `/repo/wallet/*.go` on every run:
every function of package wallet that reaches `Next{External,Internal}Addresses` inside a read-write
transaction takes `w.newAddrMtx` — the same mutex, a field of the receiver — around it. -/
theorem C09_generated_sites_hold : AddrSitesGen.sites.all SiteInfo.ok = true := by decide

/-- `C09_safe` for callers running any of the extracted sites. -/
theorem C09_safe_generated (cs : List Caller)
    (hsites : ∀ c ∈ cs, ∃ s ∈ AddrSitesGen.sites, c.holdsMutex = s.holdsMutex)
    (base : Idx) (sched : List Nat) (hdone : allDone cs (exec cs base sched)) :
    (exec cs base sched).issued.Nodup ∧
    (∀ b, issuedOn b (exec cs base sched).issued
        = List.range' (base.get b) ((exec cs base sched).mem.get b - base.get b)) ∧
    (exec cs base sched).mem = (exec cs base sched).disk := by
  refine C09_safe cs (fun c hc => ?_) base sched hdone
  obtain ⟨s, hs, he⟩ := hsites c hc
  exact he ▸ (Bool.and_eq_true_iff.mp (List.all_eq_true.mp C09_generated_sites_hold s hs)).1

/-! ## Sensitivity: the hazard is real in the model -/

/-- a caller whose site does NOT take the mutex (NewChangeAddress with the Lock removed) -/
def unlockedSite : Caller := { holdsMutex := false, branch := .int }
def lockedSite : Caller := { holdsMutex := true, branch := .int }

/-- "A committed, A's callback pending, B begins and reads the stale in-memory index":
A runs to `cbWait` (8 steps), B runs completely (12 steps), A finishes (4 steps). -/
def hazard : List Nat := List.replicate 8 0 ++ List.replicate 12 1 ++ List.replicate 4 0

/-- Two callers on a site without the mutex: a complete schedule that hands out the same address twice. -/
theorem C09_sensitive :
    ∃ sched, allDoneB [unlockedSite, unlockedSite] (exec [unlockedSite, unlockedSite] ⟨0, 0⟩ sched) = true ∧
      ¬ (exec [unlockedSite, unlockedSite] ⟨0, 0⟩ sched).issued.Nodup :=
  ⟨hazard, by decide⟩

/-- One unlocked site is enough: the other caller's site DOES hold the mutex and the address is still duplicated
(this is why all six sites must take it). -/
theorem C09_sensitive_one_site :
    ∃ sched, allDoneB [lockedSite, unlockedSite] (exec [lockedSite, unlockedSite] ⟨0, 0⟩ sched) = true ∧
      ¬ (exec [lockedSite, unlockedSite] ⟨0, 0⟩ sched).issued.Nodup :=
  ⟨hazard, by decide⟩

/-- With three callers the late callback even moves the in-memory index BACKWARDS: memory and database disagree
after all calls returned (A pending; B and C issue 0 and 1; A's callback sets the in-memory next index to 1,
the database says 2). -/
theorem C09_sensitive_mem_behind_disk :
    ∃ sched, allDoneB [unlockedSite, unlockedSite, unlockedSite]
        (exec [unlockedSite, unlockedSite, unlockedSite] ⟨0, 0⟩ sched) = true ∧
      (exec [unlockedSite, unlockedSite, unlockedSite] ⟨0, 0⟩ sched).mem ≠
      (exec [unlockedSite, unlockedSite, unlockedSite] ⟨0, 0⟩ sched).disk :=
  ⟨List.replicate 8 0 ++ List.replicate 12 1 ++ List.replicate 12 2 ++ List.replicate 4 0, by decide⟩

/-! ## Non-vacuity: complete schedules exist for callers that hold the mutex, and `C09_safe` applies to them -/

/-- round robin: one of the callers is blocked on the mutex until the other has returned -/
def roundRobin2 : List Nat := (List.replicate 26 [1, 0]).flatten

set_option maxRecDepth 4096 in
example : allDone [lockedSite, lockedSite] (exec [lockedSite, lockedSite] ⟨3, 5⟩ roundRobin2) := by decide
set_option maxRecDepth 4096 in
example : (exec [lockedSite, lockedSite] ⟨3, 5⟩ roundRobin2).issued = [(.int, 5), (.int, 6)] := by decide
set_option maxRecDepth 4096 in
example : (exec [lockedSite, lockedSite] ⟨3, 5⟩ roundRobin2).mem = ⟨3, 7⟩ := by decide
-- a mixed population: NewAddress, NewChangeAddress, CurrentAddress (last address used), a dry run
set_option maxRecDepth 8192 in
example :
    let cs : List Caller := [{ holdsMutex := true, branch := .ext }, { holdsMutex := true, branch := .int },
      { holdsMutex := true, branch := .ext, cond := true, used := [0, 1] },
      { holdsMutex := true, branch := .int, dry := true }]
    let sched := (List.replicate 50 [2, 0, 3, 1]).flatten
    allDoneB cs (exec cs ⟨1, 0⟩ sched) = true ∧ (exec cs ⟨1, 0⟩ sched).issued = [(.ext, 1), (.ext, 2), (.int, 0)] := by
  decide

end C09
