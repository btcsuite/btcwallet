import BtcwVerif.Lemmas.RefExact
/-!
# C12 — `ListLockedOutputs` as an ORDERED list

`C12_list_exact` (Props/C12.lean) characterises the answer of `ListLockedOutputs` per outpoint.  After every
chain-consistent history the lease bucket is in bbolt key order (`SortedS`, Lemmas/SortedStore.lean), so the answer is
the ledger's leases in force, listed in ascending outpoint order (hash, then index).
-/
namespace TxStore.C12
open KMap Ledger

/-- a `ListLockedOutputs` entry as the ledger writes it: stored whole seconds → the instant handed to the caller -/
def leaseEntry (p : OutPoint × TxStore.Lease) : OutPoint × (Nat × Int) := (p.1, (p.2.id, p.2.expiry * 1000000000))

theorem C12_list_sorted (s : Store) (now : Nat) (h : Sorted s.locked) :
    ((listLockedOutputs s now).map (·.1)).Pairwise OutPoint.before := by
  unfold listLockedOutputs
  exact sorted_keys_before _ (sorted_filter _ _ h)

/-- **C12, `ListLockedOutputs`, exact order**: after every chain-consistent history `ListLockedOutputs` (at the ledger's
clock) lists exactly the leases in force of the ledger — same outpoint, same lock id, stored seconds × 10⁹ = the expiry
handed to the caller — each once, in ascending outpoint order; a permutation in strictly ascending key order is
unique, so this determines the list -/
theorem C12_list_order (es : List Event) (hc : ConsistentHistory {} es) :
    ∃ s, storeAfter Store.empty {} es = .ok s ∧
      ((listLockedOutputs s (ledgerAfter {} es).now).map (·.1)).Pairwise OutPoint.before ∧
      ((listLockedOutputs s (ledgerAfter {} es).now).map leaseEntry).Perm
        ((Ledger.locked (ledgerAfter {} es)).map fun p => (p.1, (p.2.id, p.2.expiry))) := by
  obtain ⟨s, h1, hg, _, hs⟩ := good_sorted_reachable es hc
  refine ⟨s, h1, C12_list_sorted s _ hs.locked, ?_⟩
  generalize ledgerAfter {} es = L at hg
  -- the ledger's leases are the lease bucket with the stored seconds turned into the instant handed out
  have hperm := perm_map_of_find? (fun l : TxStore.Lease => (⟨l.id, l.expiry * 1000000000⟩ : Ledger.Lease))
    hg.ref.nodupLocked hg.lwf.leaseKeys fun op => (lookup_eq_find? L.leases op).symm.trans ((leaseRefines_of_good hg).lookup op)
  have := (hperm.filter fun p => decide ((L.now : Int) < p.2.expiry)).map fun p => (p.1, (p.2.id, p.2.expiry))
  rw [List.filter_map, List.map_map] at this
  exact this.symm

/-- non-vacuity: leases taken in the order `(2,1)`, `(1,0)` are listed in outpoint order -/
def exLeases : List Event :=
  [.confirmed ⟨⟨1, 11⟩, 100⟩ ⟨1, [⟨0, nullIndex⟩], [5000]⟩ [(0, false)],
   .confirmed ⟨⟨2, 22⟩, 200⟩ ⟨2, [⟨77, 0⟩], [300, 400]⟩ [(0, false), (1, true)],
   .lease 7 ⟨2, 1⟩ 5000000000,
   .lease 8 ⟨1, 0⟩ 3000000000]

example : (storeAfter Store.empty {} exLeases >>= fun s => pure ((listLockedOutputs s 0).map (·.1))) =
    .ok [⟨1, 0⟩, ⟨2, 1⟩] := by decide
example : (Ledger.locked (ledgerAfter {} exLeases)).map (·.1) = [⟨2, 1⟩, ⟨1, 0⟩] := by decide
example : ConsistentHistory {} exLeases := consistentHistory_of_b _ _ (by decide)

end TxStore.C12
