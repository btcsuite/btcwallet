import BtcwVerif.Lemmas.CoinSelect
import BtcwVerif.Gen.CreateTxSitesGen
/-!
# C06 — created transactions spend only eligible own coins, once; ineligible explicit selections are refused

Theorems are about `CoinSelect.createTx` (the model of `txToOutputs` on the tree that contains fix 80523df) for
every wallet view, request, fee rate, strategy (every sequence of random draws of the shuffle) and explicit selection.
Signature validity is not a statement of this file: it is executed by the Go engine on every signed result.
-/
namespace C06
open CoinSelect

/-- "currently credited to the requested account (and key scope), unspent by any known confirmed or unconfirmed
transaction, neither locked nor leased, confirmed at least the requested number of times and, if coinbase, mature"
(plus the caller's own filter).  Confirmations are counted against the backend's tip `r.tip`. -/
def Eligible (V : View) (r : Request) (c : Coin) : Prop :=
  c ∈ V.coins ∧
  c.account = r.account ∧
  (∀ k, r.scope = some k → c.kind = k) ∧
  c.spentByKnown = false ∧
  c.userLocked = false ∧
  (∀ e, c.leasedUntil = some e → e ≤ V.now) ∧
  r.minconf ≤ confirms c.height r.tip ∧
  (c.coinbase = true → V.maturity ≤ confirms c.height r.tip) ∧
  r.allow c = true

/-- The view lists every credited outpoint once (true of `UnspentOutputs`, whose keys are outpoints). -/
def WF (V : View) : Prop := (V.coins.map (·.op)).Nodup

theorem leasedAt_false {c : Coin} {now : Int} (h : leasedAt c now = false) : ∀ e, c.leasedUntil = some e → e ≤ now := by
  intro e he
  simp [leasedAt, he] at h
  exact h

theorem mem_findEligible {V : View} {r : Request} {c : Coin} (h : c ∈ findEligibleOutputs V r) : Eligible V r c := by
  simp only [findEligibleOutputs, unspentOutputs, List.mem_filter, eligibleB, confirmed, Bool.and_eq_true,
    Bool.or_eq_true, Bool.not_eq_true', decide_eq_true_eq, beq_iff_eq] at h
  obtain ⟨⟨hmem, hsp, hl⟩, ⟨⟨⟨⟨⟨⟨hal, hconf⟩, hcb⟩, hul⟩, _⟩, hsc⟩, hacc⟩⟩ := h
  refine ⟨hmem, hacc, ?_, hsp, hul, leasedAt_false hl, hconf, ?_, hal⟩
  · intro k hk
    simp [scopeOk, hk] at hsc
    exact hsc
  · intro hcbt
    cases hcb with
    | inl h => simp [hcbt] at h
    | inr h => exact h

/-- **Inputs are eligible**: every input of a created transaction is credited to the requested account and scope,
unspent by any known transaction, not locked, not leased, confirmed ≥ minconf against the backend tip, mature if
coinbase, and passes the caller's filter. -/
theorem C06_inputs_eligible (V : View) (r : Request) (tx : Authored) (hV : WF V) (h : createTx V r = .ok tx) :
    ∀ c ∈ tx.ins, Eligible V r c :=
  fun c hc => mem_findEligible ((createTx_shape hV h).1 c hc)

/-- **No output is used twice in one transaction** — for every strategy, shuffle and explicit selection
(a repeated outpoint in the selection is refused, see `C06_selected_duplicate_refused`). -/
theorem C06_inputs_distinct (V : View) (r : Request) (tx : Authored) (hV : WF V) (h : createTx V r = .ok tx) :
    (tx.ins.map (·.op)).Nodup :=
  (createTx_shape hV h).2.1

/-- With an explicit selection the inputs are exactly the selected outpoints, in order. -/
theorem C06_selected_exact (V : View) (r : Request) (tx : Authored) (hV : WF V) (h : createTx V r = .ok tx)
    (hsel : r.selected ≠ []) : tx.ins.map (·.op) = r.selected :=
  (createTx_shape hV h).2.2 hsel

/-- **Explicitly selected inputs that are not eligible are refused**: if some selected outpoint is not the outpoint
of an eligible coin, the request fails. -/
theorem C06_selected_refused (V : View) (r : Request) (hV : WF V) (o : OutPoint) (ho : o ∈ r.selected)
    (hbad : ¬ ∃ c, Eligible V r c ∧ c.op = o) : ∃ e, createTx V r = .error e := by
  cases h : createTx V r with
  | error e => exact ⟨e, rfl⟩
  | ok tx =>
    exfalso
    have hne : r.selected ≠ [] := List.ne_nil_of_mem ho
    have hops := C06_selected_exact V r tx hV h hne
    rw [← hops] at ho
    obtain ⟨c, hc, hco⟩ := List.mem_map.mp ho
    exact hbad ⟨c, C06_inputs_eligible V r tx hV h c hc, hco⟩

/-- A selection naming the same outpoint twice is refused (fix 80523df; before it, finding F7). -/
theorem C06_selected_duplicate_refused (V : View) (r : Request) (hV : WF V) (hdup : ¬ r.selected.Nodup) :
    ∃ e, createTx V r = .error e := by
  cases h : createTx V r with
  | error e => exact ⟨e, rfl⟩
  | ok tx =>
    exfalso
    have hne : r.selected ≠ [] := by
      intro hnil
      exact hdup (by simp [hnil])
    have hops := C06_selected_exact V r tx hV h hne
    exact hdup (hops ▸ C06_inputs_distinct V r tx hV h)

/-- **Once a created transaction has been published, no later one reuses its inputs.**  `new` are the outputs the
published transaction credits to the wallet (change, payments to own addresses); they carry the new transaction's id,
so their outpoints differ from the outpoints it spends. -/
theorem C06_no_reuse (V : View) (r₂ : Request) (t₁ t₂ : Authored) (new : List Coin)
    (hnew : ∀ n ∈ new, ∀ i ∈ t₁.ins, i.op ≠ n.op)
    (hV' : WF (publishAccepted V t₁ new))
    (h₂ : createTx (publishAccepted V t₁ new) r₂ = .ok t₂) :
    ∀ c₁ ∈ t₁.ins, ∀ c₂ ∈ t₂.ins, c₁.op ≠ c₂.op := by
  intro c₁ hc₁ c₂ hc₂
  have hel := C06_inputs_eligible _ r₂ t₂ hV' h₂ c₂ hc₂
  cases publishAccepted_spent hel.1 hel.2.2.2.1 with
  | inl hn => exact hnew c₂ hn c₁ hc₁
  | inr h => exact h c₁ hc₁

/-- Successive sends: each request is answered on the view left by the previous accepted ones. -/
def sendSeq (V : View) : List (Request × List Coin) → List Authored
  | [] => []
  | (r, new) :: rest =>
    match createTx V r with
    | .error _ => sendSeq V rest
    | .ok t => t :: sendSeq (publishAccepted V t new) rest

/-- Side conditions on a sequence: every view along the way lists each outpoint once and the outputs credited by a
new transaction have outpoints the view has not seen (they carry a new transaction id). -/
def SeqOk (V : View) : List (Request × List Coin) → Prop
  | [] => True
  | (r, new) :: rest =>
    match createTx V r with
    | .error _ => SeqOk V rest
    | .ok t => (∀ n ∈ new, ∀ c ∈ V.coins, c.op ≠ n.op) ∧ WF (publishAccepted V t new) ∧ SeqOk (publishAccepted V t new) rest

theorem sendSeq_avoids (steps : List (Request × List Coin)) :
    ∀ (V : View) (used : List OutPoint), WF V → SeqOk V steps → Marked V used →
      (∀ t ∈ sendSeq V steps, ∀ c ∈ t.ins, c.op ∉ used) ∧
      (sendSeq V steps).Pairwise (fun a b => ∀ c₁ ∈ a.ins, ∀ c₂ ∈ b.ins, c₁.op ≠ c₂.op) := by
  induction steps with
  | nil => exact fun _ _ _ _ _ => ⟨fun _ h => (List.not_mem_nil h).elim, List.Pairwise.nil⟩
  | cons s rest ih =>
    intro V used hV hok hm
    obtain ⟨r, new⟩ := s
    rw [sendSeq]
    rw [SeqOk] at hok
    cases hc : createTx V r with
    | error e =>
      rw [hc] at hok
      exact ih V used hV hok hm
    | ok t =>
      rw [hc] at hok
      obtain ⟨hnew, hV', hok'⟩ := hok
      have hel := C06_inputs_eligible V r t hV hc
      obtain ⟨h1, h2⟩ := ih _ _ hV' hok' (marked_step (t := t) (new := new) hm (fun i hi => (hel i hi).1) hnew)
      refine ⟨List.forall_mem_cons.mpr ⟨fun c hcin hu => ?_,
        fun t' h c hcin hu => h1 t' h c hcin (List.mem_append_right _ hu)⟩, List.pairwise_cons.mpr ⟨?_, h2⟩⟩
      · -- an input of `t` is unspent in `V`, a used outpoint is marked spent
        exact Bool.false_ne_true ((hel c hcin).2.2.2.1.symm.trans ((hm c.op hu).2 c (hel c hcin).1 rfl))
      · exact fun t' ht' c₁ hc₁ c₂ hc₂ heq =>
          h1 t' ht' c₂ hc₂ (List.mem_append_left _ (List.mem_map.mpr ⟨c₁, hc₁, heq⟩))

/-- **No reuse, for every sequence of successive sends**: the transactions created by any sequence of requests, each
accepted one being published before the next request, spend pairwise disjoint sets of outpoints. -/
theorem C06_no_reuse_seq (V : View) (steps : List (Request × List Coin)) (hV : WF V) (hok : SeqOk V steps) :
    (sendSeq V steps).Pairwise (fun a b => ∀ c₁ ∈ a.ins, ∀ c₂ ∈ b.ins, c₁.op ≠ c₂.op) :=
  (sendSeq_avoids steps V [] hV hok (by intro o ho; cases ho)).2

/-! ## Serialisation of coin selection (facts regenerated from wallet/*.go on every run)

`sendSeq` answers one request after the other.  In the Go code this is what the `createTxRequests` channel provides;
the structure it relies on is extracted from the current source and checked here: `CreateSimpleTx` is the only
sender, `txCreator` the only receiver and the only caller of `txToOutputs` (not from a nested goroutine or closure),
it is started exactly once (by `Start`), and `findEligibleOutputs` is only reached through `txToOutputs`. -/

theorem C06_generated_serialised :
    CreateTxSitesGen.txToOutputsCallers = ["txCreator"] ∧
    CreateTxSitesGen.requestReceivers = ["txCreator"] ∧
    CreateTxSitesGen.requestSenders = ["CreateSimpleTx"] ∧
    CreateTxSitesGen.txCreatorSpawns = 1 ∧
    CreateTxSitesGen.txCreatorSpawners = ["Start"] ∧
    CreateTxSitesGen.txCreatorCallsInGo = false ∧
    CreateTxSitesGen.findEligibleCallers = ["txToOutputs"] := by decide

/-- **The fuel bound of `author` is not a truncation**: with `rest.length + 2` iterations the loop of
`NewUnsignedTransaction` has always finished; more fuel never changes the result. -/
theorem C06_author_fuel_enough (r : Request) (fee : Int) (taken rest : List Coin) (k : Nat) :
    author r (rest.length + 2 + k) fee taken rest = author r (rest.length + 2) fee taken rest :=
  author_fuel r _ fee taken rest k (.inl (Nat.le_refl _))

namespace Example

def coin (tx idx : Nat) (amt : Int) (k : Kind) (h : Int) : Coin :=
  { op := (tx, idx), amount := amt, account := 0, kind := k, script := k, addrKnown := true, height := h,
    coinbase := false, spentByKnown := false, userLocked := false, leasedUntil := none }

/-- three confirmed coins, one of them user-locked, and an unconfirmed one -/
def V : View :=
  { coins := [coin 1 0 300000 .p2wkh 6, { coin 1 1 200000 .p2tr 6 with userLocked := true }, coin 2 0 150000 .p2pkh 6,
              coin 3 0 900000 .p2wkh (-1)],
    now := 1000, maturity := 100 }

def req (sel : List OutPoint) (amt : Int) : Request :=
  { account := 0, scope := none, minconf := 1, tip := 6, outputs := [⟨amt, 22⟩], feeRate := 1000,
    strategy := .largest, selected := sel, allow := fun _ => true, changeScriptLen := 34, changeWitness := true }

def errOf : Except Err Authored → Option Err
  | .error e => some e
  | .ok _ => none

theorem wfV : WF V := by unfold WF; decide

/-- largest-first over the eligible coins: the locked and the unconfirmed coin are skipped -/
example : (createTx V (req [] 400000)).toOption.map (fun t => (t.ins.map (·.op), t.change)) =
    some ([(1, 0), (2, 0)], some 49698) := by decide

/-- a `SeqOk` sequence of two sends exists and both succeed (non-vacuity of `C06_no_reuse_seq`) -/
example : (sendSeq V [(req [] 100000, [coin 10 1 199847 .p2tr (-1)]), (req [] 100000, [])]).map (fun t => t.ins.map (·.op)) =
    [[(1, 0)], [(2, 0)]] := by decide

/-- an explicitly selected locked coin is refused … -/
example : errOf (createTx V (req [(1, 1)] 50000)) = some (.notEligible (1, 1)) := by decide
/-- … and so is a repeated outpoint (current tree) -/
example : errOf (createTx V (req [(1, 0), (1, 0)] 50000)) = some (.duplicateSelected (1, 0)) := by decide

end Example

/-! ## `txCreator`: a locked wallet refuses; what it creates for a regular account is signed

`txCreator` asks `holdUnlock()` before `txToOutputs` unless the whole manager is watch-only.  `txToOutputs` decides
whether to sign through `Manager.IsWatchOnlyAccount`, i.e. `acctKeyPriv == nil`, which `Manager.Lock` makes true for
every account (`isWatchOnlyAccount`).  The two sites together give the property's sentence "every input of a
non-watch-only result carries a signature ... " its "or the call is refused" reading: -/

/-- The guard of `txCreator` as it stands in the current source (re-extracted on every run by
`harness/cmd/vxextract/createtxsites.go`): every `holdUnlock()` error — `ErrLocked` included — ends the request before
`txToOutputs` is reached. -/
theorem C06_generated_lock_guard : CreateTxSitesGen.holdUnlockErrorIsFatal = true := by decide

/-- A locked wallet that is not watch-only refuses every request, dry runs included, with `ErrLocked`. -/
theorem C06_locked_refused (ls : LockState) (V : View) (r : Request) (hl : ls.locked = true)
    (hw : ls.managerWatchOnly = false) : txCreator ls V r = .error .locked := by
  simp [txCreator, hl, hw]

/-- A successful `txCreator` result is a `txToOutputs` result (so every theorem about `createTx` applies to it) and the
wallet was unlocked (or is watch-only as a whole). -/
theorem C06_txCreator_ok (ls : LockState) (V : View) (r : Request) (tx : Authored) (h : txCreator ls V r = .ok tx) :
    createTx V r = .ok tx ∧ (ls.locked = false ∨ ls.managerWatchOnly = true) := by
  unfold txCreator at h
  split at h
  · cases h
  · rename_i hc
    refine ⟨h, ?_⟩
    cases hl : ls.locked <;> cases hw : ls.managerWatchOnly <;> simp_all

/-- **Signed or refused**: in a wallet that is not watch-only, a successful non-dry request for an account that owns its
private keys takes the signing branch (`AddAllInputScripts` + `validateMsgTx`).  The `IsWatchOnlyAccount` quirk below is
unreachable because a locked wallet never gets past `holdUnlock`. -/
theorem C06_signed_or_refused (ls : LockState) (V : View) (r : Request) (tx : Authored)
    (hw : ls.managerWatchOnly = false) (hp : ls.acctHasPriv = true) (h : txCreator ls V r = .ok tx) :
    signs ls false = true := by
  have h2 := (C06_txCreator_ok ls V r tx h).2
  rcases h2 with hl | hm
  · simp [signs, isWatchOnlyAccount, hl, hp]
  · rw [hw] at hm; cases hm

/-- The quirk itself (why the guard in `txCreator` is load-bearing): while locked, `txToOutputs` would skip signing
for EVERY account. -/
theorem C06_locked_account_looks_watch_only (ls : LockState) (hl : ls.locked = true) (dry : Bool) :
    signs ls dry = false := by
  simp [signs, isWatchOnlyAccount, hl]

/-- The selection clauses of C06 for what `txCreator` returns. -/
theorem C06_txCreator_inputs (ls : LockState) (V : View) (r : Request) (tx : Authored) (hV : WF V)
    (h : txCreator ls V r = .ok tx) :
    (∀ c ∈ tx.ins, Eligible V r c) ∧ (tx.ins.map (·.op)).Nodup :=
  have h1 := (C06_txCreator_ok ls V r tx h).1
  ⟨C06_inputs_eligible V r tx hV h1, C06_inputs_distinct V r tx hV h1⟩

example : Example.errOf (txCreator ⟨true, false, true⟩ Example.V (Example.req [] 400000)) = some .locked := by decide
example : Example.errOf (txCreator ⟨false, false, true⟩ Example.V (Example.req [] 400000)) = none := by decide


/-- **Finding F7** (code before fix 80523df): with `WithCustomSelectUtxos([op, op])` the transaction spends the same
outpoint as input 0 and input 1 — the distinctness clause is false of `createTxUnfixed`. -/
theorem C06_unfixed_duplicate_counterexample :
    ∃ V r tx, WF V ∧ createTxUnfixed V r = .ok tx ∧ ¬ (tx.ins.map (·.op)).Nodup :=
  ⟨Example.V, Example.req [(1, 0), (1, 0)] 50000, _, Example.wfV, rfl, by decide⟩

end C06
