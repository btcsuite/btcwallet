/-
C05 — Locked or wrong passphrase means no private-key access, and memory is wiped.
Property theorems about `AddrLock` (model of waddrmgr's lock state, buffers and caches).
-/
import BtcwVerif.Lemmas.AddrWipedStep
namespace AddrLock

/-! ## `C05_denied`: while locked or watching-only every private-material operation is refused -/

def Denied (r : Option Err) : Prop := r = some .locked ∨ r = some .watchingOnly

def Refused (m : Mem) (r : Mem × Option Err) : Prop := Denied r.2 ∧ r.1 = m

/-- PrivKey / ExportPrivKey on any managed pub-key address object. -/
theorem C05_denied_privKey (m : Mem) (id : Nat) (hk : (m.heap id).kind = .managed)
    (h : m.locked = true ∨ m.watchOnly = true) :
    Denied (privKeyObj m id).2 ∧ (privKeyObj m id).1 = m := by
  unfold privKeyObj; dsimp only
  rw [if_neg (not_not_intro hk)]
  exact ite_guard (P := Refused m) h.symm ⟨.inr rfl, rfl⟩ ⟨.inl rfl, rfl⟩

/-- Script() on a P2SH script address or a *secret* witness / taproot script address. -/
theorem C05_denied_script (m : Mem) (id : Nat)
    (hk : (m.heap id).kind = .script ∨ (m.heap id).kind = .wscript true ∨ (m.heap id).kind = .tscript true)
    (h : m.locked = true ∨ m.watchOnly = true) :
    Denied (scriptObj m id).2 ∧ (scriptObj m id).1 = m := by
  unfold scriptObj; dsimp only
  have hg : (true && m.watchOnly) = true ∨ (true && m.locked) = true := h.symm
  rcases hk with hk | hk | hk <;> rw [hk] <;> exact ite_guard (P := Refused m) hg ⟨.inr rfl, rfl⟩ ⟨.inl rfl, rfl⟩

/-- Manager.Encrypt / Decrypt with CKTPrivate (0) or CKTScript (1). -/
theorem C05_denied_crypt (m : Mem) (kt : Nat) (hkt : kt ≤ 1) (h : m.locked = true ∨ m.watchOnly = true) :
    cryptOp m kt = some .locked := by
  unfold cryptOp
  rw [if_pos hkt, if_pos (by simpa using h)]

/-- NewAccount (a non-watch-only account needs the cointype private key). -/
theorem C05_denied_newAccount (d : Disk) (m : Mem) (sc : Nat) (name : String)
    (h : m.locked = true ∨ m.watchOnly = true) :
    ((newAccount d m sc name false).2 = .error .locked ∨ (newAccount d m sc name false).2 = .error .watchingOnly)
    ∧ (newAccount d m sc name false).1 = d :=
  ite_guard (P := fun r : Disk × Except Err Nat => (r.2 = .error .locked ∨ r.2 = .error .watchingOnly) ∧ r.1 = d)
    (b1 := (!false && m.watchOnly) = true) (b2 := (!false && m.locked) = true) h.symm ⟨.inr rfl, rfl⟩ ⟨.inl rfl, rfl⟩

/-- ImportPrivateKey on a locked (non watching-only) manager. In watching-only mode the call is documented to
store the public key only; `C05_watchOnly_import_no_private` below shows that nothing private is kept then. -/
theorem C05_denied_importPrivateKey (d : Disk) (m : Mem) (sc k : Nat)
    (h : m.locked = true) (hw : m.watchOnly = false) :
    importKey d m sc k true = (d, m, some .locked) := by
  unfold importKey; rw [if_pos (by simp [h, hw])]

theorem C05_watchOnly_import_no_private (d : Disk) (m : Mem) (sc k : Nat) (hw : m.watchOnly = true)
    (hne : existsAddr d m sc (.imp k) = false) :
    let r := importKey d m sc k true
    aget (r.1.scopes sc).addrs (.imp k) = some (.imp false) ∧
    r.2.1.heap m.heapN = { key := .imp k, kind := .managed, hasEnc := false, ct := false, acct := IMPORTED } := by
  simp [importKey, hw, hne, Disk.updScope, Mem.updScope, Mem.alloc, aget_aset_self]

/-- ImportScript of a secret script (P2SH scripts are always secret). -/
theorem C05_denied_importScript (d : Disk) (m : Mem) (sc kind sid : Nat) (secret : Bool)
    (hs : kind = 0 ∨ secret = true) (h : m.locked = true ∨ m.watchOnly = true) :
    Denied (importScript d m sc kind sid secret).2.2 ∧ (importScript d m sc kind sid secret).1 = d := by
  unfold importScript; dsimp only
  rw [show (if kind = 0 then true else secret) = true from hs.elim (fun h0 => if_pos h0) fun h1 => by rw [h1, ite_self]]
  exact ite_guard (P := fun r : Disk × Mem × Option Err => Denied r.2.2 ∧ r.1 = d)
    (b1 := (true && m.locked) = true) (b2 := (true && m.watchOnly) = true) h ⟨.inl rfl, rfl⟩ ⟨.inr rfl, rfl⟩

/-- DeriveFromKeyPath followed by PrivKey(): never succeeds (the lookup fails, or PrivKey is refused). -/
theorem C05_denied_derivePath (d : Disk) (m : Mem) (sc acct br idx : Nat)
    (h : m.locked = true ∨ m.watchOnly = true) :
    (derivePath d m sc acct br idx).2 ≠ none ∧
    (∀ r, chainRowToManaged d m sc acct br idx = .ok r → Denied (derivePath d m sc acct br idx).2) := by
  unfold derivePath
  cases hc : chainRowToManaged d m sc acct br idx with
  | error e => exact ⟨fun h => (nomatch h), fun _ h => nomatch h⟩
  | ok r =>
    obtain ⟨he, ho⟩ := pExt_chainRow hc
    have hd := (C05_denied_privKey r.1 r.2 ho.1.2 (by rw [scal_locked he.scal, scal_watchOnly he.scal]; exact h)).1
    exact ⟨fun hn => (by rcases hd with h1 | h1 <;> rw [h1] at hn <;> cases hn), fun _ _ => hd⟩

/-- DeriveFromKeyPathCache on the fixed tree (f1): refused up front, whatever is cached. -/
theorem C05_denied_deriveCache (cfg : Cfg) (hf : cfg.f1 = true) (m : Mem) (sc : Nat) (p : Path)
    (h : m.locked = true ∨ m.watchOnly = true) :
    Denied (deriveCache cfg m sc p).2 ∧ (deriveCache cfg m sc p).1 = m := by
  unfold deriveCache
  rw [hf]
  exact ite_guard (P := Refused m) (b1 := (true && m.watchOnly) = true) (b2 := (true && m.locked) = true) h.symm
    ⟨.inr rfl, rfl⟩ ⟨.inl rfl, rfl⟩

/-- F1 on the original snapshot (f1 = false): a path derived before Lock() is handed out while locked. -/
theorem C05_counterexample_F1 :
    let s := run {cfg := Cfg.snapshot}
      [.create 5 1, .unlock 1, .derive 1 0 0 3, .deriveCache 1 0 0 3, .lock]
    (s.mem.map (·.locked)) = some true ∧ (step s (.deriveCache 1 0 0 3)).2 = .ok := by
  decide


/-! ## `C05_wiped`: locking clears every clear-text key buffer -/

/-- `Manager.lock()` on the fixed tree (f1: cache purge, f11: last addresses) clears everything, from ANY state. -/
theorem C05_wiped_by_lock (cfg : Cfg) (hf1 : cfg.f1 = true) (hf11 : cfg.f11 = true) (m : Mem) :
    KeyClear (lockMem cfg m) := keyClear_lockMem cfg hf1 hf11 m

/-- `Lock()` that succeeds leaves every key buffer clear — for every state, hence after every history.  That every
reachable LOCKED state is clear (not only the one right after `Lock()`) is `C05_wiped_histories` below (needs f13). -/
theorem C05_wiped (cfg : Cfg) (hf1 : cfg.f1 = true) (hf11 : cfg.f11 = true) (m : Mem)
    (h : (lockOp cfg m).2 = none) : KeyClear (lockOp cfg m).1 ∧ (lockOp cfg m).1.locked = true :=
  lockOp_cases (P := fun r => r.2 = none → KeyClear r.1 ∧ r.1.locked = true) cfg m (fun _ h => nomatch h)
    (fun _ _ _ => ⟨C05_wiped_by_lock cfg hf1 hf11 m, rfl⟩) h

/-- is the manager locked? -/
def lockedOf (s : State) : Option Bool := s.mem.map (·.locked)
/-- clear-text flag of the cached last external address of an account -/
def lastExtCT (s : State) (sc acct : Nat) : Option Bool :=
  s.mem.bind fun m => (acctInfoOf m sc acct).map fun ai => (m.heap ai.lastExt).ct
/-- does the cached object of an address key hold a clear-text private key? -/
def addrCT (s : State) (sc : Nat) (k : AKey) : Option Bool :=
  s.mem.bind fun m => (aget (m.scopes sc).addrs k).map fun id => (m.heap id).kind == .managed && (m.heap id).ct

/-- F11 on a tree without the fix: after Lock() the cached last external address still holds its clear-text key. -/
theorem C05_counterexample_F11 :
    let s := run {cfg := { Cfg.fixed with f11 := false }} [.create 5 1, .unlock 1, .q (.lastAddr 1 0 false), .lock]
    lockedOf s = some true ∧ lastExtCT s 1 0 = some true := by
  decide

/-- F13 (tree without the fix): the OnCommit closure of nextAddresses re-inserts address objects that were
built while unlocked; if the manager is locked between the call and the commit, the cache holds a clear-text key
while locked.  So "stays clear while locked" is NOT an invariant of bracketed histories on such a tree; on the
current tree (f13) it is: `C05_wiped_histories`. -/
theorem C05_counterexample_F13 :
    let s := run {cfg := { Cfg.fixed with f13 := false }} [.create 5 1, .unlock 1, .begin, .next 1 0 1 false, .lock, .commit]
    lockedOf s = some true ∧ addrCT s 1 (.chain 0 0 0) = some true := by
  decide

/-- … and with the F13 fix the same history leaves the cached object clear. -/
example :
    let s := run {cfg := Cfg.fixed} [.create 5 1, .unlock 1, .begin, .next 1 0 1 false, .lock, .commit]
    lockedOf s = some true ∧ addrCT s 1 (.chain 0 0 0) = some false := by
  decide

/-! ## Passphrases: the current one unlocks, any other fails and leaves the manager locked -/

/-- any passphrase other than the current one is refused and the manager is locked afterwards — also when it was
unlocked before. -/
theorem C05_unlock_wrong (cfg : Cfg) (d : Disk) (m : Mem) (p : Nat) (hw : m.watchOnly = false)
    (hinv : PassOK m) (hp : p ≠ m.privPass) :
    (unlock cfg d m p).2 = some .wrongPassphrase ∧ (unlock cfg d m p).1.locked = true :=
  unlock_cases (P := fun r => r.2 = some .wrongPassphrase ∧ r.1.locked = true) (L := fun _ => True) cfg d m p trivial
    (fun h => by rw [hw] at h; cases h)
    (fun _ hl hh => by rw [hinv hl] at hh; cases hh; exact absurd rfl hp)
    (fun _ _ _ => ⟨rfl, rfl⟩) (fun _ _ _ => ⟨rfl, rfl⟩)
    (fun _ _ h => absurd h hp) (fun _ _ h => absurd h hp) (fun _ _ h => absurd h hp)

/-- the current private passphrase always unlocks (fixed tree: f2, f2b), whatever accounts and addresses are cached. -/
theorem C05_unlock_right (cfg : Cfg) (hf2 : cfg.f2 = true) (hf2b : cfg.f2b = true) (d : Disk) (m : Mem)
    (hw : m.watchOnly = false) (hinv : PassOK m) (hd : DouOK m) :
    (unlock cfg d m m.privPass).2 = none ∧ (unlock cfg d m m.privPass).1.locked = false :=
  -- the loops do not fail
  unlock_cases (P := fun r => r.2 = none ∧ r.1.locked = false) cfg d m m.privPass (loopOK_unlockScopes cfg d _ _)
    (fun h => by rw [hw] at h; cases h) (fun _ hl _ => ⟨rfl, hl⟩) (fun _ hl hh => absurd (hinv hl) hh)
    (fun _ _ h => absurd rfl h) (fun _ _ _ _ h => nomatch h.2.2 ⟨hf2, hf2b, hd⟩)
    (fun _ _ _ _ _ h => nomatch h.2.2 ⟨hf2, hf2b, hd⟩) (fun _ _ _ _ _ => ⟨rfl, rfl⟩)

def StPassOK (s : State) : Prop := ∀ m, s.mem = some m → PassOK m

/-- `PassOK` in every state reachable from the empty state, for every history — on a tree with the salt fix (f12),
or, without it, for histories that never use the EMPTY private passphrase. -/
theorem C05_passOK_invariant (cfg : Cfg) (ops : List Op)
    (hc : cfg.f12 = true ∨ ∀ op ∈ ops, op.noEmpty = true) : StPassOK (run { cfg := cfg } ops) :=
  run_mem_inv cfg (fun _ => passOK_locked rfl)
    (fun op ho d m h => (opExt_execMem cfg d m op).scal.passOK h (hc.imp_right (· op ho)))
    fun m p h => passOK_of_scal (scal_runPend cfg m p) h

/-- after EVERY history: any passphrase other than the current one fails with ErrWrongPassphrase and leaves the
manager locked (whether it was locked or unlocked before).  The hypothesis `hc` excludes, on a tree without the salt fix
(f12 = false, before /repo aeb55de), histories that use the EMPTY private passphrase: there `PassOK` can fail
(`C05_counterexample_F12`, for the *right* passphrase; the wrong-passphrase clause itself is not known to fail). -/
theorem C05_unlock_wrong_histories_partial (cfg : Cfg) (ops : List Op)
    (hc : cfg.f12 = true ∨ ∀ op ∈ ops, op.noEmpty = true) (m : Mem)
    (hm : (run { cfg := cfg } ops).mem = some m) (hw : m.watchOnly = false) (p : Nat) (hp : p ≠ m.privPass) (d : Disk) :
    (unlock cfg d m p).2 = some .wrongPassphrase ∧ (unlock cfg d m p).1.locked = true :=
  C05_unlock_wrong cfg d m p hw (C05_passOK_invariant cfg ops hc m hm) hp

/-- after every history (same restriction `hc`), on a tree with f2, f2b: the current passphrase unlocks a manager on
which `DouOK` holds (every queued derive-on-unlock address belongs to a cached account; an invariant of the histories,
`C05_douOK_invariant`). -/
theorem C05_unlock_right_histories_partial (cfg : Cfg) (hf2 : cfg.f2 = true) (hf2b : cfg.f2b = true) (ops : List Op)
    (hc : cfg.f12 = true ∨ ∀ op ∈ ops, op.noEmpty = true) (m : Mem)
    (hm : (run { cfg := cfg } ops).mem = some m) (hw : m.watchOnly = false) (hd : DouOK m) (d : Disk) :
    (unlock cfg d m m.privPass).2 = none ∧ (unlock cfg d m m.privPass).1.locked = false :=
  C05_unlock_right cfg hf2 hf2b d m hw (C05_passOK_invariant cfg ops hc m hm) hd

/-! ## The same on a tree with every fix flag on (`Cfg.allFixed`)

`f12` gives `PassOK`, `f2` and `f2b` make the loops of Unlock total, and `DouOK` holds after every history
(`stOK_run`, Lemmas/AddrWipedStep.lean).  The model has no
InvalidateAccountCache op (waddrmgr's `InvalidateAccountCache`, which since /repo 4e25286 also drops the queued
derive-on-unlock entries of the account, is outside the op set): no operation of the model removes an account from the
account cache, so none can break `DouOK`; a restart (`reopen`) builds a fresh memory with empty caches and an empty
queue.  "Current passphrase" is `m.privPass`, the passphrase the master-key parameters held by the RUNNING manager were
made from; it differs from the database's after a ChangePassphrase whose transaction is rolled back. -/

/-- the configuration of the current tree: every fix flag on (`cap` is free) -/
def Cfg.allFixed (c : Cfg) : Prop :=
  c.f1 = true ∧ c.f2 = true ∧ c.f2b = true ∧ c.f3 = true ∧ c.f11 = true ∧ c.f12 = true ∧ c.f13 = true ∧ c.fo1 = true

theorem Cfg.fixed_allFixed : Cfg.fixed.allFixed := ⟨rfl, rfl, rfl, rfl, rfl, rfl, rfl, rfl⟩

/-- `DouOK` and the pending-closure facts hold after EVERY history (any configuration). -/
theorem C05_douOK_invariant (cfg : Cfg) (ops : List Op) : StDou (run { cfg := cfg } ops) :=
  (stOK_run cfg ops).stDou

/-- After EVERY history of model operations (any `List Op`: brackets, rollbacks and restarts included), on the
current tree, on a non-watching-only manager: `Unlock(current passphrase)` succeeds and leaves it unlocked — whatever
database view `d` the call runs against. -/
theorem C05_unlock_right_histories (cfg : Cfg) (hfix : cfg.allFixed) (ops : List Op) (m : Mem)
    (hm : (run { cfg := cfg } ops).mem = some m) (hw : m.watchOnly = false) (d : Disk) :
    (unlock cfg d m m.privPass).2 = none ∧ (unlock cfg d m m.privPass).1.locked = false :=
  C05_unlock_right_histories_partial cfg hfix.2.1 hfix.2.2.1 ops (.inl hfix.2.2.2.2.2.1) m hm hw
    ((C05_douOK_invariant cfg ops).mem m hm).1 d

/-- After EVERY history, on the current tree, on a non-watching-only manager: `Unlock(p)` for any `p` other than the
current passphrase fails with ErrWrongPassphrase and leaves the manager locked — also when it was unlocked before. -/
theorem C05_unlock_wrong_histories (cfg : Cfg) (hfix : cfg.allFixed) (ops : List Op) (m : Mem)
    (hm : (run { cfg := cfg } ops).mem = some m) (hw : m.watchOnly = false) (p : Nat) (hp : p ≠ m.privPass) (d : Disk) :
    (unlock cfg d m p).2 = some .wrongPassphrase ∧ (unlock cfg d m p).1.locked = true :=
  C05_unlock_wrong_histories_partial cfg ops (.inl hfix.2.2.2.2.2.1) m hm hw p hp d

/-- the same two facts as results of the model's `unlock` OPERATION issued after the history (inside or outside a
bracket): `.ok` and unlocked for the current passphrase; `.err wrongPassphrase` and locked for any other. -/
theorem C05_unlock_histories_step (cfg : Cfg) (hfix : cfg.allFixed) (ops : List Op) (m : Mem)
    (hm : (run { cfg := cfg } ops).mem = some m) (hw : m.watchOnly = false) :
    let s := run { cfg := cfg } ops
    ((step s (.unlock m.privPass)).2 = .ok ∧ lockedOf (step s (.unlock m.privPass)).1 = some false) ∧
    ∀ p, p ≠ m.privPass →
      (step s (.unlock p)).2 = .err .wrongPassphrase ∧ lockedOf (step s (.unlock p)).1 = some true := by
  intro s
  have hcfg : s.cfg = cfg := run_cfg _ ops
  have hm' : s.mem = some m := hm
  have hstep : ∀ p, step s (.unlock p) =
      ({ s with mem := some (unlock s.cfg s.disk m p).1 }, ofErr (unlock s.cfg s.disk m p).2) := by
    intro p
    simp only [step, hm', exec, Op.writes, Bool.not_false, Bool.or_true, if_true]
  refine ⟨?_, fun p hp => ?_⟩
  · obtain ⟨h1, h2⟩ := C05_unlock_right_histories cfg hfix ops m hm hw s.disk
    rw [hstep, hcfg]; simp [lockedOf, h1, h2, ofErr]
  · obtain ⟨h1, h2⟩ := C05_unlock_wrong_histories cfg hfix ops m hm hw p hp s.disk
    rw [hstep, hcfg]; simp [lockedOf, h1, h2, ofErr]

/-- non-vacuity of the full statements: a bracketed history with a watch-only account loaded while locked, addresses
issued while locked inside a bracket, a Lock between issue and commit, a rolled-back bracket, a private passphrase
change to the EMPTY passphrase and a restart reaches a non-watching-only manager; the theorems' conclusions are
what the model computes. -/
example :
    let s := run { cfg := Cfg.fixed }
      [.create 5 1, .unlock 1, .newAccount 1 "a" false, .newAccount 1 "x" true, .lock, .q (.props 1 2),
       .begin, .next 1 2 2 false, .next 1 0 1 true, .commit, .begin, .next 1 1 1 false, .rollback,
       .changePass 1 EMPTY true, .reopen 5, .q (.props 1 2), .next 1 1 1 false]
    (s.mem.map fun m => (m.watchOnly, m.privPass, (step s (.unlock EMPTY)).2, (step s (.unlock 1)).2)) =
      some (false, EMPTY, .ok, .err .wrongPassphrase) := by
  decide

/-! ## "Stays wiped while locked", over all histories

`C05_wiped_by_lock` / `C05_wiped` above say that locking wipes.  That a locked manager STAYS wiped needs f13 as well
(/repo bb83ae8): without it `C05_counterexample_F13` gives a bracketed history after which a locked manager caches a
clear-text key. -/

/-- "a locked manager holds no clear-text key" (`C05_wiped_histories` below) with only the four flags it depends on:
f1, f11, f2b (Unlock cannot stop half-way with a panic, keys restored and `locked` still set), f13. -/
theorem C05_wiped_histories_flags (cfg : Cfg) (hf1 : cfg.f1 = true) (hf11 : cfg.f11 = true) (hf2b : cfg.f2b = true)
    (hf13 : cfg.f13 = true) (ops : List Op) (m : Mem)
    (hm : (run { cfg := cfg } ops).mem = some m) (hl : m.locked = true) : KeyClear m :=
  lockedClear_run cfg ⟨hf1, hf11, hf2b, hf13⟩ ops m hm hl

/-- In EVERY state reachable by ANY history of model operations (any `List Op`: commits of closures registered before a
Lock, rollbacks, restarts, failed unlocks included) on the current tree, a LOCKED manager holds no clear-text key: master / crypto / script keys and
the hashed passphrase are nil or zero, no cached account has its private key, the derived-key cache is empty, and
every address object in `s.addrs` and every cached last-address object is wiped (`KeyClear`). -/
theorem C05_wiped_histories (cfg : Cfg) (hfix : cfg.allFixed) (ops : List Op) (m : Mem)
    (hm : (run { cfg := cfg } ops).mem = some m) (hl : m.locked = true) : KeyClear m :=
  C05_wiped_histories_flags cfg hfix.1 hfix.2.2.2.2.1 hfix.2.2.1 hfix.2.2.2.2.2.2.1 ops m hm hl

/-- the same over the buffer map exactly as the hook `VerifBufferReport` lists it: in every reachable locked state
also the clear-text key of both cached last-address objects of every cached account is nil, whatever their kind
(`BufClear`; the model invariant `LastKind` — those slots always hold live `*managedAddress` objects — discharges the
`kind = managed` premise of `KeyClear.last`).  Not covered (observation O1, as everywhere in C05): the clear text of
SECRET witness / taproot scripts, which `lock()` does not wipe. -/
theorem C05_wiped_histories_bufmap (cfg : Cfg) (hfix : cfg.allFixed) (ops : List Op) (m : Mem)
    (hm : (run { cfg := cfg } ops).mem = some m) (hl : m.locked = true) : BufClear m :=
  bufClear_of (C05_wiped_histories cfg hfix ops m hm hl) ((stOK_run cfg ops).mem m hm).1.2.1

/-- non-vacuity: the history of `C05_counterexample_F13` extended by more bracketed issuing, a failed Unlock of an
unlocked manager and a conversion reaches locked states (with cached addresses and accounts) on the current tree. -/
example :
    let s := run { cfg := Cfg.fixed }
      [.create 5 1, .unlock 1, .q (.lastAddr 1 0 false), .begin, .next 1 0 2 false, .importKey 1 7 true, .lock, .commit,
       .unlock 1, .derive 1 0 0 5, .deriveCache 1 0 0 5, .begin, .next 1 0 1 true, .unlock 9, .commit]
    lockedOf s = some true ∧ addrCT s 1 (.chain 0 0 1) = some false ∧ addrCT s 1 (.chain 0 1 0) = some false ∧
    addrCT s 1 (.imp 7) = some false ∧ lastExtCT s 1 0 = some false := by
  decide

/-- non-vacuity: a concrete history with accounts, a watch-only account, addresses issued while locked, and a
passphrase change reaches a state where the hypotheses hold and Unlock(current) succeeds. -/
example :
    let s := run { cfg := Cfg.repo }
      [.create 5 1, .unlock 1, .newAccount 1 "a" false, .newAccount 1 "x" true, .lock, .q (.props 1 2),
       .next 1 2 2 false, .next 1 0 1 true, .changePass 1 2 true]
    (s.mem.map fun m => ((unlock s.cfg s.disk m 2).2, (unlock s.cfg s.disk m 1).2)) =
      some (none, some .wrongPassphrase) := by
  decide

/-- after EVERY history (any configuration): a watching-only manager is locked -/
theorem C05_watchOnly_locked (cfg : Cfg) (ops : List Op) (m : Mem)
    (hm : (run { cfg := cfg } ops).mem = some m) (hw : m.watchOnly = true) : m.locked = true :=
  run_mem_inv cfg (fun _ _ => rfl) (fun op _ d m h => (opExt_execMem cfg d m op).scal.woLocked h)
    (fun m p h => woLocked_of_scal (scal_runPend cfg m p) h) m hm hw

/-- hence, on the current tree, EVERY reachable state that is locked OR watching-only holds no clear-text key -/
theorem C05_wiped_histories_all (cfg : Cfg) (hfix : cfg.allFixed) (ops : List Op) (m : Mem)
    (hm : (run { cfg := cfg } ops).mem = some m) (hl : m.locked = true ∨ m.watchOnly = true) : KeyClear m :=
  C05_wiped_histories cfg hfix ops m hm (hl.elim id (C05_watchOnly_locked cfg ops m hm))

/-! ## Which passphrase is "current": `m.privPass` as a function of the history

`create pub priv` and `reopen` install the database's passphrase (`openMem`), a successful private ChangePassphrase
installs the new one (in memory at once, in the transaction's view of the database), and NO other operation —
unlock, lock, public change, conversion, accounts, addresses, imports, queries, begin / commit (OnCommit closures) /
rollback — touches it. -/

/-- every operation other than a private ChangePassphrase leaves the current passphrase alone -/
theorem C05_currentPass_frame (s : State) (m : Mem) (hs : s.mem = some m) (op : Op)
    (hop : ∀ o n, op ≠ .changePass o n true) (m' : Mem) (hm : (exec s m op).1.mem = some m') :
    m'.privPass = m.privPass := by
  rw [exec_fst s m hs] at hm
  cases hm
  cases (opExt_execMem s.cfg s.disk m op).scal with
  | same _ _ _ h4 => exact h4
  | resalt _ _ _ _ he => rw [he]
  | locked _ hp => exact hp
  | opened _ _ _ hp => exact hp
  | newPriv o n hop' => exact absurd hop' (hop o n)

/-- a private ChangePassphrase that succeeds makes the new passphrase current (memory and database view); one that
fails changes neither -/
theorem C05_currentPass_change (cfg : Cfg) (d : Disk) (m : Mem) (o n : Nat) :
    ((changePass cfg d m o n true).2.2 = none →
      (changePass cfg d m o n true).2.1.privPass = n ∧ (changePass cfg d m o n true).1.privPass = n) ∧
    ((changePass cfg d m o n true).2.2 ≠ none →
      (changePass cfg d m o n true).2.1 = m ∧ (changePass cfg d m o n true).1 = d) :=
  changePass_cases
    (P := fun r => (r.2.2 = none → r.2.1.privPass = n ∧ r.1.privPass = n) ∧ (r.2.2 ≠ none → r.2.1 = m ∧ r.1 = d))
    cfg d m o n true (fun _ => ⟨fun h => (nomatch h), fun _ => ⟨rfl, rfl⟩⟩) (fun _ _ _ => ⟨fun _ => ⟨rfl, rfl⟩, fun h => absurd rfl h⟩)
    (fun h => nomatch h)

/-- the OnCommit closures run by a commit do not touch it -/
theorem C05_currentPass_commit (s : State) : (commitTx s).mem.map (·.privPass) = s.mem.map (·.privPass) := by
  simp only [commitTx]
  cases s.mem with
  | none => rfl
  | some m => exact congrArg some (scal_privPass (scal_foldl s.pend m (runPend s.cfg) (scal_runPend s.cfg)))

/-- `create` / `reopen` install the database's private passphrase -/
theorem C05_currentPass_open (d : Disk) : (openMem d).privPass = d.privPass ∧ (createDisk pub priv).privPass = priv :=
  ⟨rfl, rfl⟩

/-! ## `C05_change`: after a private passphrase change the new one works and the old one fails, immediately and
after a restart -/

theorem C05_change (cfg : Cfg) (hf2 : cfg.f2 = true) (hf2b : cfg.f2b = true) (d : Disk) (m : Mem) (old new : Nat)
    (hw : m.watchOnly = false) (hdw : d.watchOnly = false) (hinv : PassOK m) (hd : DouOK m) (hne : old ≠ new)
    (hc : cfg.f12 = true ∨ new ≠ EMPTY)
    (hok : (changePass cfg d m old new true).2.2 = none) :
    let d' := (changePass cfg d m old new true).1
    let m' := (changePass cfg d m old new true).2.1
    -- immediately, on the running manager
    ((unlock cfg d' m' new).2 = none ∧ (unlock cfg d' m' new).1.locked = false) ∧
    ((unlock cfg d' m' old).2 = some .wrongPassphrase ∧ (unlock cfg d' m' old).1.locked = true) ∧
    -- after a restart (a manager freshly opened on the changed database)
    ((unlock cfg d' (openMem d') new).2 = none ∧ (unlock cfg d' (openMem d') new).1.locked = false) ∧
    ((unlock cfg d' (openMem d') old).2 = some .wrongPassphrase ∧ (unlock cfg d' (openMem d') old).1.locked = true) := by
  have hcp : changePass cfg d m old new true =
      ({ d with privPass := new },
       { m with privPass := new, masterPriv := if m.locked then .zero else .nonzero,
                hashed := if m.locked then none else some (new, false),
                saltZero := if m.locked then false else (!cfg.f12 && new = EMPTY) }, none) :=
    changePass_cases (P := fun r => r.2.2 = none → r = _) cfg d m old new true (fun _ h => nomatch h)
      (fun _ _ _ _ => rfl) (fun h => nomatch h) hok
  have hpok := (opExt_changePass cfg d m old new true).scal.passOK hinv (hc.imp_right fun h => by simpa [Op.noEmpty] using h)
  rw [hcp] at hpok ⊢
  dsimp only at hpok ⊢
  refine ⟨?_, ?_, ?_, ?_⟩
  · exact C05_unlock_right cfg hf2 hf2b _ _ hw hpok hd
  · exact C05_unlock_wrong cfg _ _ old hw hpok hne
  · exact C05_unlock_right cfg hf2 hf2b _ (openMem { d with privPass := new }) (by simp [openMem, hdw])
      (passOK_locked rfl) (fun sc e he => by simp [openMem] at he)
  · exact C05_unlock_wrong cfg _ (openMem { d with privPass := new }) old (by simp [openMem, hdw])
      (passOK_locked rfl) (by simpa [openMem] using hne)

/-- F2 (tree without 37f56ec and 2a11dd6): Unlock(correct passphrase) fails with a crypto error and leaves the manager locked
once a watch-only (imported xpub) account is in the account cache. -/
theorem C05_counterexample_F2 :
    let s := run { cfg := { Cfg.fixed with f2 := false, f2b := false } }
      [.create 5 1, .newAccount 1 "xp" true, .q (.props 1 1)]
    (step s (.unlock 1)).2 = .err .crypto ∧ lockedOf (step s (.unlock 1)).1 = some true := by
  decide

/-- F2b (tree with 37f56ec only): the same history makes Unlock(correct passphrase) panic in the derive-on-unlock
loop (nil private key of a watch-only account's address). -/
theorem C05_counterexample_F2b :
    let s := run { cfg := { Cfg.fixed with f2b := false } }
      [.create 5 1, .newAccount 1 "xp" true, .q (.props 1 1)]
    (step s (.unlock 1)).2 = .err .panic := by
  decide

/-- F12 (on `Cfg.repo`, a tree without the fix aeb55de): with an EMPTY private passphrase (accepted by ChangePassphrase) the first
Unlock(current passphrase) of an unlocked manager fails and locks it (the salt was wiped through the aliasing
`append(salt[:], passphrase...)`). -/
theorem C05_counterexample_F12 :
    let s := run { cfg := Cfg.repo } [.create 5 1, .unlock 1, .changePass 1 EMPTY true]
    lockedOf s = some false ∧ (step s (.unlock EMPTY)).2 = .err .wrongPassphrase ∧
    lockedOf (step s (.unlock EMPTY)).1 = some true := by
  decide

/-- … and with the salt fix (f12) the same history is fine. -/
example :
    let s := run { cfg := Cfg.fixed } [.create 5 1, .unlock 1, .changePass 1 EMPTY true]
    (step s (.unlock EMPTY)).2 = .ok := by
  decide

/-- a successful Unlock of a locked manager leaves the master key, the private crypto key and (fo1) the script
crypto key populated: secret scripts are sealed under a real key, not the all-zero one.  Together with
`C05_wiped_by_lock` (all three are zero after lock) this is the buffer map of the keys. -/
theorem C05_unlock_restores_keys (cfg : Cfg) (hfo1 : cfg.fo1 = true) (d : Disk) (m : Mem) (p : Nat)
    (hl : m.locked = true) (h : (unlock cfg d m p).2 = none) :
    (unlock cfg d m p).1.locked = false ∧ (unlock cfg d m p).1.masterPriv = .nonzero ∧
    (unlock cfg d m p).1.cryptoPriv = .nonzero ∧ (unlock cfg d m p).1.cryptoScript = .nonzero := by
  refine unlock_cases (P := fun r => r.2 = none → r.1.locked = false ∧ r.1.masterPriv = .nonzero ∧
      r.1.cryptoPriv = .nonzero ∧ r.1.cryptoScript = .nonzero) cfg d m p (loopOK_unlockScopes cfg d _ _)
    (fun _ h => nomatch h) (fun _ hl' => by rw [hl] at hl'; cases hl') (fun _ _ _ h => nomatch h) (fun _ _ _ h => nomatch h)
    (fun _ _ _ _ _ h => nomatch h) (fun _ _ _ _ _ _ h => nomatch h) (fun _ _ _ m2 hloops _ => ?_) h
  have hs := hloops.1.scal
  exact ⟨rfl, scal_masterPriv hs, scal_cryptoPriv hs, (scal_cryptoScript hs).trans (by simp [unlockStart, hfo1])⟩

end AddrLock
