/-
C08 — What the wallet says in memory is what a restart would say.
Property theorems about `AddrLock` (memory caches vs database rows, transaction brackets).  The equivalence
"running manager == freshly opened manager" is proved for coherent caches and every history of single-transaction
operations; it is FALSE after a rolled-back / failed transaction that contained an eager cache mutation, and after one
committed transaction shape (nextAddresses followed by extendAddresses on the same branch): each is a proved
counter-example below and a Go-side oracle key.
-/
import BtcwVerif.Lemmas.AddrGoodStep
namespace AddrLock

/-- answer of query `q` on the running manager -/
def ansRun (s : State) (q : Query) : Option QRes := s.mem.map fun m => (query s.disk m q).2
/-- … and on a manager freshly opened on the same database -/
def ansFresh (s : State) (q : Query) : QRes := (query s.disk (openMem s.disk) q).2

/-! ## queries that only read the database agree with a restart in EVERY state (all histories, including
rolled-back and failed transactions) -/

/-- LookupAccount, AccountName and BlockHash are answered from the database alone. -/
theorem C08_disk_queries_eq_reopen (d : Disk) (m : Mem) (q : Query)
    (hq : (∃ sc n, q = .lookup sc n) ∨ (∃ sc a, q = .acctName sc a) ∨ (∃ h, q = .blockHash h)) :
    (query d m q).2 = (query d (openMem d) q).2 := by
  rcases hq with ⟨sc, n, rfl⟩ | ⟨sc, a, rfl⟩ | ⟨h, rfl⟩ <;> simp only [query] <;> split <;> rfl

/-- `Coherent d m` (Lemmas/AddrCoherent.lean): every cached account info agrees with its account row (name, next
indices, last addresses), every cached address is what the database would load for that key, the sync state equals
the stored one, and the manager never needs a private key the database lacks.  Then Address, AccountProperties,
Last{External,Internal}Address, LookupAccount, AccountName, Used, SyncedTo and BlockHash all answer as on a manager
freshly opened on the same database (whose answers are the database-only function `qAns`). -/
theorem C08_query_eq_of_coherent (d : Disk) (m : Mem) (h : Coherent d m) (q : Query) :
    (query d m q).2 = (query d (openMem d) q).2 := by
  rw [query_ans h q, query_ans (coherent_open d) q]

/-- non-vacuity of `Coherent`, and the restart itself -/
theorem C08_reopen_coherent (d : Disk) : Coherent d (openMem d) := coherent_open d

/-- **C08, first sentence.** For EVERY history of operations each executed in its own database transaction
(`walletdb.Update`: committed when the operation returns nil, rolled back when it returns an error) — every operation
of the model but the three bracket operations (`Op.single`), NextAddresses with its OnCommit closure and restarts
included — and for every code variant `cfg`: the running manager answers every query of the property exactly as
a manager freshly opened on the same database.

`_partial`: explicit multi-operation brackets and transactions rolled back AFTER their operations succeeded
(dry runs, failed commits) are excluded — those are exactly where the equivalence is false (counter-examples below, on
`Cfg.repo` / `Cfg.repo2`, which treat the caches as the current tree does). -/
theorem C08_mem_eq_reopen_partial (cfg : Cfg) (ops : List Op) (hops : ∀ op ∈ ops, op.single = true)
    (m : Mem) (hm : (run { cfg := cfg } ops).mem = some m) (q : Query) :
    (query (run { cfg := cfg } ops).disk m q).2 =
    (query (run { cfg := cfg } ops).disk (openMem (run { cfg := cfg } ops).disk) q).2 := by
  obtain ⟨_, _, _, h4⟩ := stGood_run { cfg := cfg } ops (stGood_init cfg) hops
  exact C08_query_eq_of_coherent _ m (h4 m hm).coh q

/-- the invariant behind it, for use at any transaction boundary -/
theorem C08_coherent_invariant (s : State) (ops : List Op) (h : StGood s) (hops : ∀ op ∈ ops, op.single = true) :
    StGood (run s ops) := stGood_run s ops h hops

theorem step_snap_in_bracket (s : State) (op : Op) (h : s.snap.isSome = true)
    (hop : op ≠ .commit ∧ op ≠ .rollback) : (step s op).1.snap = s.snap := by
  cases hctl : op.ctl
  case true =>
    cases op <;> first | cases hctl | skip
    · simp only [step, h, if_true]
    · simp only [step, h, if_true]
    · simp only [step, h, if_true]
    · exact absurd rfl hop.1
    · exact absurd rfl hop.2
  case false =>
    rw [step_of_not_ctl s hctl]
    cases hm : s.mem with
    | none => rfl
    | some m => dsimp only; rw [h, Bool.true_or, if_pos rfl, exec_fst s m hm]

def noEnd : Op → Prop := fun op => op ≠ .commit ∧ op ≠ .rollback

theorem run_snap_in_bracket (s : State) (ops : List Op) (h : s.snap.isSome = true)
    (hops : ∀ op ∈ ops, noEnd op) : (run s ops).snap = s.snap :=
  run_inv (I := fun s' => s'.snap = s.snap)
    (fun op ho s' h' => (step_snap_in_bracket s' op (h'.symm ▸ h) (hops op ho)).trans h') s rfl

/-- `begin; ops; rollback` (also: `begin; ops; commit-that-fails`) restores the database image for EVERY op list:
no address row, next index, name, used flag or sync entry of the transaction survives. -/
theorem C08_rollback_restores_disk (s : State) (ops : List Op) (h : s.snap = none)
    (hops : ∀ op ∈ ops, noEnd op) :
    (run s (.begin :: ops ++ [.rollback])).disk = s.disk ∧ (run s (.begin :: ops ++ [.rollback])).snap = none := by
  have hb : (step s .begin).1 = { s with snap := some s.disk, pend := [] } := by
    simp [step, h]
  have run_append : ∀ (s : State) (a b : List Op), run s (a ++ b) = run (run s a) b := by
    intro s a b
    induction a generalizing s with
    | nil => rfl
    | cons x xs ih => simp only [List.cons_append, run]; exact ih _
  simp only [List.cons_append, run, hb]
  rw [run_append]
  have hs := run_snap_in_bracket { s with snap := some s.disk, pend := [] } ops rfl hops
  simp only [run, step]
  simp [hs, rollbackTx]

/-- the addresses a freshly opened manager would issue for the request -/
def freshNext (s : State) (sc acct n : Nat) (int : Bool) : Option (List AKey) :=
  match (nextAddresses s.disk (openMem s.disk) sc acct n int).res with
  | .ok l => some l
  | .error _ => none

theorem run_next_rollback (s : State) (m : Mem) (h1 : s.snap = none) (hm : s.mem = some m) (sc a n : Nat) (int : Bool) :
    run s [.begin, .next sc a n int, .rollback] =
      { s with disk := s.disk, snap := none, pend := [], mem := some (nextAddresses s.disk m sc a n int).mem } := by
  simp only [run, step, h1, hm, Option.isSome, Option.isNone, exec]
  cases hr : (nextAddresses s.disk m sc a n int).res <;> simp [hr, rollbackTx]

/-- **C08, second sentence (1).** After a rolled-back NextAddresses the database is as before and the account cache
(name, next indices, last addresses) of the running manager agrees with it: AccountProperties and
Last{External,Internal}Address answer as on a restarted manager — the index did not advance. -/
theorem C08_rollback_keeps_index (s : State) (h : StGood s) (m : Mem) (hm : s.mem = some m) (sc a n : Nat) (int : Bool) :
    let s' := run s [.begin, .next sc a n int, .rollback]
    s'.disk = s.disk ∧ s'.snap = none ∧
    ∃ m', s'.mem = some m' ∧ AcctCoh s'.disk m' ∧
      (∀ sc' a', (query s'.disk m' (.props sc' a')).2 = (query s'.disk (openMem s'.disk) (.props sc' a')).2) ∧
      (∀ sc' a' i, (query s'.disk m' (.lastAddr sc' a' i)).2 = (query s'.disk (openMem s'.disk) (.lastAddr sc' a' i)).2) := by
  obtain ⟨h1, _, _, h4⟩ := h
  rw [run_next_rollback s m h1 hm]
  have hc := next_rollback_acct (h4 m hm) sc a n int
  have ho := coherent_open s.disk
  refine ⟨rfl, rfl, _, rfl, hc, ?_, ?_⟩
  · intro sc' a'
    exact (query_props_ans hc sc' a').trans (query_props_ans ho.acctCoh sc' a').symm
  · intro sc' a' i
    exact (query_last_ans hc sc' a' i).trans (query_last_ans ho.acctCoh sc' a' i).symm

/-- **C08, second sentence (2).** … and whatever the next committed NextAddresses request issues is exactly what a
manager restarted on that database would issue. -/
theorem C08_next_after_rollback (s : State) (h : StGood s) (m : Mem) (hm : s.mem = some m) (sc a n : Nat) (int : Bool)
    (sc' a' n' : Nat) (int' : Bool) (l : List AKey) :
    let s' := run s [.begin, .next sc a n int, .rollback]
    (step s' (.next sc' a' n' int')).2 = .keys l → freshNext s' sc' a' n' int' = some l := by
  obtain ⟨h1, _, _, h4⟩ := h
  rw [run_next_rollback s m h1 hm]
  have hc := next_rollback_acct (h4 m hm) sc a n int
  dsimp only
  intro hres
  have hok : (nextAddresses s.disk (nextAddresses s.disk m sc a n int).mem sc' a' n' int').res = .ok l := by
    simp only [step, Option.isSome, Op.writes, exec] at hres
    cases hr : (nextAddresses s.disk (nextAddresses s.disk m sc a n int).mem sc' a' n' int').res with
    | error e => simp [hr, isErr] at hres
    | ok l' => simp [hr, isErr] at hres; rw [hres]
  have := next_same_as_fresh hc sc' a' n' int' l hok
  simp only [freshNext, this]

/-! ## what does NOT hold (model = code, replayed by the Go engine); stated on `Cfg.repo` / `Cfg.repo2`, which differ
from `Cfg.fixed` in f12, f13, fo1 only: key buffers and the passphrase salt, not the caches -/

def agrees (s : State) (q : Query) : Bool := ansRun s q == some (ansFresh s q)

/-- F9: after a rolled-back NextInternalAddresses (dry run) the running manager still finds the address
(`loadAndCacheAddress` cached it eagerly), a restarted manager does not.  Indices agree. -/
theorem C08_counterexample_F9_address_cache :
    let s := run { cfg := Cfg.repo } [.create 5 1, .begin, .next 1 0 1 true, .rollback]
    agrees s (.address 1 (.chain 0 1 0)) = false ∧ agrees s (.props 1 0) = true := by
  decide

/-- eager mutator 1: RenameAccount in a rolled-back transaction — AccountProperties keeps the new name. -/
theorem C08_counterexample_rename :
    let s := run { cfg := Cfg.repo } [.create 5 1, .q (.props 1 0), .begin, .rename 1 0 "renamed", .rollback]
    agrees s (.props 1 0) = false ∧ agrees s (.lookup 1 "renamed") = true := by
  decide

/-- eager mutator 2: ExtendAddresses in a rolled-back transaction ADVANCES the in-memory next index; the next
committed request then issues index 3 where a restarted wallet issues index 0. -/
theorem C08_counterexample_extend_index :
    let s := run { cfg := Cfg.repo } [.create 5 1, .begin, .extend 1 0 2 false, .rollback]
    agrees s (.props 1 0) = false ∧
    (step s (.next 1 0 1 false)).2 = .keys [.chain 0 0 3] ∧
    freshNext s 1 0 1 false = some [.chain 0 0 0] := by
  decide

/-- eager mutator 3: imports in a rolled-back transaction stay in the address cache; the same key can then not
be imported again until restart (ErrDuplicateAddress from the cache). -/
theorem C08_counterexample_import :
    let s := run { cfg := Cfg.repo } [.create 5 1, .begin, .importKey 1 7 false, .rollback]
    agrees s (.address 1 (.imp 7)) = false ∧ (step s (.importKey 1 7 false)).2 = .err .duplicateAddress := by
  decide

/-- eager mutator 4: SetSyncedTo in a rolled-back transaction — SyncedTo() stays ahead of the database. -/
theorem C08_counterexample_synced :
    let s := run { cfg := Cfg.repo } [.create 5 1, .begin, .setSynced 1 77, .rollback]
    agrees s .syncedTo = false := by
  decide

/-- an account created and looked at inside a rolled-back transaction stays in the account cache. -/
theorem C08_counterexample_account_cache :
    let s := run { cfg := Cfg.repo } [.create 5 1, .unlock 1, .begin, .newAccount 1 "fresh" false, .q (.props 1 1), .rollback]
    agrees s (.props 1 1) = false := by
  decide

/-- a COMMITTED transaction that calls nextAddresses and then extendAddresses on the same branch leaves the
in-memory next index BEHIND the database (the deferred onCommit closure overwrites the eager update). -/
theorem C08_counterexample_committed_next_then_extend :
    let s := run { cfg := Cfg.repo } [.create 5 1, .begin, .next 1 0 1 false, .extend 1 0 3 false, .commit]
    agrees s (.props 1 0) = false := by
  decide

/-- consequence of the stale account cache that reaches the DATABASE: a NextAddresses (or ExtendAddresses) on an
account that only lives in the cache fails in `putChainedAddress` AFTER `putAddress` has written the address row
(the account row is missing); when the caller commits the bracket in spite of the error, the orphan address row is
committed.  The running manager resolves it through the cached account, a restarted one answers
ErrAccountNotFound.  (Found by the thorough differential tier; replay: corpus/addrmgr-lock/
orphan-address-row-failed-next-committed.ops.) -/
theorem C08_counterexample_orphan_address_row :
    let s0 := run { cfg := Cfg.repo2 }
      [.create 5 1, .unlock 1, .begin, .newAccount 1 "fresh" false, .q (.props 1 1), .rollback, .begin]
    let r := step s0 (.next 1 1 1 false)
    let s := (step r.1 .commit).1
    r.2 = .err .database ∧
    aget (s.disk.scopes 1).addrs (.chain 1 0 0) = some .chain ∧ aget (s.disk.scopes 1).accts 1 = none ∧
    (s.mem.map fun m => (query s.disk m (.address 1 (.chain 1 0 0))).2) = some (.addr (.chain 1 0 0) 1) ∧
    (query s.disk (openMem s.disk) (.address 1 (.chain 1 0 0))).2 = .err .accountNotFound ∧
    agrees s (.address 1 (.chain 1 0 0)) = false := by
  decide

/-- the same through ExtendAddresses (the shape the thorough tier hit): only the FIRST address row of the failing
write loop is left behind. -/
theorem C08_counterexample_orphan_address_row_extend :
    let s := run { cfg := Cfg.repo2 }
      [.create 5 1, .unlock 1, .begin, .newAccount 1 "fresh" false, .q (.props 1 1), .rollback,
       .begin, .extend 1 1 2 true, .commit]
    agrees s (.address 1 (.chain 1 1 0)) = false ∧ agrees s (.address 1 (.chain 1 1 1)) = true ∧
    aget (s.disk.scopes 1).addrs (.chain 1 1 1) = none := by
  decide

/-- … whereas committed single operations agree (non-vacuity of `agrees`, and the shape the wallet uses). -/
example :
    let s := run { cfg := Cfg.repo }
      [.create 5 1, .unlock 1, .next 1 0 2 false, .extend 1 0 4 true, .rename 1 0 "main", .importKey 1 3 true,
       .setSynced 1 9, .markUsed 1 (.chain 0 0 1), .newAccount 1 "second" false, .next 1 1 1 true]
    ([Query.address 1 (.chain 0 0 1), .address 1 (.chain 0 1 4), .address 1 (.imp 3), .props 1 0, .props 1 1,
      .lastAddr 1 0 false, .lastAddr 1 0 true, .lastAddr 1 1 true, .lookup 1 "main", .acctName 1 1,
      .used 1 (.chain 0 0 1), .syncedTo, .blockHash 1].all (agrees s)) = true := by
  decide

/-- a rolled-back NextAddresses does not advance the index, and the next committed request issues the address a
restarted wallet would issue: an instance of `C08_rollback_keeps_index` and `C08_next_after_rollback`. -/
example :
    let s := run { cfg := Cfg.repo } [.create 5 1, .next 1 0 2 false, .begin, .next 1 0 3 false, .rollback]
    agrees s (.props 1 0) = true ∧
    (step s (.next 1 0 1 false)).2 = .keys [.chain 0 0 2] ∧
    freshNext s 1 0 1 false = some [.chain 0 0 2] := by
  decide

end AddrLock
