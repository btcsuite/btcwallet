/-
C07 — authored transactions conserve value and pay at least the requested fee rate; no dust / zero change;
"insufficient funds" only when the offered coins cannot cover outputs + required fee.

This file is for the tree WITH fix-C07-F4 (EstimateVirtualSize sizes the output-count var-int from `outputCount`) and
fix-C07-F5 (the first target fee of NewUnsignedTransaction assumes no input).  The variant for the tree before those
fixes (`_partial` theorems + counter-examples on the generated code) is kept in repo-patches/C07-unfixed-tree/C07.lean.

The translation facts `C07_gen_*` say that the arithmetic GENERATED from the current working tree (`SizesGen`, via
`Author.genCfg`) equals the closed forms of `AuthorSpec`; a change of a constant or of a formula in size.go / rules.go
breaks them.  The property theorems are about `Author.newUnsigned`, the model of txauthor.NewUnsignedTransaction over
that arithmetic.
-/
import BtcwVerif.Lemmas.Author

namespace C07
open SizesExt Author AuthorSpec

theorem gen_sumSizes (outs : List TxOut) : SizesGen.SumOutputSerializeSizes outs = sumOutSizes outs := by
  unfold SizesGen.SumOutputSerializeSizes
  simp only [foldl_add_eq_sum TxOut.SerializeSize sumOutSizes rfl fun _ _ => rfl]; omega

/-- generated `SumOutputValues` = sum of the output values -/
theorem C07_gen_sum : SumOK genCfg := by
  constructor
  intro outs
  simp only [genCfg, SizesGen.SumOutputValues, foldl_add_eq_sum TxOut.Value sumOuts rfl fun _ _ => rfl]; omega

/-- generated `FeeForSerializeSize` = closed form (non-negative arguments) -/
theorem C07_gen_fee : FeeOK genCfg := by
  constructor
  intro rate size hr hs
  have h0 : 0 ≤ rate * size := Int.mul_nonneg hr hs
  simp only [genCfg, SizesGen.FeeForSerializeSize, AuthorSpec.feeFor, maxSatoshi]
  rw [Int.tdiv_eq_ediv_of_nonneg h0]
  rfl

/-- generated `IsDustOutput(·, DefaultRelayFeePerKb)` = closed form, and the relay floor is 1000 -/
theorem C07_gen_dust : DustOK genCfg := by
  constructor
  intro o
  simp only [genCfg, SizesGen.IsDustOutput, SizesGen.DefaultRelayFeePerKb, AuthorSpec.isDust, txscript_GetScriptClass,
    txscript_NullDataTy]
  by_cases h : o.PkScript.isNullData = true <;> simp [h]

/-- generated `EstimateVirtualSize` = closed form with the output-count var-int sized from `outputCount`
    (requested outputs + change output).  Fails on a tree without fix-C07-F4, and whenever a size constant changes. -/
theorem C07_gen_est : EstOK genCfg true := by
  constructor
  intro p t w n outs cs hp ht hw hn
  have hv := varint_bounds (w + n + t)
  simp only [genCfg, SizesGen.EstimateVirtualSize, AuthorSpec.est, gen_sumSizes,
    SizesGen.RedeemP2PKHInputSize, SizesGen.RedeemP2WPKHInputSize, SizesGen.RedeemP2TRInputSize,
    SizesGen.RedeemNestedP2WPKHInputSize, SizesGen.RedeemP2WPKHInputWitnessWeight, SizesGen.RedeemP2TRInputWitnessWeight]
  by_cases hc : cs > 0 <;> by_cases hwit : w + n + t > 0 <;> simp [hc, hwit]
  all_goals exact Int.tdiv_eq_ediv_of_nonneg (by omega)

/-- the first estimate of NewUnsignedTransaction (made before any input is known) assumes no input.
    Fails on a tree without fix-C07-F5. -/
theorem C07_gen_init : genCfg.init = (0, 0, 0, 0) := rfl

/-- wallet.makeInputSource still has the source text that `Author.prefixSource` / `Author.fill` were written from -/
theorem C07_makeInputSource_shape : SizesGen.makeInputSource_src =
    "func makeInputSource(eligible []Coin) txauthor.InputSource { currentTotal := btcutil.Amount(0) currentInputs := make([]*wire.TxIn, 0, len(eligible)) currentScripts := make([][]byte, 0, len(eligible)) currentInputValues := make([]btcutil.Amount, 0, len(eligible)) return func(target btcutil.Amount) (btcutil.Amount, []*wire.TxIn, []btcutil.Amount, [][]byte, error) { for currentTotal < target && len(eligible) != 0 { nextCredit := eligible[0] prevOut := nextCredit.TxOut outpoint := nextCredit.OutPoint eligible = eligible[1:] nextInput := wire.NewTxIn(&outpoint, nil, nil) currentTotal += btcutil.Amount(prevOut.Value) currentInputs = append(currentInputs, nextInput) currentScripts = append( currentScripts, prevOut.PkScript, ) currentInputValues = append( currentInputValues, btcutil.Amount(prevOut.Value), ) } return currentTotal, currentInputs, currentInputValues, currentScripts, nil } }" := rfl

section
variable {σ : Type} {src : Source σ} {Inv : σ → Prop} {s0 : σ} {outs : List TxOut} {rate : Int}
  {cs : ChangeSource} {fuel : Nat} {r : Result}

theorem newUnsigned_facts (hsrc : SrcSound src Inv) (h0 : Inv s0) (h : newUnsigned src s0 outs rate cs fuel = .ok r) :
    Facts genCfg outs rate cs r :=
  loop_ok C07_gen_sum hsrc outs rate cs r fuel s0 _ [] h0 h

/-- the requested outputs are kept, in place and unchanged; the only possible addition is one change output at the end -/
theorem C07_outputs_kept (hsrc : SrcSound src Inv) (h0 : Inv s0)
    (h : newUnsigned src s0 outs rate cs fuel = .ok r) :
    r.outs.take outs.length = outs ∧ (r.changeIdx = none → r.outs = outs) ∧
    (∀ i, r.changeIdx = some i → i = outs.length ∧ ∃ c, r.outs = outs ++ [c] ∧ cs.script = some c.PkScript) := by
  obtain ⟨coins, script, hs, _, rfl⟩ := newUnsigned_facts hsrc h0 h
  unfold settle
  split <;> dsimp only
  · exact ⟨by simp, (nomatch ·), fun i hi => ⟨(Option.some.inj hi).symm, _, rfl, hs⟩⟩
  · exact ⟨by simp, fun _ => rfl, fun i hi => nomatch hi⟩

/-- inputs total exactly outputs plus fee; the reported TotalInput is that total; the fee is not negative and is
    exactly the required fee whenever a change output was added -/
theorem C07_conservation (hsrc : SrcSound src Inv) (h0 : Inv s0) (hr : 0 ≤ rate)
    (h : newUnsigned src s0 outs rate cs fuel = .ok r) :
    r.total = sumCoins r.inputs ∧ sumCoins r.inputs = sumOuts r.outs + r.fee ∧ 0 ≤ r.fee ∧
    (r.changeIdx ≠ none → r.fee = maxReq genCfg rate outs cs r.inputs) := by
  have hf := newUnsigned_facts hsrc h0 h
  have h10 := ten_le_est true outs cs.scriptSize (count_nonneg .p2pkh r.inputs) (count_nonneg .p2tr r.inputs)
    (count_nonneg .p2wpkh r.inputs) (count_nonneg .nested r.inputs)
  have hreq : 0 ≤ maxReq genCfg rate outs cs r.inputs :=
    maxReq_eq (cs := cs) C07_gen_est C07_gen_fee hr r.inputs ▸ feeFor_nonneg hr (by omega)
  have := hf.fee
  refine ⟨hf.total_eq, by simp only [Result.fee]; omega, by omega, this.1⟩

/-- fee ≥ rate × REAL signed virtual size, for every admissible signature length of every input (`Admissible`,
    `sigOK`): the byte-accurate BIP-141 size of the signed transaction never exceeds the estimate the fee was computed
    from.  Domain: rate from the relay floor upward; well-formed change source. -/
theorem C07_fee_lower (hsrc : SrcSound src Inv) (h0 : Inv s0) (hr : 1000 ≤ rate)
    (hcs0 : 0 < cs.scriptSize) (hcsl : ∀ sc, cs.script = some sc → (sc.len : Int) ≤ cs.scriptSize)
    (h : newUnsigned src s0 outs rate cs fuel = .ok r)
    (sigs : List Int) (hlen : sigs.length = r.inputs.length) (hadm : Admissible (signedInputs r sigs)) :
    SizesGen.FeeForSerializeSize rate (realVSize (signedInputs r sigs) r.outs) ≤ r.fee :=
  fee_lower_of_cfg C07_gen_est C07_gen_fee (newUnsigned_facts hsrc h0 h) hr hcs0 hcsl sigs hlen hadm (Or.inl rfl)

/-- the same without the clamp/zero quirks of FeeForSerializeSize: `rate·vsize/1000 ≤ fee` whenever the fee is below
    21e14 sat -/
theorem C07_fee_lower_plain (hsrc : SrcSound src Inv) (h0 : Inv s0) (hr : 1000 ≤ rate)
    (hcs0 : 0 < cs.scriptSize) (hcsl : ∀ sc, cs.script = some sc → (sc.len : Int) ≤ cs.scriptSize)
    (h : newUnsigned src s0 outs rate cs fuel = .ok r) (hmax : r.fee < maxSatoshi)
    (sigs : List Int) (hlen : sigs.length = r.inputs.length) (hadm : Admissible (signedInputs r sigs)) :
    rate * realVSize (signedInputs r sigs) r.outs / 1000 ≤ r.fee := by
  have hl := C07_fee_lower hsrc h0 hr hcs0 hcsl h sigs hlen hadm
  have hv := ten_le_realVSize (signedInputs r sigs) r.outs hadm
  have := C07_gen_fee.fee_eq rate (realVSize (signedInputs r sigs) r.outs) (by omega) (by omega)
  simp only [genCfg] at this
  rw [this, feeFor_eq_min hr (by omega)] at hl
  omega

/-- fee ≤ rate applied to the worst-case estimate + one dust threshold of the change script -/
theorem C07_fee_upper (hsrc : SrcSound src Inv) (h0 : Inv s0)
    (hsp : ∀ sc, cs.script = some sc → sc.isNullData = true ∨ sc.isUnspendable = false)
    (h : newUnsigned src s0 outs rate cs fuel = .ok r) :
    ∃ sc, cs.script = some sc ∧
      r.fee ≤ SizesGen.FeeForSerializeSize rate (SizesGen.EstimateVirtualSize (count .p2pkh r.inputs)
        (count .p2tr r.inputs) (count .p2wpkh r.inputs) (count .nested r.inputs) outs cs.scriptSize) + dustThreshold sc ∧
      mempool_GetDustThreshold ⟨0, sc⟩ = dustThreshold sc :=
  let ⟨sc, hs, hle, _⟩ := fee_upper_of_cfg C07_gen_dust (newUnsigned_facts hsrc h0 h) hsp
  ⟨sc, hs, hle, dustThreshold_eq _⟩

/-- a change output is never zero, negative or dust -/
theorem C07_no_dust_change (hsrc : SrcSound src Inv) (h0 : Inv s0)
    (h : newUnsigned src s0 outs rate cs fuel = .ok r) (i : Nat) (hi : r.changeIdx = some i) :
    ∃ c, r.outs[i]? = some c ∧ 0 < c.Value ∧ SizesGen.IsDustOutput c SizesGen.DefaultRelayFeePerKb = false ∧
      (c.PkScript.isNullData = false → c.PkScript.isUnspendable = false → mempool_GetDustThreshold c ≤ c.Value) := by
  obtain ⟨c, hil, ho, _, hpos, hd, hthr⟩ := no_dust_of_cfg C07_gen_dust (newUnsigned_facts hsrc h0 h) i hi
  refine ⟨c, by rw [ho, hil]; simp, hpos, ?_, ?_⟩
  · have := C07_gen_dust.dust_eq c
    simp only [genCfg] at this
    rw [this, hd]
  · intro hn hu
    rw [dustThreshold_eq]
    exact hthr hn hu

end

/-- both wallet input sources report their totals truthfully -/
theorem C07_sources_sound (coins : List Coin) :
    SrcSound prefixSource (PInv coins) ∧ PInv coins (prefixInit coins) ∧ SrcSound constSource (fun _ => True) :=
  ⟨prefixSource_sound coins, pinv_init coins, constSource_sound⟩

/-- with the wallet's source the loop ends within `#coins + 2` iterations (the model's fuel is never exhausted) -/
theorem C07_terminates (coins : List Coin) (outs : List TxOut) (rate : Int) (cs : ChangeSource) :
    authorPrefix coins outs rate cs ≠ .fuel := by
  unfold authorPrefix newUnsigned newUnsignedWith
  apply loop_terminates
  exact Nat.add_le_add_left (by split <;> decide) _

/-- "insufficient funds" ⇒ all offered coins together cannot cover the outputs plus the fee required for them — for
    EVERY input source that offers `coins` (hands out prefixes of them truthfully and stops short of the target only
    when nothing is left); `makeInputSource` and `constantInputSource` are such sources. -/
theorem C07_insufficient_any_source {σ : Type} {src : Source σ} {Inv : σ → Prop} {coins : List Coin} {s0 : σ}
    (hoff : Offers src Inv coins) (h0 : Inv s0) (outs : List TxOut) (rate : Int) (cs : ChangeSource) (fuel : Nat)
    (hr : 1000 ≤ rate) (ho : 0 ≤ sumOuts outs)
    (h : newUnsigned src s0 outs rate cs fuel = .err .insufficient) :
    sumCoins coins < sumOuts outs + SizesGen.FeeForSerializeSize rate (SizesGen.EstimateVirtualSize
      (count .p2pkh coins) (count .p2tr coins) (count .p2wpkh coins) (count .nested coins) outs cs.scriptSize) := by
  have _ := ho -- not needed
  have hr0 : 0 ≤ rate := Int.le_trans (by decide) hr
  show _ < _ + maxReq genCfg rate outs cs coins
  rw [maxReq_eq C07_gen_est C07_gen_fee hr0]
  -- the first estimate assumes no input (`C07_gen_init`): its fee is `maxReq` of no coins, the least there is
  exact loop_insufficient_offers hoff C07_gen_est C07_gen_fee C07_gen_sum hr outs cs fuel s0 _ [] h0
    (Int.le_trans (Int.le_of_eq (maxReq_eq C07_gen_est C07_gen_fee hr0 [])) (feeAll_append true hr outs cs [] coins)) h

theorem C07_wallet_sources_offer (coins : List Coin) :
    Offers prefixSource (PInv coins) coins ∧ PInv coins (prefixInit coins) ∧
    Offers constSource (fun s => s = coins) coins :=
  ⟨prefixSource_offers coins, pinv_init coins, constSource_offers coins⟩

/-- "insufficient funds" from the wallet's own source `makeInputSource(coins)` ⇒ the coins cannot cover outputs + fee -/
theorem C07_insufficient (coins : List Coin) (outs : List TxOut) (rate : Int) (cs : ChangeSource)
    (hr : 1000 ≤ rate) (ho : 0 ≤ sumOuts outs)
    (h : authorPrefix coins outs rate cs = .err .insufficient) :
    sumCoins coins < sumOuts outs + SizesGen.FeeForSerializeSize rate (SizesGen.EstimateVirtualSize
      (count .p2pkh coins) (count .p2tr coins) (count .p2wpkh coins) (count .nested coins) outs cs.scriptSize) :=
  C07_insufficient_any_source (prefixSource_offers coins) (pinv_init coins) outs rate cs _ hr ho h

/-! ## the two defects this property found in the tree before the fixes, as theorems about the PRE-FIX arithmetic
(`specCfg false (0,0,1,0)`: output-count var-int from `len(txOuts)`, first estimate with one P2WPKH input).  They do
not depend on the generated code, so they stay true after the fixes and document why the fixes were needed. -/

def p2pkhScript : Script := { len := 25 }
def p2wpkhScript : Script := { len := 22, isP2WPKH := true, isWitness := true }
def p2trScript : Script := { len := 34, isP2TR := true, isWitness := true }

def preFix : Cfg := specCfg false (0, 0, 1, 0)
def authorPre (coins : List Coin) (outs : List TxOut) (rate : Int) (cs : ChangeSource) : Outcome :=
  (newUnsignedWith preFix prefixSource (prefixInit coins) outs rate cs (coins.length + 2)).1

/-- F4 witness: 252 requested outputs of 1000 sat, one P2WPKH coin of 400000 sat, P2WPKH change, 1000 sat/kvB -/
def f4outs : List TxOut := List.replicate 252 ⟨1000, p2pkhScript⟩
def f4coins : List Coin := [⟨400000, p2wpkhScript⟩]
def f4cs : ChangeSource := ⟨22, some p2wpkhScript⟩
def f4result : Result := ⟨f4coins, 400000, f4outs ++ [⟨139322, p2wpkhScript⟩], some 252⟩

set_option maxRecDepth 100000 in
/-- F4 (before fix-C07-F4): the authored transaction pays 8678 sat; signed with a 71-byte DER signature it has
    8680 vB, which at 1000 sat/kvB needs 8680 sat.  The estimate sized the output-count var-int for 252 outputs, the
    transaction has 253. -/
theorem C07_history_F4_counterexample :
    authorPre f4coins f4outs 1000 f4cs = .ok f4result ∧ Admissible (signedInputs f4result [71]) ∧
    ¬ (AuthorSpec.feeFor 1000 (realVSize (signedInputs f4result [71]) f4result.outs) ≤ f4result.fee) := by
  exact ⟨by decide, by decide, by decide⟩

set_option maxRecDepth 100000 in
/-- … and the current tree authors the same request with a sufficient fee (8680 sat) -/
theorem C07_F4_witness_now_ok :
    authorPrefix f4coins f4outs 1000 f4cs = .ok ⟨f4coins, 400000, f4outs ++ [⟨139320, p2wpkhScript⟩], some 252⟩ := by
  decide

/-- F5 witness: one P2TR coin of 50140 sat, one output of 50000 sat, 1000 sat/kvB: the coin covers
    50000 + fee(1 P2TR input) = 50000 + 134, but the first target assumed a P2WPKH input (144). -/
def f5outs : List TxOut := [⟨50000, p2wpkhScript⟩]
def f5coins : List Coin := [⟨50140, p2trScript⟩]

/-- F5 (before fix-C07-F5): "insufficient funds" although the coin covers outputs + required fee -/
theorem C07_history_F5_counterexample :
    authorPre f5coins f5outs 1000 f4cs = .err .insufficient ∧
    ¬ (sumCoins f5coins < sumOuts f5outs + feeAll false 1000 f5outs f4cs f5coins) := by
  decide

/-- … and the current tree authors it (no change: the 6 sat left over are dust and go to the fee) -/
theorem C07_F5_witness_now_ok :
    authorPrefix f5coins f5outs 1000 f4cs = .ok ⟨f5coins, 50140, f5outs, none⟩ := by
  decide

/-- a successful run with change, mixed inputs, and an admissible signature assignment -/
example : authorPrefix [⟨30000, p2pkhScript⟩, ⟨40000, p2trScript⟩, ⟨9, p2wpkhScript⟩] [⟨60000, p2pkhScript⟩] 2500 f4cs =
    .ok ⟨[⟨30000, p2pkhScript⟩, ⟨40000, p2trScript⟩], 70000, [⟨60000, p2pkhScript⟩, ⟨9293, p2wpkhScript⟩], some 1⟩ := by
  decide

example : Admissible [(Kind.p2pkh, 71), (Kind.p2tr, 64)] := by decide

/-- a genuine "insufficient funds" -/
example : authorPrefix [⟨50100, p2wpkhScript⟩] f5outs 1000 f4cs = .err .insufficient := by decide

/-! ### wallet-level change script size (op `wchange` of the `author` engine; cf. seeded/C07-6) -/

/-- class of the single input of an imported account of kind `k` -/
def acctInputKind (k : AcctKind) : Kind := if k.nestedInput then .nested else .p2wpkh

/-- The fee the wallet asks txauthor for, priced with the account's TRUE change script size
    (`Author.walletChangeFee`: the account's schema override wins over the scope default), is at least the requested
    rate applied to the real signed virtual size, for every admissible signature length, every output list and every
    change output whose script has the account's real change script length. -/
theorem C07_wallet_change_fee_lower (k : AcctKind) (rate : Int) (hr : 1000 ≤ rate) (outs : List TxOut) (chg : TxOut)
    (hchg : (chg.PkScript.len : Int) = k.changeSize) (sig : Int) (h8 : 8 ≤ sig) (h72 : sig ≤ 72) :
    SizesGen.FeeForSerializeSize rate (realVSize [(acctInputKind k, sig)] (outs ++ [chg])) ≤
      walletChangeFee k rate outs := by
  have hadm : Admissible [(acctInputKind k, sig)] := by
    intro x hx
    simp only [List.mem_singleton] at hx
    subst hx
    cases k <;> simp [acctInputKind, AcctKind.nestedInput, sigOK] <;> omega
  have hcs : 0 < k.changeSize := by cases k <;> decide
  -- `walletChangeFee` is `genCfg`'s priced estimate for the counts of this one input
  exact Int.le_trans (realFee_le_estFee true [(acctInputKind k, sig)] outs [chg] k.changeSize hadm hcs
    (Or.inr ⟨chg, rfl, by omega⟩) (Or.inl rfl) C07_gen_est C07_gen_fee hr) (Int.le_of_eq (by cases k <;> rfl))

-- the scope-default estimate (22 bytes) is too low for the traditional BIP-0049 account:
-- at rate 50000 the transaction would pay 8200 < 8250
set_option maxRecDepth 100000 in
example : SizesGen.FeeForSerializeSize 50000
      (SizesGen.EstimateVirtualSize 0 0 0 1 [⟨400000, p2wpkhScript⟩] 22) <
    walletChangeFee .imp49n 50000 [⟨400000, p2wpkhScript⟩] := by decide

set_option maxRecDepth 100000 in
example : walletChangeFee .imp49n 50000 [⟨400000, p2wpkhScript⟩] = 8250 := by decide

end C07
