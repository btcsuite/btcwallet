/-
C08 at the wallet level — "what the wallet says in memory is what a restart would say", for `wallet.Wallet`
requests (NewAddress, NewChangeAddress, CurrentAddress, CreateSimpleTx dry/real, FundPsbt, ImportAccountDryRun,
ImportAccount, RenameAccount, NextAccount, Lock/Unlock) on the `WalletRestart` model.  See notes/C08w.md.

After every history without a failed commit of ImportAccount / RenameAccount (`NoEagerCommitFail`) the account cache
is coherent with the database (`Coh`), so account-level queries and the next address of every branch are answered as
by a restarted wallet; dry-run and failing requests leave the database image alone.  Excluded, each with a
counter-example and its Go oracle key: AddressInfo / HaveAddress of an address handed out by a rolled-back
transaction (F9 at the wallet level), the account cache after a failed commit of ImportAccount / RenameAccount, and,
with `invalUnfixed`, the address cache and Unlock after ImportAccountDryRun.
-/
import BtcwVerif.Lemmas.WalletRestart
namespace WalletRestart

theorem Outcome.disk {dry e s r} (h : Outcome dry e s r) : r.1.disk = s.disk ∨ (dry = false ∧ r.2.isErr = false) := by
  cases h with
  | kept | stale => exact .inl rfl
  | issued _ _ _ _ _ hd | renamed _ _ _ _ hd | funded _ _ _ _ hd => exact .inr ⟨hd, rfl⟩
  | created _ _ _ hd hr => exact .inr ⟨hd, hr⟩

theorem step_disk (s : State) (op : Op) :
    (step s op).1.disk = s.disk ∨ (op.isDryRun = false ∧ (step s op).2.isErr = false) := by
  rcases step_cases s op with ho | ⟨⟨pr, o, n, rfl⟩ | ⟨a, b, c, d, rfl⟩, hp⟩ | rfl
  · exact ho.disk
  · exact hp.disk.imp_right (⟨rfl, ·⟩)
  · exact hp.disk.imp_right (⟨rfl, ·⟩)
  · exact .inl rfl

/-- **A dry-run request (CreateSimpleTx with dryRun, ImportAccountDryRun — succeeding or failing) never changes
the database image**, from any state. -/
theorem C08_wallet_dryrun_keeps_disk (s : State) (op : Op) (h : op.isDryRun = true) : (step s op).1.disk = s.disk :=
  (step_disk s op).resolve_right fun h' => by rw [h] at h'; cases h'.1

/-- **A request that fails (returns an error) never changes the database image** — insufficient funds, unknown
account, locked wallet, refused xpub, duplicate or empty name, too many addresses, a failing backend notification
inside CreateSimpleTx: whatever was written in the transaction is rolled back. -/
theorem C08_wallet_failed_keeps_disk (s : State) (op : Op) (h : (step s op).2.isErr = true) :
    (step s op).1.disk = s.disk :=
  (step_disk s op).resolve_right fun h' => by rw [h] at h'; cases h'.2

/-- histories in which no EAGER cache mutator (ImportAccount, RenameAccount) has its commit fail.  Failed commits of
NewAddress / NewChangeAddress / CreateSimpleTx, dry runs and every failing request ARE allowed. -/
def NoEagerCommitFail (ops : List Op) : Prop := ∀ op ∈ ops, op.eagerCommitFail = false

/-- For every history of wallet requests (dry runs, failing requests, failed commits of the address-issuing
requests and committed ones in any order) the account cache of the running wallet is coherent with the database:
every cached account equals its database row.

`_partial`: a failed COMMIT of ImportAccount / RenameAccount is excluded - there the invariant is false on the
current tree (`C08_wallet_counterexample_import_commit_failed`, `..._rename_commit_failed`; the wallet level of the
known "memory ahead of disk after rollback" family). -/
theorem C08_wallet_coherent_invariant_partial (ops : List Op) (hops : NoEagerCommitFail ops) :
    Coh (run init ops).disk (run init ops).mem :=
  run_invariant (P := fun s => Coh s.disk s.mem) (fun s op ho => step_coh s op (hops op ho)) init_coh

/-- **After every such history, every account-level query agrees with a restarted wallet**: AccountProperties
(name, xpub, key counts) of every account number of every scope, AccountNumber(name), AccountName(number) and the
address each branch would issue next are answered by the running wallet exactly as by a wallet freshly opened on
the same database.

`_partial`: (1) AddressInfo / HaveAddress are excluded — they are FALSE on the current tree for addresses handed out
by a rolled-back transaction (`C08_wallet_counterexample_dryrun_address_cache`); (2) `NoEagerCommitFail`. -/
theorem C08_wallet_committed_eq_reopen_partial (ops : List Op) (hops : NoEagerCommitFail ops) (q : Query)
    (hq : ∀ sc ad, q ≠ .addrInfo sc ad) :
    askRunning (run init ops) q = askRestarted (run init ops) q :=
  ask_of_coh _ _ (C08_wallet_coherent_invariant_partial ops hops) q hq

theorem ask_of_kept_disk {s : State} {op : Op} (hc : Coh s.disk s.mem) (he : op.eagerCommitFail = false)
    (hd : (step s op).1.disk = s.disk) (q : Query) (hq : ∀ sc ad, q ≠ .addrInfo sc ad) :
    askRunning (step s op).1 q = askRestarted s q := by
  unfold askRunning askRestarted
  rw [ask_of_coh _ _ (step_coh s op he hc) q hq, hd]

theorem not_eager_of_dryRun {op : Op} (h : op.isDryRun = true) : op.eagerCommitFail = false := by
  cases op <;> first | rfl | (cases h <;> rfl)

/-- **A dry run does not advance address indices.**  After a dry-run request (CreateSimpleTx with dryRun,
ImportAccountDryRun, succeeding OR failing) issued in any reachable state, the address the running wallet would
issue next on every (scope, account, branch) is the one a wallet restarted BEFORE the dry run would issue — which
(by `C08_wallet_dryrun_keeps_disk`) is also what a wallet restarted after it would issue.
`_partial`: reachable = after a `NoEagerCommitFail` history. -/
theorem C08_wallet_dryrun_keeps_next_partial (ops : List Op) (hops : NoEagerCommitFail ops) (op : Op)
    (h : op.isDryRun = true) (sc : Scope) (a : Acct) (internal : Bool) :
    askRunning (step (run init ops) op).1 (.next sc a internal) = askRestarted (run init ops) (.next sc a internal) :=
  ask_of_kept_disk (C08_wallet_coherent_invariant_partial ops hops) (not_eager_of_dryRun h)
    (C08_wallet_dryrun_keeps_disk _ op h) _ nofun

/-- **A failed commit does not advance address indices either.**  After NewAddress / NewChangeAddress /
CreateSimpleTx whose database commit FAILED (and after any other failing request that is not an eager mutator),
the next address of every branch is what a wallet restarted before (= after, `C08_wallet_failed_keeps_disk`) the
request would issue: the `OnCommit` closure that advances the in-memory index never ran. -/
theorem C08_wallet_failed_keeps_next_partial (ops : List Op) (hops : NoEagerCommitFail ops) (op : Op)
    (he : op.eagerCommitFail = false) (h : (step (run init ops) op).2.isErr = true) (sc : Scope) (a : Acct)
    (internal : Bool) :
    askRunning (step (run init ops) op).1 (.next sc a internal) = askRestarted (run init ops) (.next sc a internal) :=
  ask_of_kept_disk (C08_wallet_coherent_invariant_partial ops hops) he (C08_wallet_failed_keeps_disk _ op h) _ nofun

theorem issue_snd_congr (t : Tx) (m' : Mem) (sc a i)
    (hl : (loadAcct t.d m' sc a).1 = (loadAcct t.d t.m sc a).1) :
    (issue { t with m := m' } sc a i 1).2 = (issue t sc a i 1).2 := by
  unfold issue
  dsimp only
  rw [hl]
  cases (loadAcct t.d t.m sc a).1 with
  | none => rfl
  | some r => simp only [apply_ite Prod.snd, issueLoop]

theorem issue1_snd_congr {s s' : State} {t t' : Tx} {sc a i} (ab)
    (h : (issue t' sc a i 1).2 = (issue t sc a i 1).2) : (issue1 s' t' sc a i ab).2 = (issue1 s t sc a i ab).2 := by
  unfold issue1
  dsimp only
  rw [h]
  cases (issue t sc a i 1).2 with
  | error _ => rfl
  | ok l =>
    cases l with
    | nil => rfl
    | cons _ _ => cases ab <;> rfl

theorem stepNewAddr_snd_of_coh (s : State) (m' : Mem) (sc a i cf) (h : Coh s.disk s.mem) (h' : Coh s.disk m') :
    (stepNewAddr ⟨s.disk, m'⟩ sc a i cf).2 = (stepNewAddr s sc a i cf).2 :=
  issue1_snd_congr _ (issue_snd_congr (begin s) m' sc a i
    ((loadAcct_fst _ _ sc a h').trans (loadAcct_fst _ _ sc a h).symm))

/-- **The next committed request issues the very address a restarted wallet would issue**: after every history
(including dry runs and failed requests), NewAddress / NewChangeAddress on any (scope, account) returns on the
running wallet exactly what it returns on a wallet restarted on the same database.
`_partial`: every history = every `NoEagerCommitFail` history. -/
theorem C08_wallet_next_issue_eq_reopen_partial (ops : List Op) (hops : NoEagerCommitFail ops) (sc : Scope) (a : Acct)
    (internal : Bool) :
    (step (run init ops) (.newAddr sc a internal false)).2 =
      (step (reopen (run init ops)) (.newAddr sc a internal false)).2 :=
  have hc := C08_wallet_coherent_invariant_partial ops hops
  (stepNewAddr_snd_of_coh _ emptyMem sc a internal false hc (emptyMem_coh _ _ hc)).symm

theorem stepCurAddr_snd_of_coh (s : State) (m' : Mem) (sc a) (h : Coh s.disk s.mem) (h' : Coh s.disk m') :
    (stepCurAddr ⟨s.disk, m'⟩ sc a).2 = (stepCurAddr s sc a).2 := by
  have e1 := stepNewAddr_snd_of_coh { s with mem := (loadAcct s.disk s.mem sc a).2 } (loadAcct s.disk m' sc a).2
    sc a false false (loadAcct_coh _ _ sc a h) (loadAcct_coh _ _ sc a h')
  unfold stepCurAddr
  simp only [loadAcct_fst _ _ sc a h, loadAcct_fst _ _ sc a h']
  cases s.disk.rows sc a with
  | none => rfl
  | some r => simp only [apply_ite Prod.snd, e1]

/-- the same for CurrentAddress (which re-issues only when the last address is used) -/
theorem C08_wallet_current_address_eq_reopen_partial (ops : List Op) (hops : NoEagerCommitFail ops) (sc : Scope)
    (a : Acct) :
    (step (run init ops) (.curAddr sc a)).2 = (step (reopen (run init ops)) (.curAddr sc a)).2 :=
  have hc := C08_wallet_coherent_invariant_partial ops hops
  (stepCurAddr_snd_of_coh _ emptyMem sc a hc (emptyMem_coh _ _ hc)).symm

/-- **No phantom accounts**: after every history (in particular after a FAILING ImportAccountDryRun) nothing is
cached for an account number the database does not have, so the next committed ImportAccount / NextAccount that
receives the number is answered from its own row (cf. seeded/C08-3). -/
theorem C08_wallet_no_phantom_account_partial (ops : List Op) (hops : NoEagerCommitFail ops) (sc : Scope) (a : Acct)
    (h : (run init ops).disk.rows sc a = none) : (run init ops).mem.accts sc a = none := by
  have hc := C08_wallet_coherent_invariant_partial ops hops
  cases hm : (run init ops).mem.accts sc a with
  | none => rfl
  | some r => rw [hc.cache sc a r hm] at h; cases h

/-- F9 at the wallet level: the change address of a dry-run CreateSimpleTx stays in the address cache; the running
wallet knows it (AddressInfo / HaveAddress), a restarted wallet does not.
Go oracle key `CreateSimpleTxDryRun.address-cache-not-reverted`; replay `fund sc=wpkh a=0; createtx .. dry=1; cmp`. -/
theorem C08_wallet_counterexample_dryrun_address_cache :
    let s := run init [.fund 1 0, .createTx 1 0 true false false false]
    askRunning s (.addrInfo 1 ⟨100, true, 0⟩) = .num 0 ∧ askRestarted s (.addrInfo 1 ⟨100, true, 0⟩) = .none := by
  decide

/-- BEFORE the fix of `InvalidateAccountCache` (repo-patches/fix-C08-invalidate-account-cache-derive-on-unlock.diff)
the preview addresses of ImportAccountDryRun stayed in the address cache
(`ImportAccountDryRun.address-cache-not-reverted`) ... -/
theorem C08_wallet_counterexample_unfixed_importdry_address_cache :
    let s := (stepImportWith invalUnfixed init true 1 2 1 1).1
    askRunning s (.addrInfo 1 ⟨1, false, 0⟩) = .num 1 ∧ askRestarted s (.addrInfo 1 ⟨1, false, 0⟩) = .none := by
  decide

/-- ... and the dry-run account stayed registered for derive-on-unlock: after Lock, Unlock with the right
passphrase failed on the running wallet and succeeded on a restarted one
(`ImportAccountDryRun.unlock-fails-unlike-restart`; replay `importdry ..; lock; unlock` on the unfixed tree). -/
theorem C08_wallet_counterexample_unfixed_dryrun_unlock :
    let s := (step (stepImportWith invalUnfixed init true 1 2 2 1).1 .lock).1
    (step s .unlock).2 = .err .acctNotFound ∧ (step (reopen s) .unlock).2 = .ok := by
  decide

/-- with the fixed `InvalidateAccountCache` (the model's `inval`) both are gone on the same inputs -/
example :
    let s := run init [.importAcct true 1 2 1 1 false, .lock]
    askRunning s (.addrInfo 1 ⟨1, false, 0⟩) = .none ∧ (step s .unlock).2 = .ok := by
  decide

/-- the wallet level of the known "memory ahead of disk after rollback" family: when the COMMIT of ImportAccount
fails, the account that `AccountProperties` loaded from the transaction's view stays cached — the running wallet
describes an account a restarted wallet does not have, and a later import of ANOTHER xpub that gets the number is
answered (and issues addresses) from the stale key.
Go oracle key `ImportAccount.commit-failed.account-cache-not-reverted`; replay `import sc=wpkh name=2 key=1 cf=1; cmp`. -/
theorem C08_wallet_counterexample_import_commit_failed :
    let s := run init [.importAcct false 1 2 1 0 true]
    askRunning s (.props 1 1) = .row ⟨2, 1, 0, 0⟩ ∧ askRestarted s (.props 1 1) = .none ∧
    (let s2 := run s [.importAcct false 1 3 4 0 false]
     (step s2 (.newAddr 1 1 false false)).2 = .addr ⟨1, false, 0⟩ ∧
     (step (reopen s2) (.newAddr 1 1 false false)).2 = .addr ⟨4, false, 0⟩) := by
  decide

/-- ... and when the COMMIT of RenameAccount fails the cached name stays renamed.
Go oracle key `RenameAccount.commit-failed.account-name-differs`; replay `rename sc=wpkh a=0 name=3 cf=1; cmp`. -/
theorem C08_wallet_counterexample_rename_commit_failed :
    let s := run init [.rename 1 0 3 true]
    askRunning s (.props 1 0) = .row ⟨3, 100, 0, 0⟩ ∧ askRestarted s (.props 1 0) = .row ⟨1, 100, 0, 0⟩ := by
  decide

/-- F9 through a failed commit: the address NewAddress issued inside the transaction whose commit failed stays in
the address cache (`NewAddress.commit-failed.address-cache-not-reverted`; likewise NewChangeAddress, CreateSimpleTx) -/
theorem C08_wallet_counterexample_commit_failed_address_cache :
    let s := run init [.newAddr 1 0 false true]
    askRunning s (.addrInfo 1 ⟨100, false, 0⟩) = .num 0 ∧ askRestarted s (.addrInfo 1 ⟨100, false, 0⟩) = .none := by
  decide

/-- a failed commit of NewAddress / CreateSimpleTx, by contrast, leaves the indices alone: the next request issues
the same address again, as a restarted wallet does (cf. seeded/C08-5) -/
example :
    let s := run init [.newAddr 1 0 false true]
    (step (run init []) (.newAddr 1 0 false true)).2 = .err .commitFail ∧
    askRunning s (.props 1 0) = .row ⟨1, 100, 0, 0⟩ ∧
    (step s (.newAddr 1 0 false false)).2 = .addr ⟨100, false, 0⟩ := by
  decide

/-- ... while the dry run + the real import of the same xpub behaves: same account number, same first address as a
restarted wallet (non-vacuity of the theorems above on the property's own example). -/
example :
    let s := run init [.importAcct true 1 2 1 2 false, .importAcct false 1 2 1 0 false]
    (step s (.newAddr 1 1 false false)).2 = .addr ⟨1, false, 0⟩ ∧
    askRunning s (.props 1 1) = .row ⟨2, 1, 0, 0⟩ ∧ askRestarted s (.props 1 1) = .row ⟨2, 1, 0, 0⟩ := by
  decide

/-- a failing dry run (too many preview addresses) followed by the import of ANOTHER xpub: the running wallet
answers with the imported xpub (cf. seeded/C08-3) -/
example :
    let s := run init [.importAcct true 1 2 2 2147483648 false, .importAcct false 1 3 4 0 false]
    askRunning s (.props 1 1) = .row ⟨3, 4, 0, 0⟩ ∧ (step s (.newAddr 1 1 false false)).2 = .addr ⟨4, false, 0⟩ := by
  decide

end WalletRestart
