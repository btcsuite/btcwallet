import BtcwVerif.Model.Recovery
import BtcwVerif.Lemmas.RecoveryDefs
-- engine: walletchain-recovery
import Driver.Proto
open Proto Recovery

namespace EngRecovery

structure St where
  br      : Branch := Branch.new 0                 -- (a) single BranchRecoveryState under test
  scopes  : List Nat := []
  blocks  : List (Nat × Block) := []               -- (b) best chain above genesis: (height, block)
  done    : Nat := 0                                -- number of blocks already scanned by the wallet
  rs      : Option State := none                    -- wallet-side recovery/persistent state
  batch   : Nat := 2000
  mem     : List Tx := []                           -- unmined transactions handed to the wallet (rmempool), for `m<id>`
  hyp     : Bool := true    -- the hypotheses of C16_complete / C16_complete_resumed held for every scan so far
  tainted : Bool := false   -- an injected FilterBlocks failure fired: in-process retry is outside the model (finding)
  stopped : Bool := false   -- the wallet was stopped mid-recovery (`how=stop`, `halt=1`) and is not loaded
  mainnet : Bool := false   -- `rinit net=main`: production-network parameters (syncWithChain waits for the backend first)
  inited  : Bool := false

def noInvalid : BranchId → List Nat := fun _ => []

def natOf (toks : List String) (k : String) : Option Nat := (kv toks k).bind String.toNat?

def sortNat (l : List Nat) : List Nat := l.mergeSort (· ≤ ·)

def showBranch (b : Branch) : String :=
  s!"nu={b.nextUnfound} ninv={b.numInvalidInHorizon} addrs={joinWith "," ((sortNat b.addrs).map toString)}"

def splitOn1 (s : String) (sep : String) : List String := if s.isEmpty then [] else s.splitOn sep

/-- in = `e` (external) | `<txid>.<idx>` -/
def parseIn (s : String) : Option (Option OutPoint) :=
  if s == "e" then some none else
  match s.splitOn "." with
  | [a, b] => do let a ← a.toNat?; let b ← b.toNat?; pure (some (a, b))
  | _ => none

/-- out = `x.<amt>` | `<scope>.<0|1>.<idx>.<amt>` -/
def parseOut (s : String) : Option TxOut :=
  match s.splitOn "." with
  | ["x", a] => a.toNat?.map (⟨none, ·⟩)
  | [sc, b, i, a] => do
    let sc ← sc.toNat?; let b ← b.toNat?; let i ← i.toNat?; let a ← a.toNat?
    pure ⟨some ⟨sc, b == 1, i⟩, a⟩
  | _ => none

/-- tx = `<id>:<in>+<in>:<out>+<out>` -/
def parseTx (s : String) : Option Tx :=
  match s.splitOn ":" with
  | [id, ins, outs] => do
    let id ← id.toNat?
    let ins ← (splitOn1 ins "+").mapM parseIn
    let outs ← (splitOn1 outs "+").mapM parseOut
    pure ⟨id, ins.filterMap (fun x => x), outs⟩
  | _ => none

def lexKey (a b : Key) : Bool :=
  a.scope < b.scope || (a.scope == b.scope && ((!a.internal && b.internal) || (a.internal == b.internal && a.index ≤ b.index)))

def showState (s : St) (st : State) : String :=
  let nexts := s.scopes.map fun sc => s!"{sc}:{st.nextOf (sc, false)}/{st.nextOf (sc, true)}"
  let used := (st.used.mergeSort lexKey).map fun k => s!"{k.scope}.{if k.internal then 1 else 0}.{k.index}"
  let utxo := ((spendable st).mergeSort (fun a b => a.op.1 < b.op.1 || (a.op.1 == b.op.1 && a.op.2 ≤ b.op.2))).map
    fun c => s!"{c.op.1}.{c.op.2}:{c.amount}"
  let txs := (st.txs.mergeSort (fun a b => a.1 ≤ b.1)).map fun p => s!"{p.1}@{p.2}"
  s!"next={joinWith "," nexts} used={joinWith "," used} bal={balance st} utxo={joinWith "," utxo} txs={joinWith "," txs}"

/-- persistent part, for the "result does not depend on where the run was interrupted" self-check -/
def persistEq (s : St) (a b : State) : Bool := showState s a == showState s b

/-- `rrecover` / `rrestart`: one start-up sync of the wallet whose database holds `b0` (window already set) over the
    blocks above `s.done`.  `fresh` = the wallet was just created (birthday block not verified: an in-process retry of
    `syncWithChain` locates the birthday block again, resets the sync point to it and re-scans from there; a
    restarted wallet retries from its sync point).  Interruption options (same validation as the Go runner):
    `lockat=<height> how=lock|timeout|stop`, `failat=<n> halt=1`. -/
def syncOp (s : St) (fresh : Bool) (b0 : State) (w : Nat) (rest : List String) : St × String :=
  let failat := (natOf rest "failat").getD 0
  let lockat := (natOf rest "lockat").getD 0
  let how := kv rest "how"
  let halt := kv rest "halt"
  let tip := s.blocks.length
  let okHalt := match halt with
    | none => true
    | some h => h == "1" && failat != 0
  let okLock :=
    if lockat == 0 then how.isNone
    else failat == 0 && (how == some "lock" || how == some "timeout" || (how == some "stop" && s.done < lockat && lockat < tip))
  if !(okHalt && okLock) then (s, "bad-op") else
  let new := s.blocks.drop s.done
  let run := fun (start : State) (blks : List (Nat × Block)) (cuts : Nat → Bool) =>
    recoverChain noInvalid s.batch (blks.length + 1) (resurrect noInvalid start) blks cuts 0
  -- the theorems' hypotheses for the blocks `s.done+1 .. upTo` scanned with window `w`
  let hypUpTo := fun (upTo : Nat) =>
    if upTo == s.done then s.hyp else
    let c := s.blocks.take upTo
    if fresh then checkWF s.scopes noInvalid c && checkLA w s.scopes c
    else s.hyp && checkWF s.scopes noInvalid c && checkLAFrom w s.scopes s.done c
  -- `strict`: the persistent result must not depend on where the run was cut (self check of the model).  Not demanded
  -- of a re-scan of committed blocks outside the theorems' hypotheses (a payment beyond the window missed by the first
  -- pass is found by the second, but `addRelevantTx` skips the already recorded transaction: the output is watched in
  -- memory only, so a Resurrect in between makes a difference — the real wallet agrees with the uncut model run)
  let finish := fun (strict : Bool) (st st' : State) =>
    if !strict || persistEq s st st' then
      let hyp := hypUpTo tip
      ({ s with rs := some st, done := tip, hyp := hyp, stopped := false }, showState s st ++ s!" hyp={if hyp then 1 else 0}")
    else (s, "model-cuts-differ")
  if s.done < lockat && lockat < tip then
    -- the quit flag is seen before block lockat+1 is fetched: the batches completed by then are on disk
    let n := committedAt s.batch (lockat - s.done)
    let st1 := recoverInterrupted noInvalid s.batch (resurrect noInvalid b0) new (fun _ => false) (lockat - s.done)
    let st1' := recoverInterrupted noInvalid s.batch (resurrect noInvalid b0) new (fun _ => true) (lockat - s.done)
    if how == some "stop" then
      ({ s with rs := some st1, done := s.done + n, hyp := hypUpTo (s.done + n), stopped := true }, "interrupted-and-stopped")
    else
      -- lock / unlock timeout: syncWithChain fails, waitForSync retries it in-process (Resurrect from the database)
      let again := if fresh then s.blocks else new.drop n
      finish (!(fresh && n > 0) || hypUpTo tip) (run st1 again (fun _ => false)) (run st1' again (fun _ => true))
  else
  match (if halt.isSome then recoverChainFail noInvalid s.batch (b0.calls + failat) (new.length + 1) (resurrect noInvalid b0) new 0 else none) with
  | some (st1, n) =>
    -- the failing batch is rolled back, the wallet is stopped before any in-process retry
    ({ s with rs := some st1, done := s.done + n, hyp := hypUpTo (s.done + n), stopped := true }, "failed-and-stopped")
  | none =>
    let st := run b0 new (fun _ => false)
    if failat != 0 && failat ≤ st.calls - b0.calls then ({ s with tainted := true }, "retried-after-failure")
    else finish true st (run b0 new (fun _ => true))

def step (s : St) (line : String) : St × String :=
  let t := words line
  if s.tainted && t.head? != some "rinit" && (t.head?.map (·.startsWith "r")).getD false then (s, "tainted") else
  match t with
  | "bnew" :: rest =>
    match natOf rest "w" with
    | some w => ({ s with br := Branch.new w }, "ok")
    | none => (s, "bad-op")
  | ["bext"] =>
    let ((h, d), b) := s.br.extendHorizon
    ({ s with br := b }, s!"h={h} d={d}")
  | "badd" :: rest =>
    match natOf rest "i" with
    | some i => ({ s with br := s.br.addAddr i }, "ok")
    | none => (s, "bad-op")
  | "binv" :: rest =>
    match natOf rest "i" with
    | some i => ({ s with br := s.br.markInvalid i }, "ok")
    | none => (s, "bad-op")
  | "bfound" :: rest =>
    match natOf rest "i" with
    | some i => ({ s with br := s.br.reportFound i }, "ok")
    | none => (s, "bad-op")
  | "bexpand" :: rest =>
    match (kv rest "inv").bind natList? with
    | some inv =>
      let b := expand inv s.br
      ({ s with br := b }, showBranch b)
    | none => (s, "bad-op")
  | ["bst"] => (s, showBranch s.br)
  | "rinit" :: rest =>
    match (kv rest "scopes").bind natList?, natOf rest "batch" with
    | some scopes, some batch =>
      match kv rest "net" with
      | some n =>
        if n != "main" && n != "sim" then (s, "bad-op") else
        ({ s with scopes := scopes, blocks := [], done := 0, rs := none, batch := batch, tainted := false, hyp := true, mem := [], stopped := false, mainnet := n == "main", inited := true }, "ok")
      | none => ({ s with scopes := scopes, blocks := [], done := 0, rs := none, batch := batch, tainted := false, hyp := true, mem := [], stopped := false, mainnet := false, inited := true }, "ok")
    | _, _ => (s, "bad-op")
  | "rnotcurrent" :: rest =>
    -- the backend is still in initial block download when the wallet next connects (serves heights ≤ until, IsCurrent
    -- false, then catches up).  On a production network `syncWithChain` waits until the backend is current BEFORE the
    -- birthday search, the rollback check and `recovery()`: the start-up sync then runs against the whole chain, i.e.
    -- the op changes nothing in the model
    match natOf rest "until" with
    | some h => if s.inited && s.mainnet && h ≤ s.blocks.length then (s, "ok") else (s, "bad-op")
    | none => (s, "bad-op")
  | "rblk" :: rest =>
    -- `m<id>` = the unmined transaction <id> handed to the wallet earlier (rmempool) is mined in this block
    let parse1 := fun (x : String) =>
      if x.startsWith "m" then (x.drop 1).toNat?.bind (fun id => s.mem.find? (fun t => t.id == id)) else parseTx x
    match (kv rest "txs").map (fun x => (splitOn1 x ";").mapM parse1) with
    | some (some txs) => ({ s with blocks := s.blocks ++ [(s.blocks.length + 1, txs)] }, "ok")
    | _ => (s, "bad-op")
  | "rlease" :: rest | "rrelease" :: rest =>
    let knownTx := fun (id : Nat) => (s.blocks.any (fun hb => hb.2.any (fun t => t.id == id))) || s.mem.any (fun t => t.id == id)
    match (if s.stopped then none else s.rs), (kv rest "op").map (fun x => x.splitOn ".") with
    | some st, some [a, b] =>
      match a.toNat?, b.toNat? with
      | some a, some b =>
        if !knownTx a then (s, "bad-op") else
        if t.head? == some "rlease" then
          match leaseOutput st (a, b) with
          | some st' => ({ s with rs := some st' }, "ok")
          | none => (s, "err lease")
        else
          match releaseOutput st (a, b) with
          | some st' => ({ s with rs := some st' }, showState s st')
          | none => (s, "err release")
      | _, _ => (s, "bad-op")
    | _, _ => (s, "bad-op")
  | "rmempool" :: rest =>
    match (if s.stopped then none else s.rs), (kv rest "tx").bind parseTx with
    | some st, some tx =>
      if tx.outs.any (fun o => o.key.isSome) then (s, "bad-op") else
      let st' := addUnmined st tx
      ({ s with rs := some st', mem := s.mem ++ [tx] }, showState s st')
    | _, _ => (s, "bad-op")
  | "rrecover" :: rest =>
    match natOf rest "w" with
    | some w =>
      if s.rs.isSome then (s, "bad-op") else
      syncOp s true (State.init w s.scopes) w rest
    | none => (s, "bad-op")
  | "rrestart" :: rest =>
    match natOf rest "w", s.rs with
    | some w, some st0 => syncOp s false { st0 with window := w } w rest
    | _, _ => (s, "bad-op")
  | ["rstate"] =>
    match (if s.stopped then none else s.rs) with
    | some st => (s, showState s st)
    | none => (s, "bad-op")
  | "bday" :: rest =>
    match natOf rest "best", (kv rest "ts").bind (fun x => (csv x).mapM String.toInt?), (kv rest "b").bind String.toInt?, (kv rest "delta").bind String.toInt?, (kv rest "g").bind String.toInt? with
    | some best, some ts, some b, some delta, some g =>
      if ts.length != best then (s, "bad-op") else
      let f : Nat → Int := fun h => if h = 0 then g else ts.getD (h - 1) 0
      match locateBirthdayBlock f b delta best with
      | some r => (s, s!"r={r}")
      | none => (s, "r=none")
    | _, _, _, _, _ => (s, "bad-op")
  | _ => (s, "bad-op")

def run (i o : IO.FS.Stream) : IO Unit := loop i o ({} : St) step

end EngRecovery
